import AdbModel.FileSync
/-
  Executable SPECIFICATION functions, used by the driver as oracles on the IMPLEMENTATION's observed
  runs ("the property, evaluated by Lean on what the real code did").  They are the reference
  semantics the theorems are stated against: `AdbProofs/Properties/C01Spec.lean`, `C08Spec.lean` and `C07Spec.lean` prove them equal to
  the functions used in the theorem statements (`E2E.streamItems`, `SR.parse`, `Push.chunksOf`).
-/
namespace Adb
namespace Spec

/-- `args_match(…, allow_zeros=True)` for the stream `(l, r)` -/
def mine (l r : Nat) (p : Pkt) : Bool := (p.arg1 == 0 || p.arg1 == l) && (p.arg0 == 0 || p.arg0 == r)

/-- payloads of this stream's WRTEs up to its first CLSE, and the packets after that CLSE -/
def closeItems (l r : Nat) : List Pkt → Option (List Bytes × List Pkt)
  | [] => none
  | p :: ps =>
    if mine l r p && p.cmd == .CLSE then some ([], ps)
    else match closeItems l r ps with
      | none => none
      | some (ds, rest) => some (if mine l r p && p.cmd == .WRTE then p.data :: ds else ds, rest)

/-- C01: what a shell/exec_out/streaming_shell with new local id `l` must return, given the packets the device sent -/
def streamItems (l : Nat) : List Pkt → Option (List Bytes × List Pkt)
  | [] => none
  | p :: ps => if p.arg1 == l && p.cmd == .OKAY then closeItems l p.arg0 ps else streamItems l ps

inductive Parsed where
  | more
  | badId (word : Nat)
  | record (r : SyncRec) (rest : Bytes)
  deriving DecidableEq, Repr

/-- one FileSync record of receive format `fmt` at the head of `bs` -/
def parse (fmt : SyncFmt) (bs : Bytes) : Parsed :=
  if bs.length < fmt.size then .more
  else
    let header := unpackWords (fmt.size / 4) (bs.take fmt.size)
    let body := bs.drop fmt.size
    match SyncId.ofWire? (header.headD 0) with
    | none => .badId (header.headD 0)
    | some cid =>
      if cid = SyncId.STAT then .record ⟨cid, header.drop 1, none⟩ body
      else if body.length < header.getLastD 0 then .more
      else .record ⟨cid, (header.drop 1).dropLast, some (body.take (header.getLastD 0))⟩ (body.drop (header.getLastD 0))

/-- C08/C09: the records of the reassembled reply up to and including the first one whose id is in `stop` -/
def records (fmt : SyncFmt) (stop : List SyncId) : Nat → Bytes → List SyncRec
  | 0, _ => []
  | fuel + 1, bs =>
    match parse fmt bs with
    | .record r rest => if stop.contains r.id then [r] else r :: records fmt stop fuel rest
    | _ => []

/-- C07: the DATA chunks of a push -/
def chunksOfAux (k : Nat) : Nat → Bytes → List Bytes
  | 0, _ => []
  | fuel + 1, content =>
    if (content.take k).isEmpty then [] else content.take k :: chunksOfAux k fuel (content.drop k)

def chunksOf (k : Nat) (content : Bytes) : List Bytes := chunksOfAux k content.length content

end Spec
end Adb
