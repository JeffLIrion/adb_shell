import AdbProofs.Lemmas.FrameOps
import AdbProofs.Lemmas.Transport
import AdbProofs.Lemmas.Blocks
import AdbProofs.Lemmas.TxnLemmas
/-
  `AdbDevice.close` / `connect` and the guard prefix of the stream operations as equations on the world:
  what `close()` and the first steps of `connect()` leave behind on an idle object, how the outcome of
  `connect()` is read off that of `_AdbIOManager.connect`, what the guards return, and from these what one
  call does to the lock set and to `available`.
-/
namespace Adb
namespace Reset

/-- the world after `transport.close()` + `clear_all()` -/
def closed (w : World) : World := { closed0 w with store := [] }

theorem devClose_run (w : World) (h : w.locks = []) :
    devClose w = (.ok .none, closed { w with available := false }) := by
  rcases w with ⟨_, _ | _⟩ <;> cases h <;> rfl

theorem ioConnect_run (banner : Bytes) (keys : List Nat) (authT : Timeout) (cb : Bool) (t : Txn) (w : World)
    (h : w.locks = []) :
    ioConnect banner keys authT cb t w =
      Prod.map id (fun v => { v with locks := v.locks.erase lockTransport })
        ((tConnect t.tt >>= fun _ => connTail banner keys authT cb t) (closed { w with locks := [lockTransport] })) := by
  rw [ioConnect_eq, withLock_run, h, if_neg List.not_mem_nil, bind_run_ok (tClose_run _),
    bind_run_ok (clearAll_run _ (show lockStore ∉ [lockTransport] by decide))]
  rfl

theorem devConnect_run_ok (keys : List Nat) (tt authT rt : Timeout) (cb : Bool) (w : World) (t : Txn) (b : Bytes)
    (hm : Txn.make none none (if tt.isSome = true then tt else w.defaultTT) rt none = .ok t) (hb : w.banner = b) :
    devConnect keys tt authT rt cb w =
      match ioConnect b keys authT cb t { w with available := false } with
      | (.ok md, w') => (.ok (.bool true), { w' with available := true, maxdata := md })
      | (.error e, w') => (.error e, w') := by
  subst hb
  unfold devConnect
  simp only [bind_run, getTT, liftExcept_run, hm, M.modify_run, M.get_run]
  cases ioConnect w.banner keys authT cb t { w with available := false } with
  | mk r w' => cases r <;> rfl

theorem devConnect_run_err (keys : List Nat) (tt authT rt : Timeout) (cb : Bool) (w : World) (e : Err)
    (hm : Txn.make none none (if tt.isSome = true then tt else w.defaultTT) rt none = .error e) :
    devConnect keys tt authT rt cb w = (.error e, w) := by
  unfold devConnect
  simp only [bind_run, getTT, liftExcept_run, hm]

end Reset

theorem devConnect_cases (keys : List Nat) (tt authT rt : Timeout) (cb : Bool) (w : World) (t : Txn)
    (hm : Txn.make none none (if tt.isSome = true then tt else w.defaultTT) rt none = .ok t) :
    (∃ md v, Frame { w with available := false } v ∧
      devConnect keys tt authT rt cb w = (.ok (.bool true), { v with available := true, maxdata := md })) ∨
    (∃ e v, Frame { w with available := false } v ∧ devConnect keys tt authT rt cb w = (.error e, v)) := by
  have h := Fr_ioConnect w.banner keys authT cb t { w with available := false }
  rw [Reset.devConnect_run_ok keys tt authT rt cb w t w.banner hm rfl]
  cases hc : ioConnect w.banner keys authT cb t { w with available := false } with
  | mk r v =>
    rw [hc] at h
    cases r with
    | ok md => exact .inl ⟨md, v, h, rfl⟩
    | error e => exact .inr ⟨e, v, h, rfl⟩

theorem devConnect_locks (keys : List Nat) (tt authT rt : Timeout) (cb : Bool) (w : World) :
    (devConnect keys tt authT rt cb w).2.locks = w.locks := by
  cases hm : Txn.make none none (if tt.isSome = true then tt else w.defaultTT) rt none with
  | error e => rw [Reset.devConnect_run_err keys tt authT rt cb w e hm]
  | ok t =>
    obtain ⟨md, v, hf, e⟩ | ⟨e', v, hf, e⟩ := devConnect_cases keys tt authT rt cb w t hm
    · rw [e]
      exact hf.locks
    · rw [e]
      exact hf.locks

/-- `close()` first marks the object unavailable; the rest respects the frame -/
theorem devClose_frame (w : World) : Frame { w with available := false } (devClose w).2 := by
  unfold devClose
  simp only [bind_run, M.modify_run]
  have h := Fr_ioClose { w with available := false }
  split <;> next hc => rw [hc] at h; exact h

theorem runGuards_avail_false (w : World) (h : w.available = false) :
    runGuards ["avail"] none w = (.error .adbConnection, w) := by
  simp [runGuards, runGuard, bind_run, h]

theorem runGuards_path_avail_false (w : World) (p : Bytes) (hp : p ≠ []) (h : w.available = false) :
    runGuards ["path", "avail"] (some p) w = (.error .adbConnection, w) := by
  simp [runGuards, runGuard, bind_run, h, hp]

theorem runGuards_path_empty (w : World) :
    runGuards ["path", "avail"] (some []) w = (.error .devicePathInvalid, w) := by
  simp [runGuards, runGuard, bind_run]

theorem streamOp_guards (op : ApiOp) (hs : op.isStreamOp = true) :
    ∃ rest : Unit → M Val,
      op.run = runGuards (if op.devicePath.isSome then ["path", "avail"] else ["avail"]) op.devicePath >>= rest := by
  cases op with
  | connect => cases hs
  | close => cases hs
  | _ => exact ⟨_, rfl⟩

theorem streamOp_frame (op : ApiOp) (hs : op.isStreamOp = true) : Fr op.run :=
  Pres_streamOp Frame.wrel Frame.admits Frame.alloc Frame.sink op hs

theorem specAvailable_cons (a : Bool) (op : ApiOp) (r : Except Err Val) (rest : List (ApiOp × Except Err Val)) :
    specAvailable a ((op, r) :: rest) = specAvailable (specAvailable a [(op, r)]) rest := by
  cases op <;> rfl

theorem available_step (op : ApiOp) (w : World)
    (hrt : ∀ keys tt authT rt cb, op = .connect keys tt authT rt cb → rt ≠ none) :
    (op.run w).2.available = specAvailable w.available [(op, (op.run w).1)] := by
  cases op with
  | connect keys tt authT rt cb =>
    obtain ⟨r, rfl⟩ := Option.ne_none_iff_exists'.mp (hrt keys tt authT rt cb rfl)
    obtain ⟨t, ht⟩ := Txn.make_ok none none (if tt.isSome = true then tt else w.defaultTT) r
    show (devConnect keys tt authT (some r) cb w).2.available =
      specAvailable w.available [(_, (devConnect keys tt authT (some r) cb w).1)]
    obtain ⟨md, v, -, e⟩ | ⟨e', v, hf, e⟩ := devConnect_cases keys tt authT (some r) cb w t ht
    · rw [e]
      rfl
    · rw [e]
      exact hf.available
  | close => exact (devClose_frame w).available
  | _ => exact (streamOp_frame _ rfl w).available

end Adb
