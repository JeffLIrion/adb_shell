import AdbProofs.Lemmas.FragWire
import AdbProofs.Lemmas.Blocks
/-
  Lifting of the base case (`Frag.Ins_readBytes`) to every model function, bottom-up, by plain relational
  composition (the `fins` tactic).  Every function that reads from the
  transport carries the hypothesis that the transaction's read timeout is numeric and non-negative (`RtOk`).
  `pull` is handled in its hang-strict form `devPullS` (see `Frag.tryFinallyS`).
-/
namespace Adb.Frag
open Adb

/-- `fins [e₁, …]` proves `Ins (do-block)` by following the structure of the block (`>>=`, `if`, `match`,
    `withLock`, `M.get`, `M.modify`); the calls in it are closed by the given `Ins` facts `eᵢ`.  Each step acts
    on one goal and is never undone. -/
syntax "fins" "[" term,* "]" : tactic
macro_rules
  | `(tactic| fins [$es,*]) => `(tactic| repeat' first
    | ((with_reducible refine Ins_get_bind (fun _ _ _ _ => ?_) (fun _ => ?_)); rfl)
    | with_reducible refine Ins_bind ?_ (fun _ => ?_)
    | with_reducible exact Ins_pure _
    | with_reducible exact Ins_throw _
    | with_reducible apply Ins_ite
    | first $[| with_reducible exact $es]*
    | with_reducible exact Ins_emit _ rfl
    | with_reducible exact Ins_elapsedGt _ _
    | with_reducible exact Ins_now
    | with_reducible apply Ins_withLock
    | ((with_reducible refine Ins_modify (fun _ _ _ _ => ?_)); rfl)
    | split)

/-! ### `_AdbIOManager`, bottom-up -/

theorem Ins_readPacket (t : Txn) (h : RtOk t.rt) : Ins (readPacket t) := by
  unfold readPacket
  fins [Ins_readBytes _ _ h]

theorem Ins_writeAllLoop (t : Txn) (start : Int) : ∀ fuel data, Ins (writeAllLoop t start fuel data) := by
  intro fuel
  induction fuel with
  | zero => intro data; exact Ins_throw _
  | succ f ih =>
    intro data
    unfold writeAllLoop
    fins [ih _, Ins_bulkWrite _ _]

theorem Ins_writeAll (d : Bytes) (t : Txn) : Ins (writeAll d t) := by
  unfold writeAll
  fins [Ins_writeAllLoop _ _ _ _]

theorem Ins_sendRaw (msg : Msg) (t : Txn) : Ins (sendRaw msg t) := by
  unfold sendRaw
  fins [Ins_writeAll _ _]

theorem Ins_ioSend (msg : Msg) (t : Txn) : Ins (ioSend msg t) :=
  Ins_withLock _ (Ins_sendRaw msg t)

theorem Ins_expectLoop (ex : List Cmd) (t : Txn) (h : RtOk t.rt) (start : Int) :
    ∀ fuel, Ins (expectLoop ex t start fuel) := by
  intro fuel
  induction fuel with
  | zero => exact Ins_throw _
  | succ f ih =>
    unfold expectLoop
    fins [ih, Ins_readPacket _ h]

theorem Ins_expectPacket (ex : List Cmd) (t : Txn) (h : RtOk t.rt) : Ins (expectPacket ex t) := by
  unfold expectPacket
  fins [Ins_expectLoop _ _ h _ _]

theorem Ins_storeFind (t : Txn) (az : Bool) : Ins (storeFind t az) := Ins_of_silent fun _ _ _ _ => rfl

theorem Ins_storeGet (k : Nat × Nat) : Ins (storeGet k) := by
  apply Ins_of_silent
  intro w c cs tr
  unfold storeGet
  dsimp only
  split <;> rfl

theorem Ins_storeClear (a0 a1 : Nat) : Ins (storeClear a0 a1) := Ins_modify fun _ _ _ _ => rfl

theorem Ins_storeClearAll : Ins storeClearAll := Ins_modify fun _ _ _ _ => rfl

theorem Ins_drainLoop (ex : List Cmd) (t : Txn) (az : Bool) : ∀ fuel, Ins (drainLoop ex t az fuel) := by
  intro fuel
  induction fuel with
  | zero => exact Ins_throw _
  | succ f ih =>
    unfold drainLoop
    fins [ih, Ins_storeFind _ _, Ins_storeGet _]

theorem Ins_readIter (ex : List Cmd) (t : Txn) (h : RtOk t.rt) (az : Bool) : Ins (readIter ex t az) := by
  unfold readIter
  fins [Ins_drainLoop _ _ _ _, Ins_readPacket _ h, Ins_storePut _, Ins_storeClear _ _]

theorem Ins_readLoop (ex : List Cmd) (t : Txn) (h : RtOk t.rt) (az : Bool) (start : Int) :
    ∀ fuel, Ins (readLoop ex t az start fuel) := by
  intro fuel
  induction fuel with
  | zero => exact Ins_throw _
  | succ f ih =>
    unfold readLoop
    fins [ih, Ins_readIter _ _ h _]

theorem Ins_ioRead (ex : List Cmd) (t : Txn) (h : RtOk t.rt) (az : Bool) : Ins (ioRead ex t az) := by
  unfold ioRead
  fins [Ins_drainLoop _ _ _ _, Ins_readLoop _ _ h _ _ _]

theorem Ins_ioClose : Ins ioClose := by
  unfold ioClose
  fins [Ins_tClose, Ins_storeClearAll]

theorem Ins_authLoop (t : Txn) (h : RtOk t.rt) : ∀ keys last, Ins (authLoop t keys last) := by
  intro keys
  induction keys with
  | nil => intro last; exact Ins_pure _
  | cons k ks ih =>
    intro last
    unfold authLoop
    fins [ih _, Ins_tClose, Ins_sendRaw _ _, Ins_expectPacket _ _ h]

theorem Ins_ioConnect (banner : Bytes) (keys : List Nat) (authT : Timeout) (cb : Bool) (t : Txn) (h : RtOk t.rt) :
    Ins (ioConnect banner keys authT cb t) := by
  unfold ioConnect
  fins [Ins_tClose, Ins_storeClearAll, Ins_tConnect _, Ins_sendRaw _ _, Ins_expectPacket _ _ h, Ins_authLoop _ h _ _,
    Ins_expectPacket _ { t with tt := authT } h]

/-! ### stream layer -/

/-- `_AdbTransactionInfo.__init__` keeps the read timeout numeric and non-negative -/
theorem Txn.make_rtOk (l r : Option Nat) (tt rt total : Timeout) (t : Txn) (hrt : RtOk rt) (htot : TotOk total)
    (h : Txn.make l r tt rt total = .ok t) : RtOk t.rt := by
  obtain ⟨x, rfl, hx⟩ := hrt
  rw [Txn.make_eq, if_neg (fun h => nomatch h.1)] at h
  cases h
  cases total with
  | none => exact ⟨x, rfl, hx⟩
  | some y => exact ⟨min x y, rfl, by have := htot y rfl; omega⟩

theorem Ins_getTT (tt : Timeout) : Ins (getTT tt) := Ins_of_silent fun _ _ _ _ => rfl

theorem Ins_openTxnBlock (tt rt total : Timeout) : Ins (openTxnBlock tt rt total) := by
  unfold openTxnBlock
  fins [Ins_getTT _, Ins_liftExcept _]

theorem Post_openTxnBlock (tt rt total : Timeout) (hrt : RtOk rt) (htot : TotOk total) :
    Post (openTxnBlock tt rt total) (fun t => RtOk t.rt) := by
  unfold openTxnBlock
  refine Post_withLock _ (Post_bind fun _ => Post_bind fun w => Post_bind fun tt' => Post_liftExcept _ _ ?_)
  intro t ht
  exact Txn.make_rtOk _ _ _ _ _ t hrt htot ht

theorem Ins_openStream (dest : Bytes) (tt rt total : Timeout) (hrt : RtOk rt) (htot : TotOk total) :
    Ins (openStream dest tt rt total) := by
  rw [openStream_eq]
  refine Ins_bind_post _ (Ins_openTxnBlock tt rt total) (Post_openTxnBlock tt rt total hrt htot) ?_
  intro t ht
  unfold openRest
  fins [Ins_ioSend _ _, Ins_ioRead _ _ ht _]

theorem Post_openStream (dest : Bytes) (tt rt total : Timeout) (hrt : RtOk rt) (htot : TotOk total) :
    Post (openStream dest tt rt total) (fun t => RtOk t.rt) := by
  rw [openStream_eq]
  refine Post_bind_of (Post_openTxnBlock tt rt total hrt htot) ?_
  intro t ht
  exact Post_bind fun _ => Post_bind fun p => Post_pure _ _ ht

/-- `let t ← _open(…); rest t` -/
theorem Ins_openStream_bind {β} (dest : Bytes) (tt rt total : Timeout) {f : Txn → M β} (hrt : RtOk rt)
    (htot : TotOk total) (hf : ∀ t, RtOk t.rt → Ins (f t)) : Ins (openStream dest tt rt total >>= f) :=
  Ins_bind_post _ (Ins_openStream dest tt rt total hrt htot) (Post_openStream dest tt rt total hrt htot) hf

theorem TotOk_none : TotOk none := by intro l h; cases h

theorem Ins_okay (t : Txn) : Ins (okay t) := Ins_ioSend _ t

theorem Ins_readUntil (ex : List Cmd) (t : Txn) (h : RtOk t.rt) : Ins (readUntil ex t) := by
  unfold readUntil
  fins [Ins_ioRead _ _ h _, Ins_okay _]

theorem Ins_clse (t : Txn) (h : RtOk t.rt) : Ins (clse t) := by
  unfold clse
  fins [Ins_ioSend _ _, Ins_readUntil _ _ h]

theorem Ins_readUntilCloseLoop (t : Txn) (h : RtOk t.rt) (start : Int) :
    ∀ fuel acc, Ins (readUntilCloseLoop t start fuel acc) := by
  intro fuel
  induction fuel with
  | zero => intro acc; exact Ins_throw _
  | succ f ih =>
    intro acc
    unfold readUntilCloseLoop
    fins [ih _, Ins_readUntil _ _ h, Ins_ioSend _ _]

theorem Ins_readUntilClose (t : Txn) (h : RtOk t.rt) : Ins (readUntilClose t) := by
  unfold readUntilClose
  fins [Ins_readUntilCloseLoop _ h _ _ _]

theorem Ins_streamingCommand (svc cmd : Bytes) (tt rt total : Timeout) (hrt : RtOk rt) (htot : TotOk total) :
    Ins (streamingCommand svc cmd tt rt total) := by
  unfold streamingCommand
  exact Ins_openStream_bind _ _ _ _ hrt htot fun t ht => Ins_readUntilClose t ht

theorem Ins_service (svc cmd : Bytes) (tt rt total : Timeout) (dec : Bool) (hrt : RtOk rt) (htot : TotOk total) :
    Ins (service svc cmd tt rt total dec) := by
  unfold service
  exact Ins_bind (Ins_streamingCommand svc cmd tt rt total hrt htot) fun _ => Ins_pure _

theorem Ins_streamingService (svc cmd : Bytes) (tt rt : Timeout) (dec : Bool) (hrt : RtOk rt) :
    Ins (streamingService svc cmd tt rt dec) := by
  unfold streamingService
  exact Ins_bind (Ins_streamingCommand svc cmd tt rt none hrt TotOk_none) fun _ => Ins_pure _

end Adb.Frag
