import AdbProofs.Lemmas.PresOps
/-
  A frame relation for the I/O layer: `Quiet w w'` says that going from `w` to `w'` left the stream-id
  counter `localId` alone and only added trace events that are not `tx` events.
  Everything in `_AdbIOManager` except the `emit (.tx m)` at the head of `_send` is quiet:
  the instances of `Pres` (PresOps.lean) at `Quiet`.
-/
namespace Adb

def Quiet (w w' : World) : Prop :=
  w'.localId = w.localId ∧ ∃ evs, w'.trace = evs ++ w.trace ∧ ∀ m, TEv.tx m ∉ evs

def QuietM {α} (x : M α) : Prop := ∀ w, Quiet w (x w).2

theorem Quiet.refl (w : World) : Quiet w w := ⟨rfl, [], rfl, by simp⟩

theorem Quiet.of_eq {w w' : World} (h1 : w'.localId = w.localId) (h2 : w'.trace = w.trace) : Quiet w w' :=
  ⟨h1, [], by simpa using h2, by simp⟩

theorem Quiet.trans {a b c : World} (h1 : Quiet a b) (h2 : Quiet b c) : Quiet a c := by
  obtain ⟨l1, e1, t1, n1⟩ := h1
  obtain ⟨l2, e2, t2, n2⟩ := h2
  refine ⟨l2.trans l1, e2 ++ e1, by rw [t2, t1, List.append_assoc], ?_⟩
  intro m hm
  rcases List.mem_append.mp hm with h | h
  · exact n2 m h
  · exact n1 m h

theorem Quiet.admits {e : TEv} (h : ∀ m, e ≠ .tx m) : Admits Quiet e :=
  fun _ => ⟨rfl, [e], rfl, fun m hm => h m (List.mem_singleton.1 hm).symm⟩

theorem Quiet.wrel : WRel Quiet where
  refl := Quiet.refl
  trans := Quiet.trans
  lock _ h := h
  transport _ _ _ _ _ := .of_eq rfl rfl
  store _ _ := .of_eq rfl rfl
  event e he := Quiet.admits fun m hm => by subst hm; cases he

theorem Quiet.deliver (p : Pkt) : Admits Quiet (.deliver p) := Quiet.admits nofun

theorem QuietM.mpure {α} (a : α) : QuietM (M.pure a : M α) := Pres.mpure Quiet.wrel a
theorem QuietM.liftExcept {α} (x : Except Err α) : QuietM (liftExcept x) := Pres.liftExcept Quiet.wrel x
theorem QuietM.withLock {α} (l : Nat) {body : M α} (h : QuietM body) : QuietM (withLock l body) :=
  Pres.withLock Quiet.wrel l h
theorem QuietM.ite {α} {c : Prop} [Decidable c] {x y : M α} (hx : QuietM x) (hy : QuietM y) :
    QuietM (if c then x else y) := Pres.ite (R := Quiet) hx hy

theorem QuietM.bulkRead (n : Nat) (tt : Timeout) : QuietM (bulkRead n tt) := Pres_bulkRead Quiet.wrel n tt
theorem QuietM.bulkWrite (d : Bytes) (tt : Timeout) : QuietM (bulkWrite d tt) := Pres_bulkWrite Quiet.wrel d tt

theorem QuietM.readBytesLoop (t : Txn) (start : Int) (fuel : Nat) :
    ∀ rem acc, QuietM (readBytesLoop t start fuel rem acc) := Pres_readBytesLoop Quiet.wrel t start fuel

theorem QuietM.readBytes (n : Nat) (t : Txn) : QuietM (readBytes n t) := Pres_readBytes Quiet.wrel n t

theorem QuietM.readPacket (t : Txn) : QuietM (readPacket t) := Pres_readPacket Quiet.wrel t

theorem QuietM.writeAllLoop (t : Txn) (start : Int) (fuel : Nat) :
    ∀ data, QuietM (writeAllLoop t start fuel data) := Pres_writeAllLoop Quiet.wrel t start fuel

theorem QuietM.writeAll (data : Bytes) (t : Txn) : QuietM (writeAll data t) := Pres_writeAll Quiet.wrel data t

theorem QuietM.storeClearAll : QuietM storeClearAll := Pres_storeClearAll Quiet.wrel

theorem QuietM.drainLoop (expected : List Cmd) (t : Txn) (az : Bool) (fuel : Nat) :
    QuietM (drainLoop expected t az fuel) := Pres_drainLoop Quiet.wrel (fun p _ => Quiet.deliver p) t az fuel

theorem QuietM.readIter (expected : List Cmd) (t : Txn) (az : Bool) : QuietM (readIter expected t az) :=
  Pres_readIter Quiet.wrel (fun p _ => Quiet.deliver p) t az

theorem QuietM.ioRead (expected : List Cmd) (t : Txn) (az : Bool) : QuietM (ioRead expected t az) :=
  Pres_ioRead Quiet.wrel (fun p _ => Quiet.deliver p) t az

theorem sendRaw_quiet_after_tx (m : Msg) (t : Txn) (w : World) :
    ∃ w1, Quiet { w with trace := .tx m :: w.trace } w1 ∧ (sendRaw m t w).2 = w1 :=
  ⟨_, Pres_sendRaw_rest Quiet.wrel m t { w with trace := .tx m :: w.trace }, rfl⟩

end Adb
