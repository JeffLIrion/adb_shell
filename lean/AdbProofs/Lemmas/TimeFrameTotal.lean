import AdbProofs.Lemmas.TimeFrameOps
/-
  A-priori time bounds (budget and bound independent of how much the device sends) for `_open` and for the
  shell-like operations with a whole-command limit `timeout_s = T`: the OPEN exchange, then `_read_until_close`,
  whose total test follows every yielded item (`readUntilClose_time` in TimeLemmas.lean).
-/
namespace Adb
variable {P : TP} {X : Int}

/-- `_open` with an a-priori budget: one OPEN send (two write waits) and one wait for the OKAY -/
theorem openStream_time {dest : Bytes} {tt rt total : Timeout} (heff : EffT P tt rt total) {w w' : World}
    {r : Except Err Txn} (h : openStream dest tt rt total w = (r, w')) (hp : TPre P w)
    (hs : (parkedCount w.store : Int) + P.R < w.fuel) :
    TPre P w' ∧ w'.fuel = w.fuel ∧ w.now ≤ w'.now ∧ w'.now - w.now ≤ 2 * P.S + P.W ∧
    (parkedCount w'.store : Int) ≤ parkedCount w.store + (w'.now - w.now) ∧ isHang r = false ∧
    (∀ t, r = .ok t → t.rt = some P.R ∧ t.tt = some P.τ ∧ t.total = total) := by
  have hS := P.S_pos
  have hW := P.W_pos
  have hSe : P.S = P.R + max P.D P.τ := rfl
  have hWe : P.W = P.R + 2 * (P.R + max P.D P.τ) := rfl
  have hfr := Fr_openStream dest tt rt total w
  rw [h] at hfr
  have hdt : w'.defaultTT = P.dtt := by rw [hfr.defaultTT, hp.dtt]
  have hfi : w'.files = P.files := by rw [hfr.files, hp.files]
  rw [openStream_eq] at h
  rcases bind_any_inv h with ⟨e, he, rfl⟩ | ⟨t, w1, ht, hrest⟩
  · obtain ⟨hr, q⟩ := openTxnBlock_spec he hp.locks
    refine ⟨q.tpre hp, q.fuel, by rw [q.now]; omega, by rw [q.now]; omega,
      by rw [q.now, q.store]; omega, ?_, by simp⟩
    rw [hr]; exact isHang_false_iff.2 (Txn.make_not_hang _ _ _ _ _)
  · obtain ⟨⟨hrt, htt⟩, htot⟩ := openTxnBlock_txn heff hp ht
    obtain ⟨-, q⟩ := openTxnBlock_spec ht hp.locks
    have hp1 := q.tpre hp
    rcases bind_any_inv hrest with ⟨e, he, rfl⟩ | ⟨u, w2, hsend, hrest2⟩
    · obtain ⟨a1, a2, a3, a4, a5, a6, a7, a8, a9⟩ :=
        ioSend_time he hrt htt P.hR P.hτ hp1.cost (by rw [q.fuel]; omega) (by simp [hp1.locks])
      refine ⟨⟨a1, by rw [a9, hp1.locks], hdt, hfi⟩, a8.trans q.fuel, by rw [← q.now]; omega, by rw [← q.now]; omega,
        by rw [a7, q.store, ← q.now]; omega, by rw [isHang_error]; have := a5 e rfl; simp only [decide_eq_false_iff_not]; rintro rfl; exact hang_not_mem_sendErrs this, by simp⟩
    · obtain ⟨a1, a2, a3, a4, a5, a6, a7, a8, a9⟩ :=
        ioSend_time hsend hrt htt P.hR P.hτ hp1.cost (by rw [q.fuel]; omega) (by simp [hp1.locks])
      have hl2 : w2.locks = [] := by rw [a9, hp1.locks]
      rcases bind_any_inv hrest2 with ⟨e, he, rfl⟩ | ⟨p, w3, hread, hrest3⟩
      · obtain ⟨b1, b2, b3, b4, b5, b6, b7, b8⟩ :=
          ioRead_time he hrt htt P.hR P.hτ a1 hl2 (by rw [a7, a8, q.store, q.fuel]; omega)
        refine ⟨⟨b1, b8, hdt, hfi⟩, (b7.trans a8).trans q.fuel, by rw [← q.now]; omega, by rw [← q.now]; omega,
          by rw [a7, q.store] at b6; rw [← q.now]; omega, by rw [isHang_error]; have := b4 e rfl; simp only [decide_eq_false_iff_not]; rintro rfl; exact hang_not_mem_ioReadErrs this, by simp⟩
      · obtain ⟨b1, b2, b3, b4, b5, b6, b7, b8⟩ :=
          ioRead_time hread hrt htt P.hR P.hτ a1 hl2 (by rw [a7, a8, q.store, q.fuel]; omega)
        cases hrest3
        refine ⟨⟨b1, b8, hdt, hfi⟩, (b7.trans a8).trans q.fuel, by rw [← q.now]; omega, by rw [← q.now]; omega,
          by rw [a7, q.store] at b6; rw [← q.now]; omega, rfl, ?_⟩
        intro t' ht'
        simp only [Except.ok.injEq] at ht'
        subst ht'
        exact ⟨hrt, htt, htot⟩

theorem isHang_error_cast {α β} {e : Err} (h : isHang (.error e : Except Err α) = false) :
    isHang (.error e : Except Err β) = false := by
  rw [isHang_error] at h ⊢; exact h

/-- `_streaming_command` with a whole-command limit `T`, a-priori budget: ends at most one OPEN exchange plus one
    more iteration of the stream loop after the limit, however much the device sends -/
theorem streamingCommand_total {svc cmd : Bytes} {tt rt : Timeout} {T : Int} (hT : 0 ≤ T)
    (heff : EffT P tt rt (some T)) {w w' : World} {r : Except Err (List Bytes)}
    (h : streamingCommand svc cmd tt rt (some T) w = (r, w')) (hp : TPre P w)
    (hs : (parkedCount w.store : Int) + (2 * P.S + P.W) + T + P.R < w.fuel) :
    TPre P w' ∧ isHang r = false ∧ w.now ≤ w'.now ∧ w'.now - w.now ≤ T + (2 * P.S + P.W) + (P.W + P.S) := by
  have hS := P.S_pos
  have hW := P.W_pos
  have hSe : P.S = P.R + max P.D P.τ := rfl
  have hWe : P.W = P.R + 2 * (P.R + max P.D P.τ) := rfl
  have hfr := Fr_streamingCommand svc cmd tt rt (some T) w
  rw [h] at hfr
  have hdt : w'.defaultTT = P.dtt := by rw [hfr.defaultTT, hp.dtt]
  have hfi : w'.files = P.files := by rw [hfr.files, hp.files]
  have hlk : w'.locks = [] := by rw [hfr.locks, hp.locks]
  unfold streamingCommand at h
  rcases bind_any_inv h with ⟨e, he, rfl⟩ | ⟨t, w1, ho, hrest⟩
  · obtain ⟨a1, a2, a3, a4, a5, a6, -⟩ := openStream_time heff he hp (by omega)
    refine ⟨a1, ?_, a3, by omega⟩
    rw [isHang_error] at a6 ⊢; exact a6
  · obtain ⟨a1, a2, a3, a4, a5, a6, a7⟩ := openStream_time heff ho hp (by omega)
    obtain ⟨hrt, htt, htot⟩ := a7 t rfl
    obtain ⟨b1, b2, b3, b4⟩ := readUntilClose_time hrest hrt htt htot P.hR P.hτ hT a1.cost a1.locks
      (by rw [a2]; omega)
    refine ⟨⟨b1, hlk, hdt, hfi⟩, ?_, by omega, by omega⟩
    rw [isHang_false_iff]
    intro hr; exact hang_not_mem_streamErrs (b4 _ hr)

/-- `_service` with `timeout_s = T`: joining the items takes no time -/
theorem service_total {svc cmd : Bytes} {tt rt : Timeout} {T : Int} {dec : Bool} (hT : 0 ≤ T)
    (heff : EffT P tt rt (some T)) {w w' : World} {r : Except Err Val}
    (h : service svc cmd tt rt (some T) dec w = (r, w')) (hp : TPre P w)
    (hs : (parkedCount w.store : Int) + (2 * P.S + P.W) + T + P.R < w.fuel) :
    TPre P w' ∧ isHang r = false ∧ w.now ≤ w'.now ∧ w'.now - w.now ≤ T + (2 * P.S + P.W) + (P.W + P.S) := by
  obtain ⟨r0, h0, rfl⟩ := service_inv h
  obtain ⟨a1, a2, a3, a4⟩ := streamingCommand_total hT heff h0 hp hs
  refine ⟨a1, ?_, a3, a4⟩
  cases r0 with
  | ok v => rfl
  | error e0 => exact isHang_error_cast a2

/-- shell / exec_out with `timeout_s = T` -/
theorem devShellLike_total {op : String} {svc cmd : Bytes} {tt rt : Timeout} {T : Int} {dec : Bool} (hT : 0 ≤ T)
    (heff : EffT P tt rt (some T)) {w w' : World} {r : Except Err Val}
    (h : devShellLike op svc cmd tt rt (some T) dec w = (r, w')) (hp : TPre P w)
    (hs : (parkedCount w.store : Int) + (2 * P.S + P.W) + T + P.R < w.fuel) :
    TPre P w' ∧ isHang r = false ∧ w.now ≤ w'.now ∧ w'.now - w.now ≤ T + (2 * P.S + P.W) + (P.W + P.S) := by
  have hS := P.S_pos
  have hW := P.W_pos
  unfold devShellLike at h
  rcases bind_any_inv h with ⟨e, he, rfl⟩ | ⟨u, w1, hg, hrest⟩
  · have q := (TQ_runGuards _ _).at he
    exact ⟨q.tpre hp, isHang_error_cast q.nohang, by rw [q.now]; omega, by rw [q.now]; omega⟩
  · have q := (TQ_runGuards _ _).at hg
    have a := service_total hT heff hrest (q.tpre hp) (by rw [q.store, q.fuel]; omega)
    rw [q.now] at a
    exact a

/-- root with `timeout_s = T` -/
theorem devRoot_total {tt rt : Timeout} {T : Int} (hT : 0 ≤ T)
    (heff : EffT P tt rt (some T)) {w w' : World} {r : Except Err Val}
    (h : devRoot tt rt (some T) w = (r, w')) (hp : TPre P w)
    (hs : (parkedCount w.store : Int) + (2 * P.S + P.W) + T + P.R < w.fuel) :
    TPre P w' ∧ isHang r = false ∧ w.now ≤ w'.now ∧ w'.now - w.now ≤ T + (2 * P.S + P.W) + (P.W + P.S) := by
  have hS := P.S_pos
  have hW := P.W_pos
  unfold devRoot at h
  rcases bind_any_inv h with ⟨e, he, rfl⟩ | ⟨u, w1, hg, hrest⟩
  · have q := (TQ_runGuards _ _).at he
    exact ⟨q.tpre hp, isHang_error_cast q.nohang, by rw [q.now]; omega, by rw [q.now]; omega⟩
  · have q := (TQ_runGuards _ _).at hg
    rcases bind_any_inv hrest with ⟨e, he, rfl⟩ | ⟨v, w2, hsv, hrest2⟩
    · obtain ⟨a1, a2, a3, a4⟩ := service_total hT heff he (q.tpre hp) (by rw [q.store, q.fuel]; omega)
      rw [q.now] at a3 a4
      exact ⟨a1, isHang_error_cast a2, a3, a4⟩
    · obtain ⟨a1, a2, a3, a4⟩ := service_total hT heff hsv (q.tpre hp) (by rw [q.store, q.fuel]; omega)
      rw [q.now] at a3 a4
      cases hrest2
      exact ⟨a1, rfl, a3, a4⟩

/-- reboot: only the OPEN exchange, whatever `timeout_s` is -/
theorem devReboot_total {fb : Bool} {tt rt total : Timeout}
    (heff : EffT P tt rt total) {w w' : World} {r : Except Err Val}
    (h : devReboot fb tt rt total w = (r, w')) (hp : TPre P w)
    (hs : (parkedCount w.store : Int) + P.R < w.fuel) :
    TPre P w' ∧ isHang r = false ∧ w.now ≤ w'.now ∧ w'.now - w.now ≤ 2 * P.S + P.W := by
  have hS := P.S_pos
  have hW := P.W_pos
  unfold devReboot at h
  rcases bind_any_inv h with ⟨e, he, rfl⟩ | ⟨u, w1, hg, hrest⟩
  · have q := (TQ_runGuards _ _).at he
    exact ⟨q.tpre hp, isHang_error_cast q.nohang, by rw [q.now]; omega, by rw [q.now]; omega⟩
  · have q := (TQ_runGuards _ _).at hg
    rcases bind_any_inv hrest with ⟨e, he, rfl⟩ | ⟨v, w2, ho, hrest2⟩
    · obtain ⟨a1, a2, a3, a4, a5, a6, -⟩ := openStream_time heff he (q.tpre hp) (by rw [q.store, q.fuel]; omega)
      rw [q.now] at a3 a4
      refine ⟨a1, ?_, a3, a4⟩
      rw [isHang_error] at a6 ⊢; exact a6
    · obtain ⟨a1, a2, a3, a4, a5, a6, -⟩ := openStream_time heff ho (q.tpre hp) (by rw [q.store, q.fuel]; omega)
      rw [q.now] at a3 a4
      cases hrest2
      exact ⟨a1, rfl, a3, a4⟩

end Adb
