import AdbProofs.Lemmas.Transport
/-
  Relational frame for C03 at the level of the public API: "read fragmentation does not change any result".

  `FragAgree w₁ w₂`: the two worlds are equal except for the read-fragmentation script (`Conn.frags`,
  `Conn.fragLeft`) of the open and of the future connections, and for the `TEv.req` events of the ghost trace.
  `Frag.Ins x` ("x is insensitive to read fragmentation"): started in two such worlds in which no virtual
  time passes in completed transport calls (`World.Dt0`), either one of the runs ends in `Err.hang`, or both
  return the same result and end in such worlds again.
  This file: the relation, the combinators (`bind`, `get`, `withLock`, …), the primitives
  that do not read the fragmentation script.  The base case (`readBytes`) is in FragWire.lean, the lifting
  to every model function in FragOps.lean.
-/
namespace Adb

/-- forget the read-fragmentation script of a connection -/
def Conn.unfrag (c : Conn) : Conn := { c with frags := [], fragLeft := none }

/-- every event except the `bulk_read` requests -/
def TEv.notReq : TEv → Bool
  | .req _ _ => false
  | _ => true

/-- the same world with unfragmented delivery on the open and on all future connections -/
def World.unfrag (w : World) : World :=
  { w with cur := w.cur.map Conn.unfrag, conns := w.conns.map Conn.unfrag }

/-- equal except for the read-fragmentation scripts and the `req` events of the trace -/
structure FragAgree (w₁ w₂ : World) : Prop where
  conns : w₁.conns.map Conn.unfrag = w₂.conns.map Conn.unfrag
  cur : w₁.cur.map Conn.unfrag = w₂.cur.map Conn.unfrag
  past : w₁.past = w₂.past
  now : w₁.now = w₂.now
  fuel : w₁.fuel = w₂.fuel
  store : w₁.store = w₂.store
  available : w₁.available = w₂.available
  maxdata : w₁.maxdata = w₂.maxdata
  localId : w₁.localId = w₂.localId
  banner : w₁.banner = w₂.banner
  defaultTT : w₁.defaultTT = w₂.defaultTT
  locks : w₁.locks = w₂.locks
  files : w₁.files = w₂.files
  dirs : w₁.dirs = w₂.dirs
  sink : w₁.sink = w₂.sink
  trace : w₁.trace.filter TEv.notReq = w₂.trace.filter TEv.notReq

/-- no virtual time passes in completed transport calls, on the open and on every future connection -/
def World.Dt0 (w : World) : Prop := (∀ c, w.cur = some c → c.dt = 0) ∧ ∀ c ∈ w.conns, c.dt = 0

/-- a numeric, non-negative `read_timeout_s` -/
def RtOk (rt : Timeout) : Prop := ∃ l : Int, rt = some l ∧ 0 ≤ l

/-- `timeout_s` is `None` or non-negative -/
def TotOk (total : Timeout) : Prop := ∀ l : Int, total = some l → 0 ≤ l

/-- canonical representative of a `FragAgree` class -/
def Frag.erase (w : World) : World :=
  { w with cur := w.cur.map Conn.unfrag, conns := w.conns.map Conn.unfrag, trace := w.trace.filter TEv.notReq }

open Frag

theorem FragAgree.of_erase {w₁ w₂ : World} (h : erase w₁ = erase w₂) : FragAgree w₁ w₂ :=
  have f := fun {β : Type} (p : World → β) => (congrArg p h : p (erase w₁) = p (erase w₂))
  ⟨f World.conns, f World.cur, f World.past, f World.now, f World.fuel, f World.store, f World.available,
   f World.maxdata, f World.localId, f World.banner, f World.defaultTT, f World.locks, f World.files, f World.dirs,
   f World.sink, f World.trace⟩

theorem FragAgree.erase_eq {w₁ w₂ : World} (h : FragAgree w₁ w₂) : erase w₁ = erase w₂ := by
  obtain ⟨h1, h2, h3, h4, h5, h6, h7, h8, h9, h10, h11, h12, h13, h14, h15, h16⟩ := h
  cases w₁; cases w₂
  simp only at h1 h2 h3 h4 h5 h6 h7 h8 h9 h10 h11 h12 h13 h14 h15 h16
  subst h3 h4 h5 h6 h7 h8 h9 h10 h11 h12 h13 h14 h15
  simp only [erase, h1, h2, h16]

theorem FragAgree.refl (w : World) : FragAgree w w := FragAgree.of_erase rfl
theorem FragAgree.symm {w₁ w₂ : World} (h : FragAgree w₁ w₂) : FragAgree w₂ w₁ := FragAgree.of_erase h.erase_eq.symm
theorem FragAgree.trans {a b c : World} (h1 : FragAgree a b) (h2 : FragAgree b c) : FragAgree a c :=
  FragAgree.of_erase (h1.erase_eq.trans h2.erase_eq)

@[simp] theorem unfrag_unfrag (c : Conn) : c.unfrag.unfrag = c.unfrag := rfl
@[simp] theorem unfrag_dt (c : Conn) : c.unfrag.dt = c.dt := rfl

theorem erase_erase (w : World) : erase (erase w) = erase w := by
  cases w with
  | mk conns cur past now fuel store available maxdata localId banner defaultTT locks files dirs sink trace =>
    simp only [erase, Option.map_map, List.map_map, List.filter_filter, Bool.and_self]
    congr 1

theorem FragAgree.erase_right (w : World) : FragAgree w (erase w) := FragAgree.of_erase (erase_erase w).symm

theorem FragAgree.unfrag_right (w : World) : FragAgree w w.unfrag := by
  apply FragAgree.of_erase
  cases w with
  | mk conns cur past now fuel store available maxdata localId banner defaultTT locks files dirs sink trace =>
    simp only [erase, World.unfrag, Option.map_map, List.map_map]
    congr 1

/-- the second world is the first one with other values in the free fields -/
theorem FragAgree.eq {w₁ w₂ : World} (h : FragAgree w₁ w₂) :
    w₂ = { w₁ with cur := w₂.cur, conns := w₂.conns, trace := w₂.trace } := by
  obtain ⟨h1, h2, h3, h4, h5, h6, h7, h8, h9, h10, h11, h12, h13, h14, h15, h16⟩ := h
  cases w₁; cases w₂
  simp only at h3 h4 h5 h6 h7 h8 h9 h10 h11 h12 h13 h14 h15
  subst h3 h4 h5 h6 h7 h8 h9 h10 h11 h12 h13 h14 h15
  rfl

theorem Dt0_erase {w : World} : (erase w).Dt0 ↔ w.Dt0 := by
  simp only [World.Dt0, erase, Option.map_eq_some_iff, List.mem_map, forall_exists_index, and_imp,
    forall_apply_eq_imp_iff₂, unfrag_dt]

theorem FragAgree.dt0 {w₁ w₂ : World} (h : FragAgree w₁ w₂) (hd : w₁.Dt0) : w₂.Dt0 := by
  rw [← Dt0_erase, ← h.erase_eq, Dt0_erase]; exact hd

namespace Frag

/-- the relation carried through every model function -/
def FR (w₁ w₂ : World) : Prop := FragAgree w₁ w₂ ∧ w₁.Dt0

theorem FR.refl {w : World} (hd : w.Dt0) : FR w w := ⟨FragAgree.refl w, hd⟩
theorem FR.symm {w₁ w₂ : World} (h : FR w₁ w₂) : FR w₂ w₁ := ⟨h.1.symm, h.1.dt0 h.2⟩
theorem FR.trans {a b c : World} (h1 : FR a b) (h2 : FR b c) : FR a c := ⟨h1.1.trans h2.1, h1.2⟩

/-- outcome of two runs: one of them hung, or same result and related worlds -/
def Out {α} (o₁ o₂ : Except Err α × World) : Prop :=
  o₁.1 = .error .hang ∨ o₂.1 = .error .hang ∨ (o₁.1 = o₂.1 ∧ FR o₁.2 o₂.2)

/-- `x` is insensitive to read fragmentation (up to `hang`) -/
def Ins {α : Type} (x : M α) : Prop := ∀ w₁ w₂, FR w₁ w₂ → Out (x w₁) (x w₂)

/-- `x` commutes with forgetting the fragmentation scripts (no escape needed) -/
def Comm {α : Type} (x : M α) : Prop := ∀ w, x (erase w) = ((x w).1, erase (x w).2)

theorem Ins_of_comm {α} {x : M α} (hc : Comm x) (hd : ∀ w, w.Dt0 → (x w).2.Dt0) : Ins x := by
  intro w₁ w₂ h
  refine Or.inr (Or.inr ?_)
  have c1 := hc w₁
  have c2 := hc w₂
  rw [h.1.erase_eq, c2] at c1
  simp only [Prod.mk.injEq] at c1
  exact ⟨c1.1.symm, FragAgree.of_erase c1.2.symm, hd w₁ h.2⟩

/-- `x` neither reads nor writes the open connection, the future connections, the trace -/
theorem Ins_of_silent {α} {x : M α}
    (h : ∀ w c cs tr, x { w with cur := c, conns := cs, trace := tr } =
      ((x w).1, { (x w).2 with cur := c, conns := cs, trace := tr })) : Ins x := by
  have hw : ∀ w, (x w).2.cur = w.cur ∧ (x w).2.conns = w.conns ∧ (x w).2.trace = w.trace := by
    intro w
    have h0 := h w w.cur w.conns w.trace
    have e0 : ({ w with cur := w.cur, conns := w.conns, trace := w.trace } : World) = w := rfl
    rw [e0] at h0
    have hw := congrArg Prod.snd h0
    simp only at hw
    exact ⟨by rw [hw], by rw [hw], by rw [hw]⟩
  apply Ins_of_comm
  · intro w
    obtain ⟨e1, e2, e3⟩ := hw w
    show x { w with cur := w.cur.map Conn.unfrag, conns := w.conns.map Conn.unfrag, trace := w.trace.filter TEv.notReq } = _
    rw [h]
    simp only [erase, e1, e2, e3]
  · intro w hd
    obtain ⟨e1, e2, -⟩ := hw w
    unfold World.Dt0
    rw [e1, e2]
    exact hd

theorem Ins_pure {α} (a : α) : Ins (pure a : M α) := Ins_of_silent fun _ _ _ _ => rfl
theorem Ins_Mpure {α} (a : α) : Ins (M.pure a : M α) := Ins_of_silent fun _ _ _ _ => rfl
theorem Ins_throw {α} (e : Err) : Ins (M.throw e : M α) := Ins_of_silent fun _ _ _ _ => rfl
theorem Ins_now : Ins now := Ins_of_silent fun _ _ _ _ => rfl
theorem Ins_liftExcept {α} (x : Except Err α) : Ins (liftExcept x) := Ins_of_silent fun _ _ _ _ => rfl
theorem Ins_elapsedGt (st : Int) (l : Timeout) : Ins (elapsedGt st l) :=
  Ins_of_silent fun _ _ _ _ => by cases l <;> rfl
theorem Ins_waitTimeout {α} (tt : Timeout) : Ins (waitTimeout tt : M α) :=
  Ins_of_silent fun _ _ _ _ => by cases tt <;> rfl

/-- any event except a `req` -/
theorem Ins_emit (e : TEv) (he : e.notReq = true) : Ins (emit e) := by
  apply Ins_of_comm
  · intro w
    simp only [emit_run, erase, List.filter_cons, he, if_true]
  · intro w hd; exact hd

/-- a fact about every value `x` returns normally -/
def Post {α} (x : M α) (Q : α → Prop) : Prop := ∀ w a w', x w = (.ok a, w') → Q a

theorem Post_liftExcept {α} (x : Except Err α) (Q : α → Prop) (h : ∀ a, x = .ok a → Q a) : Post (liftExcept x) Q := by
  intro w a w' hx
  simp only [liftExcept_run, Prod.mk.injEq] at hx
  exact h a hx.1

theorem Post_bind_of {α β} {x : M α} {f : α → M β} {P : α → Prop} {Q : β → Prop} (hx : Post x P)
    (hf : ∀ a, P a → Post (f a) Q) : Post (x >>= f) Q := by
  intro w b w' h
  obtain ⟨a, v, h1, h2⟩ := bind_ok_inv h
  exact hf a (hx w a v h1) v b w' h2

theorem Post_bind {α β} {x : M α} {f : α → M β} {Q : β → Prop} (hf : ∀ a, Post (f a) Q) : Post (x >>= f) Q :=
  Post_bind_of (P := fun _ => True) (fun _ _ _ _ => trivial) fun a _ => hf a

theorem Post_withLock {α} (l : Nat) {body : M α} {Q : α → Prop} (hb : Post body Q) : Post (withLock l body) Q := by
  intro w a w' h
  rw [withLock_run] at h
  split at h
  · cases h
  · exact hb _ a _ (Prod.ext (Prod.mk.inj h).1 rfl)

theorem Post_pure {α} (a : α) (Q : α → Prop) (h : Q a) : Post (pure a : M α) Q := by
  intro w b w' hx
  simp only [pure_run, Prod.mk.injEq, Except.ok.injEq] at hx
  rw [← hx.1]; exact h

/-- bind with a fact about the value handed on -/
theorem Ins_bind_post {α β} {x : M α} {f : α → M β} (Q : α → Prop) (hx : Ins x) (hq : Post x Q)
    (hf : ∀ a, Q a → Ins (f a)) : Ins (x >>= f) := by
  intro w₁ w₂ h
  have hx' := hx w₁ w₂ h
  unfold Out at hx' ⊢
  rw [bind_run, bind_run]
  cases hx1 : x w₁ with
  | mk r1 v1 =>
    cases hx2 : x w₂ with
    | mk r2 v2 =>
      rw [hx1, hx2] at hx'
      simp only at hx'
      rcases hx' with rfl | rfl | ⟨rfl, h2⟩
      · exact Or.inl rfl
      · exact Or.inr (Or.inl rfl)
      · cases r1 with
        | error e => exact Or.inr (Or.inr ⟨rfl, h2⟩)
        | ok a => exact hf a (hq _ _ _ hx1) v1 v2 h2

theorem Ins_bind {α β} {x : M α} {f : α → M β} (hx : Ins x) (hf : ∀ a, Ins (f a)) : Ins (x >>= f) :=
  Ins_bind_post (fun _ => True) hx (fun _ _ _ _ => trivial) fun a _ => hf a

/-- `let w ← get; f w` where `f` does not look at the free fields of `w` -/
theorem Ins_get_bind {β} {f : World → M β} (hi : ∀ w c cs tr, f { w with cur := c, conns := cs, trace := tr } = f w)
    (hf : ∀ w, Ins (f w)) : Ins (M.get >>= f) := by
  intro w₁ w₂ h
  have e : f w₂ = f w₁ := by rw [h.1.eq]; exact hi w₁ _ _ _
  simp only [bind_run, M.get_run]
  rw [e]
  exact hf w₁ w₁ w₂ h

theorem Ins_ite {α} {c : Prop} [Decidable c] {a b : M α} (ha : Ins a) (hb : Ins b) :
    Ins (if c then a else b) := by
  split <;> assumption

theorem FR.setLocks {w₁ w₂ : World} (h : FR w₁ w₂) (l : List Nat) :
    FR { w₁ with locks := l } { w₂ with locks := l } :=
  ⟨FragAgree.of_erase (congrArg (fun w : World => { w with locks := l }) h.1.erase_eq), h.2⟩

theorem Ins_withLock {α} (l : Nat) {body : M α} (hb : Ins body) : Ins (withLock l body) := by
  intro w₁ w₂ h
  unfold Out
  rw [withLock_run, withLock_run, ← h.1.locks]
  split
  · exact Or.inr (Or.inr ⟨rfl, h⟩)
  · rcases hb _ _ (h.setLocks (l :: w₁.locks)) with g | g | ⟨g1, g2⟩
    · exact Or.inl g
    · exact Or.inr (Or.inl g)
    · rw [← g2.1.locks]
      exact Or.inr (Or.inr ⟨g1, g2.setLocks _⟩)

/-- a state update that neither reads nor writes the free fields -/
theorem Ins_modify {f : World → World}
    (h : ∀ w c cs tr, f { w with cur := c, conns := cs, trace := tr } = { f w with cur := c, conns := cs, trace := tr }) :
    Ins (M.modify f) :=
  Ins_of_silent fun w c cs tr => by rw [M.modify_run, M.modify_run, h]

/-- the hang-strict `try/finally`: as `M.tryFinally`, except that a `hang` of the clean-up is reported
    even when the body raised (Python would report the body's exception and lose the hang) -/
def tryFinallyS {α} (x : M α) (fin : M Unit) : M α := fun w =>
  match x w with
  | (.ok a, w') => (match fin w' with | (.ok _, w'') => (.ok a, w'') | (.error e, w'') => (.error e, w''))
  | (.error e, w') =>
    (match fin w' with
     | (.ok _, w'') => (.error e, w'')
     | (.error e', w'') => if e' = .hang then (.error .hang, w'') else (.error e, w''))

/-- the strict version differs from `M.tryFinally` only when it reports `hang` -/
theorem tryFinallyS_eq {α} (x : M α) (fin : M Unit) (w : World)
    (h : (tryFinallyS x fin w).1 ≠ .error .hang) : M.tryFinally x fin w = tryFinallyS x fin w := by
  unfold tryFinallyS at h ⊢
  unfold M.tryFinally
  cases hx : x w with
  | mk r v =>
    rw [hx] at h
    cases r with
    | ok a => rfl
    | error e =>
      simp only at h ⊢
      cases hf : fin v with
      | mk q u =>
        rw [hf] at h
        cases q with
        | ok _ => rfl
        | error e' =>
          simp only at h ⊢
          by_cases he : e' = .hang
          · simp [he] at h
          · simp [he]

/-- a `hang` reported by `M.tryFinally` is also reported by the strict version -/
theorem tryFinallyS_hang {α} (x : M α) (fin : M Unit) (w : World)
    (h : (M.tryFinally x fin w).1 = .error .hang) : (tryFinallyS x fin w).1 = .error .hang := by
  by_cases hs : (tryFinallyS x fin w).1 = .error .hang
  · exact hs
  · rw [← tryFinallyS_eq x fin w hs]; exact h

/-- result of the strict `try/finally` from the results of body and clean-up -/
def tfsRes {α} : Except Err α → Except Err Unit → Except Err α
  | .ok a, .ok _ => .ok a
  | .ok _, .error e => .error e
  | .error e, .ok _ => .error e
  | .error e, .error e' => if e' = .hang then .error .hang else .error e

theorem tryFinallyS_run {α} {x : M α} {fin : M Unit} {w v u : World} {r : Except Err α} {q : Except Err Unit}
    (hx : x w = (r, v)) (hf : fin v = (q, u)) : tryFinallyS x fin w = (tfsRes r q, u) := by
  unfold tryFinallyS
  rw [hx]
  cases r <;> (simp only [hf]; cases q <;> simp only [tfsRes] <;> (try split) <;> rfl)

theorem Ins_tryFinallyS {α} {x : M α} {fin : M Unit} (hx : Ins x) (hf : Ins fin) : Ins (tryFinallyS x fin) := by
  intro w₁ w₂ h
  have hx' := hx w₁ w₂ h
  unfold Out at hx' ⊢
  cases hx1 : x w₁ with
  | mk r1 v1 =>
    cases hx2 : x w₂ with
    | mk r2 v2 =>
      rw [hx1, hx2] at hx'
      simp only at hx'
      cases hf1 : fin v1 with
      | mk q1 u1 =>
        cases hf2 : fin v2 with
        | mk q2 u2 =>
          rw [tryFinallyS_run hx1 hf1, tryFinallyS_run hx2 hf2]
          simp only
          rcases hx' with rfl | rfl | ⟨rfl, h2⟩
          · left
            cases q1 with
            | ok _ => rfl
            | error e' => by_cases he : e' = .hang <;> simp [tfsRes, he]
          · right; left
            cases q2 with
            | ok _ => rfl
            | error e' => by_cases he : e' = .hang <;> simp [tfsRes, he]
          · have hf' := hf v1 v2 h2
            unfold Out at hf'
            rw [hf1, hf2] at hf'
            simp only at hf'
            rcases hf' with rfl | rfl | ⟨rfl, g2⟩
            · left; cases r1 <;> simp [tfsRes]
            · right; left; cases r1 <;> simp [tfsRes]
            · right; right
              exact ⟨rfl, g2⟩

/-! ### primitives that touch the connection but not its read-fragmentation script -/

theorem Comm_bulkWrite (d : Bytes) (tt : Timeout) : Comm (bulkWrite d tt) := by
  intro w
  cases w with
  | mk conns cur past now fuel store available maxdata localId banner defaultTT locks files dirs sink trace =>
    cases cur with
    | none => rfl
    | some c =>
      unfold bulkWrite
      simp only [erase, Option.map_some, Conn.unfrag]
      split
      · rfl
      · split
        · split
          · cases tt <;> rfl
          · rfl
        · split <;> rfl

theorem Dt0_waitTimeout {α} (tt : Timeout) {w : World} (h : w.Dt0) :
    (waitTimeout tt w : Except Err α × World).2.Dt0 := by
  cases tt <;> exact h

/-- another open connection with the same `dt`, another clock -/
theorem Dt0_setCur {w : World} (h : w.Dt0) {c : Conn} (hc : w.cur = some c) (c' : Conn) (n : Int)
    (e : c'.dt = c.dt) : ({ w with cur := some c', now := n } : World).Dt0 :=
  ⟨fun _ hx => by cases hx; rw [e]; exact h.1 c hc, h.2⟩

theorem Dt0_bulkWrite (d : Bytes) (tt : Timeout) (w : World) (hd : w.Dt0) : (bulkWrite d tt w).2.Dt0 := by
  rcases bulkWrite_cases d tt w with ⟨-, hb⟩ | ⟨c, hc, -, ⟨f, -, hb | hb⟩ | ⟨-, hb | ⟨k, fl, fr, -, -, -, hb⟩⟩⟩
  · rw [hb]
    exact hd
  · rw [hb]
    exact Dt0_waitTimeout tt (Dt0_setCur hd hc _ _ rfl)
  · rw [hb]
    exact Dt0_setCur hd hc _ _ rfl
  · rw [hb]
    exact Dt0_setCur hd hc _ _ rfl
  · rw [hb]
    exact Dt0_setCur hd hc _ _ rfl

theorem Ins_bulkWrite (d : Bytes) (tt : Timeout) : Ins (bulkWrite d tt) :=
  Ins_of_comm (Comm_bulkWrite d tt) (Dt0_bulkWrite d tt)

theorem Ins_tClose : Ins tClose := by
  apply Ins_of_comm
  · intro w
    cases w with
    | mk conns cur past now fuel store available maxdata localId banner defaultTT locks files dirs sink trace =>
      cases cur <;> rfl
  · intro w hd
    unfold tClose
    split
    · exact hd
    · exact ⟨by simp, hd.2⟩

theorem Ins_tConnect (tt : Timeout) : Ins (tConnect tt) := by
  apply Ins_of_comm
  · intro w
    cases w with
    | mk conns cur past now fuel store available maxdata localId banner defaultTT locks files dirs sink trace =>
      cases conns with
      | nil => rfl
      | cons c rest =>
        unfold tConnect
        simp only [erase, List.map_cons, Conn.unfrag]
        split <;> rfl
  · intro w hd
    unfold tConnect
    split
    · exact hd
    · next c rest hc =>
      have hd2 := hd.2
      rw [hc] at hd2
      split
      · exact ⟨hd.1, fun c' h' => hd2 c' (List.mem_cons_of_mem _ h')⟩
      · refine ⟨?_, fun c' h' => hd2 c' (List.mem_cons_of_mem _ h')⟩
        intro c' h'
        simp only [Option.some.injEq] at h'
        subst h'
        exact hd2 _ (List.mem_cons_self)

theorem Ins_storePut (p : Pkt) : Ins (storePut p) := by
  apply Ins_of_comm
  · intro w
    unfold storePut erase
    dsimp only
    split <;> rfl
  · intro w hd; exact hd

end Frag
end Adb
