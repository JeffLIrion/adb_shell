import AdbProofs.Lemmas.ResetRel
import AdbProofs.Properties.C13
/-
  The invariant behind "after ANY connect() attempt the two objects answer every history alike":
  `Inv w₁ w₂` = the worlds agree except for past/trace/maxdata/sink, and `maxdata` agrees as soon as
  the object is available.  (`maxdata` is only read behind the availability guard, and only a
  successful `connect()` — which sets it — makes the object available.)
-/
namespace Adb.Reset
open Adb

def Inv (w₁ w₂ : World) : Prop := Agree false false w₁ w₂ ∧ (w₁.available = true → w₁.maxdata = w₂.maxdata)

theorem Inv.of_agree_m {s : Bool} {w₁ w₂ : World} (h : Agree true s w₁ w₂) : Inv w₁ w₂ :=
  ⟨{ h with maxdata := nofun, sink := nofun }, fun _ => h.maxdata rfl⟩

theorem Inv.agree_m {w₁ w₂ : World} (h : Inv w₁ w₂) (ha : w₁.available = true) : Agree true false w₁ w₂ :=
  { h.1 with maxdata := fun _ => h.2 ha }

/-- `connect()` read off `_AdbIOManager.connect`: on success both set `maxdata` to the value returned, on failure the object
    is unavailable -/
theorem devConnect_of_ioConnect (keys : List Nat) (tt authT rt : Timeout) (cb : Bool) {w₁ w₂ : World} {t : Txn}
    (hm : Txn.make none none (if tt.isSome = true then tt else w₁.defaultTT) rt none = .ok t)
    (hd : w₁.defaultTT = w₂.defaultTT) (hb : w₁.banner = w₂.banner)
    (hio : ∃ r v₁ v₂, ioConnect w₁.banner keys authT cb t { w₁ with available := false } = (r, v₁) ∧
      ioConnect w₁.banner keys authT cb t { w₂ with available := false } = (r, v₂) ∧
      Agree false false v₁ v₂ ∧ SameNew w₁ w₂ v₁ v₂) :
    (devConnect keys tt authT rt cb w₁).1 = (devConnect keys tt authT rt cb w₂).1 ∧
    Inv (devConnect keys tt authT rt cb w₁).2 (devConnect keys tt authT rt cb w₂).2 ∧
    SameNew w₁ w₂ (devConnect keys tt authT rt cb w₁).2 (devConnect keys tt authT rt cb w₂).2 := by
  obtain ⟨r, v₁, v₂, e₁, e₂, g2, g3⟩ := hio
  have hc := (C13_connect_available keys tt authT rt cb w₁ t hm).2
  rw [devConnect_run_ok keys tt authT rt cb w₁ t w₁.banner hm rfl, e₁] at hc ⊢
  rw [devConnect_run_ok keys tt authT rt cb w₂ t w₁.banner (hd ▸ hm) hb.symm, e₂]
  cases r with
  | error e => exact ⟨rfl, ⟨g2, fun hav => Bool.noConfusion ((hc e v₁ rfl).symm.trans hav)⟩, g3⟩
  | ok md => exact ⟨rfl, ⟨{ g2 with available := rfl, maxdata := nofun }, fun _ => rfl⟩, g3⟩

theorem devConnect_inv (keys : List Nat) (tt authT rt : Timeout) (cb : Bool) (w₁ w₂ : World) (h : Inv w₁ w₂) :
    (devConnect keys tt authT rt cb w₁).1 = (devConnect keys tt authT rt cb w₂).1 ∧
    Inv (devConnect keys tt authT rt cb w₁).2 (devConnect keys tt authT rt cb w₂).2 := by
  cases hm : Txn.make none none (if tt.isSome = true then tt else w₁.defaultTT) rt none with
  | error e =>
    rw [devConnect_run_err keys tt authT rt cb w₁ e hm,
      devConnect_run_err keys tt authT rt cb w₂ e (h.1.defaultTT ▸ hm)]
    exact ⟨rfl, h⟩
  | ok t =>
    have g := devConnect_of_ioConnect keys tt authT rt cb hm h.1.defaultTT h.1.banner <|
      (Ins_ioConnect w₁.banner keys authT cb t).run
        (show Agree false false { w₁ with available := false } { w₂ with available := false } from
          { h.1 with available := rfl })
    exact ⟨g.1, g.2.1⟩

theorem devConnect_resets (keys : List Nat) (tt authT rt : Timeout) (cb : Bool) (w₁ w₂ : World) (h : SessionEq w₁ w₂)
    (hl : w₁.locks = []) (t : Txn)
    (hm : Txn.make none none (if tt.isSome = true then tt else w₁.defaultTT) rt none = .ok t) :
    (devConnect keys tt authT rt cb w₁).1 = (devConnect keys tt authT rt cb w₂).1 ∧
    Inv (devConnect keys tt authT rt cb w₁).2 (devConnect keys tt authT rt cb w₂).2 ∧
    SameNew w₁ w₂ (devConnect keys tt authT rt cb w₁).2 (devConnect keys tt authT rt cb w₂).2 :=
  devConnect_of_ioConnect keys tt authT rt cb hm h.defaultTT h.banner <|
    ioConnect_resets w₁.banner keys authT cb t { w₁ with available := false } { w₂ with available := false } h rfl hl

/-- every public operation keeps the invariant and returns the same in both worlds -/
theorem apiOp_inv (op : ApiOp) (w₁ w₂ : World) (h : Inv w₁ w₂) :
    (op.run w₁).1 = (op.run w₂).1 ∧ Inv (op.run w₁).2 (op.run w₂).2 := by
  cases hav : w₁.available with
  | true =>
    obtain ⟨g1, g2, -⟩ := Ins_apiOp (s := false) op w₁ w₂ (h.agree_m hav)
    exact ⟨g1, Inv.of_agree_m g2⟩
  | false =>
    have hav2 : w₂.available = false := by rw [← h.1.available]; exact hav
    by_cases hs : op.isStreamOp = true
    · by_cases hp : op.devicePath = some []
      · rw [C13_empty_path op w₁ hp, C13_empty_path op w₂ hp]
        exact ⟨rfl, h⟩
      · rw [C13_guard_no_io op w₁ hs hav hp, C13_guard_no_io op w₂ hs hav2 hp]
        exact ⟨rfl, h⟩
    · cases op with
      | connect keys tt authT rt cb => exact devConnect_inv keys tt authT rt cb w₁ w₂ h
      | close =>
        obtain ⟨g1, g2, -⟩ := Ins_devClose w₁ w₂ h.1
        exact ⟨g1, g2, fun ha => Bool.noConfusion ((C13_close_unavailable w₁).symm.trans ha)⟩
      | _ => exact absurd rfl hs

theorem history_inv (ops : List ApiOp) (w₁ w₂ : World) (h : Inv w₁ w₂) :
    (runHistory ops w₁).1 = (runHistory ops w₂).1 ∧ Inv (runHistory ops w₁).2 (runHistory ops w₂).2 := by
  induction ops generalizing w₁ w₂ with
  | nil => exact ⟨rfl, h⟩
  | cons op ops ih =>
    obtain ⟨g1, g2⟩ := apiOp_inv op w₁ w₂ h
    obtain ⟨i1, i2⟩ := ih _ _ g2
    simp only [runHistory]
    exact ⟨by rw [g1, i1], i2⟩

end Adb.Reset
