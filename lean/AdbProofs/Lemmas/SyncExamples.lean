import AdbProofs.Lemmas.SyncWire
/-
  Concrete worlds for the non-vacuity examples of C08, C09, C10: device scripts answering `stat`,
  `list` and `pull` with the FileSync records cut into WRTE packets at awkward places (inside a
  header, inside the data, two records in one packet), and a FAIL reply.
-/
namespace Adb.SR
open Adb Adb.Push

/-- device packets of the stream with remote id `r` and local id `l` -/
def okFor (r l : Nat) : Bytes := Pkt.encode ⟨.OKAY, r, l, []⟩
def wrteFor (r l : Nat) (d : Bytes) : Bytes := Pkt.encode ⟨.WRTE, r, l, d⟩
def clseFor (r l : Nat) : Bytes := Pkt.encode ⟨.CLSE, r, l, []⟩

/-- a connected, idle device (local-id allocator at 0, so the next stream gets local id 1) whose peer will send `script` -/
def sxWorld (script : Bytes) : World :=
  { cur := some { segs := [⟨0, script⟩] }, maxdata := 4096, available := true }

/-- the device path "/x" -/
def sxPath : Bytes := [47, 120]

/-- `stat` reply cut after 5 bytes (inside the first header word … second word) -/
def sxStatRec : Bytes := statRec 33188 1234 1700000000
def wStat : World :=
  sxWorld (okFor 7 1 ++ okFor 7 1 ++ wrteFor 7 1 (sxStatRec.take 5) ++ wrteFor 7 1 (sxStatRec.drop 5) ++ clseFor 7 1)

/-- `list` reply: two entries and DONE; cuts inside the first header and inside the second name -/
def sxEntries : List Entry := [([97], 33188, 10, 1700000000), ([98, 99], 16877, 4096, 4294967295)]
def sxListBytes : Bytes := listStream sxEntries ([], 0, 0, 0) []
def wList : World :=
  sxWorld (okFor 7 1 ++ okFor 7 1 ++ wrteFor 7 1 (sxListBytes.take 7) ++ wrteFor 7 1 ((sxListBytes.drop 7).take 35) ++
    wrteFor 7 1 (sxListBytes.drop 42) ++ clseFor 7 1)

/-- `pull` reply: DATA [1,2,3], DATA [4,5], DONE; cuts inside the first header (after 3 bytes), inside the
    data of the first record, and the last packet carries the end of record 1, record 2 and DONE -/
def sxChunks : List Bytes := [[1, 2, 3], [4, 5]]
def sxPullBytes : Bytes := pullStream sxChunks [] []
def wPull : World :=
  sxWorld (okFor 7 1 ++ okFor 7 1 ++ wrteFor 7 1 (sxPullBytes.take 3) ++ wrteFor 7 1 ((sxPullBytes.drop 3).take 7) ++
    wrteFor 7 1 (sxPullBytes.drop 10) ++ clseFor 7 1)

/-- `pull` with a progress callback: the `stat` call runs on its own stream (local id 2, remote id 8) first -/
def wPullCb : World :=
  sxWorld (okFor 7 1 ++ okFor 8 2 ++ okFor 8 2 ++ wrteFor 8 2 (statRec 33188 5 1700000000) ++ clseFor 8 2 ++
    okFor 7 1 ++ wrteFor 7 1 (sxPullBytes.take 3) ++ wrteFor 7 1 (sxPullBytes.drop 3) ++ clseFor 7 1)

/-- `pull` answered by DATA [1,2,3] and then FAIL "no" (split inside the FAIL header) -/
def sxFailBytes : Bytes := syncRec .DATA 3 [1, 2, 3] ++ syncRec .FAIL 2 [110, 111]
def wPullFail : World :=
  sxWorld (okFor 7 1 ++ okFor 7 1 ++ wrteFor 7 1 (sxFailBytes.take 14) ++ wrteFor 7 1 (sxFailBytes.drop 14) ++ clseFor 7 1)

/-- an open sync stream (local id 1, remote id 7) for the record-level examples -/
def sxT : Txn := ⟨some 1, some 7, some 10, some 10, none⟩

/-- the device sends one pull-format record cut in two WRTE packets after `k` bytes -/
def wRec (bytes : Bytes) (k : Nat) : World :=
  sxWorld (wrteFor 7 1 (bytes.take k) ++ wrteFor 7 1 (bytes.drop k))

/-- the device sends a complete FAIL "no" in one WRTE, but the host's next write (the OKAY acknowledging
    that WRTE) meets a write timeout -/
def wAckFail : World :=
  { cur := some { segs := [⟨0, wrteFor 7 1 (syncRec .FAIL 2 [110, 111])⟩], faults := [⟨false, 0, .timeout⟩] },
    maxdata := 4096, available := true }

/-- `pull` answered by DATA [1,2,3] and FAIL "no" in one WRTE — and then the device never sends its CLSE
    (regression world for the repaired `finally`-masking defect) -/
def wPullFailNoClse : World := sxWorld (okFor 7 1 ++ okFor 7 1 ++ wrteFor 7 1 sxFailBytes)

/-- that world after the guards of `pull`, and after `_open` (intermediate worlds for the examples) -/
def wNoClse0 : World := (runGuards (guardsFor "pull") (some sxPath) wPullFailNoClse).2
def wNoClse1 : World := (openStream (ascii "sync:") (some 10) (some 10) none { wNoClse0 with sink := some [] }).2

/-- `list` answered by one DENT and then FAIL "no" (list-format records), cut inside the FAIL header -/
def sxListFail : Bytes := dentRec .DENT 1 2 3 [97] ++ dentRec .FAIL 0 0 0 [110, 111]
def wListFail : World :=
  sxWorld (okFor 7 1 ++ okFor 7 1 ++ wrteFor 7 1 (sxListFail.take 30) ++ wrteFor 7 1 (sxListFail.drop 30) ++ clseFor 7 1)

/-- the exception of an outcome, if any (`Except Err α` has no decidable equality for `decide`) -/
def errOf {α} : Except Err α → Option Err
  | .error e => some e
  | .ok _ => none

theorem eq_ok_of_toOption {α} {x : Except Err α} {a : α} (h : x.toOption = some a) : x = .ok a :=
  ok_of_toOption h

theorem eq_error_of_errOf {α} {x : Except Err α} {e : Err} (h : errOf x = some e) : x = .error e := by
  cases x <;> simp_all [errOf]

theorem run_ok_of {α} {x : M α} {w : World} {a : α} (h : (x w).1.toOption = some a) : x w = (.ok a, (x w).2) :=
  Prod.ext (ok_of_toOption h) rfl

theorem run_error_of {α} {x : M α} {w : World} {e : Err} (h : errOf (x w).1 = some e) : x w = (.error e, (x w).2) :=
  Prod.ext (eq_error_of_errOf h) rfl

/-- the run of `pull` on `wPull`: outcome, destination, last message sent, FileSync stream handed over
    (the examples of C08 read these off) -/
theorem run_wPull :
    (devPull sxPath .none (some 10) (some 10) wPull).1.toOption = some Val.none ∧
    (devPull sxPath .none (some 10) (some 10) wPull).2.sink = some [1, 2, 3, 4, 5] ∧
    (transmitted (devPull sxPath .none (some 10) (some 10) wPull).2.trace).getLast? = some ⟨.CLSE, 1, 7, []⟩ ∧
    deliveredWrteData (devPull sxPath .none (some 10) (some 10) wPull).2.trace = sxPullBytes := by
  decide +kernel

/-- the run of `pull` on `wPullFail` (for the examples of C08 and C10) -/
theorem run_wPullFail :
    errOf (devPull sxPath .none (some 10) (some 10) wPullFail).1 = some (.adbCommandFailure [110, 111]) ∧
    (transmitted (devPull sxPath .none (some 10) (some 10) wPullFail).2.trace).getLast? = some ⟨.CLSE, 1, 7, []⟩ ∧
    deliveredWrteData (devPull sxPath .none (some 10) (some 10) wPullFail).2.trace = sxFailBytes := by
  decide +kernel

end Adb.SR
