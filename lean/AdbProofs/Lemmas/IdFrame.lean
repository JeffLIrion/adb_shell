import AdbProofs.Lemmas.PresOps
/-
  "The id counter stays 32-bit": `Bd x` says that running `x` in a world whose `localId` is below 2^32 ends in
  such a world again, whatever the outcome.  It is `Pres IdB x` (Pres.lean); the only function that writes the
  counter is `openStream`, which sets it to `nextId` of its value.
-/
namespace Adb

def IdB (w w' : World) : Prop := w.localId < 4294967296 → w'.localId < 4294967296

theorem IdB.of_eq {w w' : World} (h : w'.localId = w.localId) : IdB w w' := fun hb => h ▸ hb

def Bd {α : Type} (x : M α) : Prop := ∀ w, IdB w (x w).2

theorem IdB.wrel : WRel IdB where
  refl _ := id
  trans h1 h2 := h2 ∘ h1
  lock _ h := h
  transport _ _ _ _ _ := .of_eq rfl
  store _ _ := .of_eq rfl
  event _ _ _ := .of_eq rfl

theorem IdB.admits (e : TEv) : Admits IdB e := fun _ => .of_eq rfl

/-- `nextId` wraps to 1 at 2^32 -/
theorem IdB.alloc (w : World) : IdB w { w with localId := nextId w.localId } := fun h => by
  show nextId w.localId < 4294967296
  unfold nextId; split <;> omega

theorem Bd_Mpure {α} (a : α) : Bd (M.pure a : M α) := Pres.mpure IdB.wrel a

end Adb
