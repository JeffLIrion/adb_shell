import AdbModel.Monitor
import AdbProofs.Lemmas.Deliver
import AdbProofs.Lemmas.Assoc
import AdbProofs.Lemmas.NextId
/-
  C04 — the conversations of the model are accepted by the executable per-stream protocol monitor
  (`AdbModel/Monitor.lean`, the transcription of the harness' `_monitor`).

  `ofXfers X` turns an exchange (deliveries `rx p` and transmissions `tx m`, oldest first) into the
  monitor's packet log.  `Acc S X S'` says the monitor, started from stream table `S`, accepts `X`
  without a violation and ends in `S'`.  The compositional invariant is about one stream with ids
  `(l, r)`: `Quiet1 r st` (remote id known, nothing owed, no WRTE in flight, not closed by the host) is
  re-established by every stream-layer primitive that returns normally, `Live r st` (remote id known,
  not closed by the host, no OKAY sent that was not owed) holds after every exception.

  One hypothesis on the DEVICE is needed throughout, `NZ X`: no delivered packet carries the legacy
  zero local id.  The library's `allow_zeros` matching delivers (and acknowledges) `WRTE(r, 0)`; the
  monitor — keyed by arg1 — treats such a packet as foreign traffic and then reports the host's
  acknowledgement as spurious (see the example in C04Monitor.lean).
-/
namespace Adb
open Monitor (Ev St Viol Table isStreamCmd hostStep devStep)

/-! ### Conversations as monitor logs -/

def ofXfer : Xfer → Ev
  | .rx p => ⟨false, p.cmd, p.arg0, p.arg1, p.data⟩
  | .tx m => ⟨true, m.cmd, m.arg0, m.arg1, m.data⟩

/-- the packet log of an exchange: a delivery is a device packet, a transmission a host packet -/
def ofXfers (X : List Xfer) : List Ev := X.map ofXfer

@[simp] theorem ofXfers_nil : ofXfers [] = [] := rfl
@[simp] theorem ofXfers_cons (x : Xfer) (X : List Xfer) : ofXfers (x :: X) = ofXfer x :: ofXfers X := rfl
@[simp] theorem ofXfers_append (X Y : List Xfer) : ofXfers (X ++ Y) = ofXfers X ++ ofXfers Y := by simp [ofXfers]

/-- no delivered packet carries the legacy zero local id -/
def NZ (X : List Xfer) : Prop := ∀ p ∈ rxs X, p.arg1 ≠ 0

@[simp] theorem NZ_nil : NZ [] := by simp [NZ]
theorem NZ_append {X Y : List Xfer} : NZ (X ++ Y) ↔ NZ X ∧ NZ Y := by
  simp only [NZ, rxs_append, List.mem_append, or_imp, forall_and]
theorem NZ_cons_tx {m : Msg} {X : List Xfer} : NZ (.tx m :: X) ↔ NZ X := by simp [NZ]
theorem NZ_cons_rx {p : Pkt} {X : List Xfer} : NZ (.rx p :: X) ↔ p.arg1 ≠ 0 ∧ NZ X := by simp [NZ]
theorem NZ_of_txs {X : List Xfer} (h : rxs X = []) : NZ X := by simp [NZ, h]
theorem NZ_exchanged {evs : List TEv} (h : ∀ p ∈ delivered evs, p.arg1 ≠ 0) : NZ (exchanged evs) := by
  rwa [NZ, ← delivered_eq_rxs]

/-! ### The monitor loop -/

theorem Monitor.run_append (S : Table) (a b : List Ev) :
    Monitor.run S (a ++ b) =
      ((Monitor.run (Monitor.run S a).1 b).1, (Monitor.run S a).2 ++ (Monitor.run (Monitor.run S a).1 b).2) := by
  induction a generalizing S with
  | nil => simp [Monitor.run]
  | cons e a ih => simp [Monitor.run, ih, List.append_assoc]

/-- the monitor, started from table `S`, accepts the exchange `X` (no violation) and ends in `S'` -/
def Acc (S : Table) (X : List Xfer) (S' : Table) : Prop := Monitor.run S (ofXfers X) = (S', [])

theorem Acc.nil (S : Table) : Acc S [] S := rfl

theorem Acc.append {S S1 S2 : Table} {X Y : List Xfer} (h1 : Acc S X S1) (h2 : Acc S1 Y S2) : Acc S (X ++ Y) S2 := by
  unfold Acc at *
  rw [ofXfers_append, Monitor.run_append, h1]
  simp [h2]

theorem Acc.cons {S S1 S2 : Table} {x : Xfer} {X : List Xfer} (h1 : Acc S [x] S1) (h2 : Acc S1 X S2) : Acc S (x :: X) S2 :=
  Acc.append (X := [x]) h1 h2

theorem Acc.check {X : List Xfer} {S' : Table} (h : Acc [] X S') : Monitor.check (ofXfers X) = [] := by
  unfold Monitor.check; rw [h]

/-! ### Association-list facts used for the stream table -/

theorem aset_self {β : Type} {k : Nat} {v : β} {l : List (Nat × β)} (h : alookup k l = some v) : aset k v l = l := by
  induction l with
  | nil => simp at h
  | cons p rest ih =>
    obtain ⟨k', v'⟩ := p
    by_cases hk : k' = k
    · simp only [alookup, hk, if_true, Option.some.injEq] at h
      simp [aset, hk, h]
    · simp only [alookup, hk, if_false] at h
      simp [aset, hk, ih h]

theorem aset_aset {β : Type} (k : Nat) (v v' : β) (l : List (Nat × β)) : aset k v (aset k v' l) = aset k v l := by
  induction l with
  | nil => simp [aset]
  | cons p rest ih =>
    obtain ⟨k', v''⟩ := p
    by_cases hk : k' = k <;> simp [aset, hk, ih]

/-! ### Single events on a known stream -/

theorem isStreamCmd_ne_open {c : Cmd} (h : isStreamCmd c = true) : c ≠ Cmd.OPEN := by
  cases c <;> simp_all [isStreamCmd]

/-- a device packet addressed to the known stream `l` -/
theorem step_rx {S : Table} {l : Nat} {st : St} {p : Pkt} (hst : alookup l S = some st) (h1 : p.arg1 = l) :
    Monitor.step S (ofXfer (.rx p)) = (aset l (devStep st p.cmd p.arg0) S, []) := by
  by_cases hc : isStreamCmd p.cmd = true
  · simp [Monitor.step, ofXfer, hc, h1, hst]
  · have hd : devStep st p.cmd p.arg0 = st := by
      cases hp : p.cmd <;> simp_all [isStreamCmd, devStep]
    simp [Monitor.step, ofXfer, hc, hd, aset_self hst]

/-- a host OKAY / WRTE / CLSE on the known stream `l` -/
theorem step_tx {S : Table} {l : Nat} {st : St} {m : Msg} (hst : alookup l S = some st) (hc : isStreamCmd m.cmd = true)
    (h0 : m.arg0 = l) :
    Monitor.step S (ofXfer (.tx m)) = (aset l (hostStep st m.cmd m.arg1).1 S, (hostStep st m.cmd m.arg1).2) := by
  simp [Monitor.step, ofXfer, hc, h0, hst, isStreamCmd_ne_open hc]

theorem Acc_rx {S : Table} {l : Nat} {st : St} {p : Pkt} (hst : alookup l S = some st) (h1 : p.arg1 = l) :
    Acc S [.rx p] (aset l (devStep st p.cmd p.arg0) S) := by
  simp [Acc, Monitor.run, step_rx hst h1]

theorem Acc_tx {S : Table} {l r : Nat} {st st' : St} {c : Cmd} {d : Bytes} (hst : alookup l S = some st)
    (hc : isStreamCmd c = true) (hs : hostStep st c r = (st', [])) : Acc S [.tx ⟨c, l, r, d⟩] (aset l st' S) := by
  simp [Acc, Monitor.run, step_tx (m := ⟨c, l, r, d⟩) hst hc rfl, hs]

/-! ### The per-stream invariant -/

/-- stream `(·, r)` is established and the host has not closed it; no acknowledgement is outstanding
    in the wrong direction (the host never acknowledged more than it received) -/
structure Live (r : Nat) (st : St) : Prop where
  remote : st.remote = some r
  open_ : st.hostClosed = false
  owed : 0 ≤ st.owed

/-- open and quiet: established, nothing owed, no host WRTE in flight, not closed by the host -/
structure Quiet1 (r : Nat) (st : St) : Prop where
  remote : st.remote = some r
  open_ : st.hostClosed = false
  owed : st.owed = 0
  idle : st.hostWrteInflight = false

theorem Quiet1.live {r : Nat} {st : St} (h : Quiet1 r st) : Live r st := ⟨h.remote, h.open_, by rw [h.owed]; exact Int.le_refl 0⟩

/-- the host has sent its CLSE -/
def HostClosed (st : St) : Prop := st.hostClosed = true

/-- closed by both sides: the monitor marks the stream `done` (its local id may be reused) -/
structure Done (st : St) : Prop where
  host : st.hostClosed = true
  dev : st.devClosed = true
  done : st.done = true

def DoneIfOk {α : Type} (res : Except Err α) (st : St) : Prop := ∀ a, res = .ok a → Done st

/-- a delivered WRTE followed by its acknowledgement leaves the stream state as it was -/
theorem hostStep_okay_after_wrte {r : Nat} {st : St} (h : Live r st) (a0 : Nat) :
    hostStep (devStep st .WRTE a0) .OKAY r = (st, []) := by
  obtain ⟨remote, owed, infl, hc, dc, dn⟩ := st
  obtain ⟨h1, h2, h3⟩ := h
  simp only at h1 h2 h3
  subst h1 h2
  have : ¬ (owed + 1 ≤ 0) := by omega
  simp [hostStep, devStep, this]

theorem hostStep_wrte {r : Nat} {st : St} (h : Quiet1 r st) :
    hostStep st .WRTE r = ({ st with hostWrteInflight := true }, []) := by
  simp [hostStep, h.remote, h.open_, h.idle]

theorem hostStep_clse {r : Nat} {st : St} (h : Live r st) :
    hostStep st .CLSE r = ({ st with hostClosed := true, done := st.done || st.devClosed }, []) := by
  simp [hostStep, h.remote, h.open_]

theorem devStep_live {r : Nat} {st : St} (h : Live r st) (c : Cmd) (a0 : Nat) : Live r (devStep st c a0) := by
  obtain ⟨h1, h2, h3⟩ := h
  cases c <;> simp [devStep] <;> constructor <;> simp_all <;> omega

theorem devStep_quiet {r : Nat} {st : St} (h : Quiet1 r st) {c : Cmd} (hc : c ≠ .WRTE) (a0 : Nat) : Quiet1 r (devStep st c a0) := by
  obtain ⟨h1, h2, h3, h4⟩ := h
  cases c <;> simp [devStep] <;> first | (exact absurd rfl hc) | (constructor <;> simp_all)

/-- the stream ids of a transaction -/
structure Ids (t : Txn) (l r : Nat) : Prop where
  loc : t.localId = some l
  rem : t.remoteId = some r

theorem Ids.okayMsg {t : Txn} {l r : Nat} (h : Ids t l r) : okayMsg t = ⟨.OKAY, l, r, []⟩ := by simp [Adb.okayMsg, h.loc, h.rem]
theorem Ids.clseMsg {t : Txn} {l r : Nat} (h : Ids t l r) : clseMsg t = ⟨.CLSE, l, r, []⟩ := by simp [Adb.clseMsg, h.loc, h.rem]
theorem Ids.wrteMsg {t : Txn} {l r : Nat} (h : Ids t l r) (d : Bytes) : wrteMsg t d = ⟨.WRTE, l, r, d⟩ := by simp [Adb.wrteMsg, h.loc, h.rem]

/-- an accepted packet without the legacy zero local id is addressed to the stream -/
theorem Ids.arg1 {t : Txn} {l r : Nat} (h : Ids t l r) {p : Pkt} (ha : t.accepts true p = true) (hz : p.arg1 ≠ 0) : p.arg1 = l := by
  rcases (Txn.accepts_true_ids h.loc h.rem ha).1 with h1 | h1
  · exact h1
  · exact absurd h1 hz

/-- if no packet of a served sequence carries the legacy zero local id, all are addressed to the stream -/
theorem Ids.arg1_served {t : Txn} {l r : Nat} (h : Ids t l r) {L : List Pkt} (ha : ∀ p ∈ L, t.accepts true p = true)
    (hz : NZ (L.flatMap (served t))) : ∀ p ∈ L, p.arg1 = l :=
  fun p hp => h.arg1 (ha p hp) (hz p (by rwa [rxs_served]))

/-! ### Exchange shapes of the stream-layer primitives -/

/-- a delivered WRTE and its one OKAY: accepted, the table is unchanged -/
theorem Acc_wrte_okay {S : Table} {t : Txn} {l r : Nat} {st : St} {p : Pkt} (hi : Ids t l r) (hst : alookup l S = some st)
    (hl : Live r st) (hc : p.cmd = .WRTE) (h1 : p.arg1 = l) : Acc S [.rx p, .tx (okayMsg t)] S := by
  have hA := Acc_rx (p := p) hst h1
  rw [hc] at hA
  have hB : Acc (aset l (devStep st .WRTE p.arg0) S) [.tx (okayMsg t)] (aset l st (aset l (devStep st .WRTE p.arg0) S)) :=
    hi.okayMsg ▸ Acc_tx (alookup_aset_self _ _ _) rfl (hostStep_okay_after_wrte hl p.arg0)
  have := Acc.cons hA hB
  rwa [aset_aset, aset_self hst] at this

/-- delivered WRTEs, each followed by its OKAY -/
theorem Acc_served_wrtes {S : Table} {t : Txn} {l r : Nat} {st : St} (hi : Ids t l r) (hst : alookup l S = some st)
    (hl : Live r st) : ∀ {L : List Pkt}, (∀ p ∈ L, p.cmd = .WRTE) → (∀ p ∈ L, p.arg1 = l) → Acc S (L.flatMap (served t)) S := by
  intro L
  induction L with
  | nil => intro _ _; exact Acc.nil S
  | cons p L ih =>
    intro hw h1
    have hp := hw p (by simp)
    have := Acc_wrte_okay hi hst hl hp (h1 p (by simp))
    simp only [List.flatMap_cons, served, replyOf, hp, if_true]
    exact Acc.append (X := [.rx p, .tx (okayMsg t)]) this (ih (fun q hq => hw q (by simp [hq])) (fun q hq => h1 q (by simp [hq])))

/-- what `_read_until` adds when it delivered `p`: the delivery and, for a WRTE, its OKAY -/
theorem Acc_rx_ack {S : Table} {t : Txn} {l r : Nat} {st : St} {p : Pkt} (hi : Ids t l r) (hst : alookup l S = some st)
    (hl : Live r st) (h1 : p.arg1 = l) :
    ∃ st', Acc S (.rx p :: ackOf t p) (aset l st' S) ∧ Live r st' ∧ (Quiet1 r st → Quiet1 r st') := by
  by_cases hc : p.cmd = .WRTE
  · refine ⟨st, ?_, hl, id⟩
    simpa [ackOf, hc, aset_self hst] using Acc_wrte_okay hi hst hl hc h1
  · refine ⟨devStep st p.cmd p.arg0, ?_, devStep_live hl _ _, fun hq => devStep_quiet hq hc _⟩
    simpa [ackOf, hc] using Acc_rx (p := p) hst h1

theorem Acc_clse {S : Table} {t : Txn} {l r : Nat} {st : St} (hi : Ids t l r) (hst : alookup l S = some st) (hl : Live r st) :
    Acc S [.tx (clseMsg t)] (aset l { st with hostClosed := true, done := st.done || st.devClosed } S) :=
  hi.clseMsg ▸ Acc_tx hst rfl (hostStep_clse hl)

/-- `_okay` sends exactly one OKAY with the stream's ids; the monitor accepts it exactly when an
    acknowledgement is owed (`0 < owed`) and otherwise reports it as spurious -/
theorem okay_mon {t : Txn} {l r : Nat} (hi : Ids t l r) {w w' : World} {res : Except Err Unit}
    (h : okay t w = (res, w')) (hl : lockTransport ∉ w.locks) :
    Adds w w' [.tx (okayMsg t)] [] ∧ ∀ (S : Table) (st : St), alookup l S = some st → Live r st →
      Monitor.run S (ofXfers [.tx (okayMsg t)]) =
        (aset l { st with owed := st.owed - 1 } S, if st.owed ≤ 0 then [Viol.spuriousOkay] else []) := by
  refine ⟨okay_dlv h hl, fun S st hst hlv => ?_⟩
  have hs := step_tx (m := okayMsg t) hst (by simp [hi.okayMsg, isStreamCmd]) (by simp [hi.okayMsg])
  simp only [ofXfers_cons, ofXfers_nil, Monitor.run, hs, List.append_nil]
  simp [hi.okayMsg, hostStep, hlv.remote, hlv.open_]

/-! ### The compositional judgement for stream operations -/

/-- `x` as an operation on stream `l`, whatever its outcome: from every table in which the state of
    stream `l` satisfies `Pre` the monitor accepts the exchange `x` adds, only the entry of stream `l`
    changes, and its new state satisfies `Post res` -/
def Str {α : Type} (l : Nat) (Pre : St → Prop) (Post : Except Err α → St → Prop) (x : M α) : Prop :=
  ∀ (w w' : World) (res : Except Err α), x w = (res, w') → lockTransport ∉ w.locks →
    ∃ X Y, Adds w w' X Y ∧ (NZ X → ∀ (S : Table) (st : St), alookup l S = some st → Pre st →
      ∃ st', Acc S X (aset l st' S) ∧ Post res st')

theorem Str.mono {α : Type} {l : Nat} {Pre Pre' : St → Prop} {Post Post' : Except Err α → St → Prop} {x : M α}
    (hx : Str l Pre Post x) (hpre : ∀ st, Pre' st → Pre st) (hpost : ∀ res st, Post res st → Post' res st) :
    Str l Pre' Post' x := by
  intro w w' res h hl
  obtain ⟨X, Y, hA, hacc⟩ := hx w w' res h hl
  refine ⟨X, Y, hA, fun hnz S st hst hp => ?_⟩
  obtain ⟨st', h1, h2⟩ := hacc hnz S st hst (hpre st hp)
  exact ⟨st', h1, hpost res st' h2⟩

theorem Str_of_Qt {α : Type} {l : Nat} {P : St → Prop} {x : M α} (h : Qt x) : Str l P (fun _ => P) x := by
  intro w w' res hx _
  refine ⟨[], [], h.adds hx, fun _ S st hst hp => ?_⟩
  exact ⟨st, by rw [aset_self hst]; exact Acc.nil S, hp⟩

theorem Str.bind {α β : Type} {l : Nat} {Pre : St → Prop} {Mid : Except Err α → St → Prop}
    {Post : Except Err β → St → Prop} {x : M α} {f : α → M β} (hx : Str l Pre Mid x) (hfr : Fr x)
    (hf : ∀ a, Str l (Mid (.ok a)) Post (f a)) (he : ∀ e st, Mid (.error e) st → Post (.error e) st) :
    Str l Pre Post (x >>= f) := by
  intro w w' res h hl
  rcases bind_any_inv h with ⟨e, he', rfl⟩ | ⟨a, w1, ha, hrest⟩
  · obtain ⟨X, Y, hA, hacc⟩ := hx w w' _ he' hl
    refine ⟨X, Y, hA, fun hnz S st hst hp => ?_⟩
    obtain ⟨st', h1, h2⟩ := hacc hnz S st hst hp
    exact ⟨st', h1, he e st' h2⟩
  · obtain ⟨X1, Y1, hA1, hacc1⟩ := hx w w1 _ ha hl
    have hl1 : lockTransport ∉ w1.locks := by rw [Fr.locks_of hfr ha]; exact hl
    obtain ⟨X2, Y2, hA2, hacc2⟩ := hf a w1 w' res hrest hl1
    refine ⟨X1 ++ X2, Y1 ++ Y2, hA1.trans hA2, fun hnz S st hst hp => ?_⟩
    obtain ⟨hn1, hn2⟩ := NZ_append.1 hnz
    obtain ⟨st1, h1, hq1⟩ := hacc1 hn1 S st hst hp
    obtain ⟨st2, h2, hq2⟩ := hacc2 hn2 (aset l st1 S) st1 (alookup_aset_self _ _ _) hq1
    rw [aset_aset] at h2
    exact ⟨st2, h1.append h2, hq2⟩

/-- the invariant a stream operation re-establishes: open-and-quiet after a normal return, at least
    `Live` after an exception -/
def QL (r : Nat) {α : Type} (res : Except Err α) (st : St) : Prop :=
  match res with
  | .ok _ => Quiet1 r st
  | .error _ => Live r st

theorem QL.of_quiet {r : Nat} {α : Type} {res : Except Err α} {st : St} (h : Quiet1 r st) : QL r res st := by
  cases res with
  | ok a => exact h
  | error e => exact h.live

theorem QL.live {r : Nat} {α : Type} {res : Except Err α} {st : St} (h : QL r res st) : Live r st := by
  cases res with
  | ok a => exact Quiet1.live h
  | error e => exact h

/-- `x` is a well-behaved operation on the stream with ids `(l, r)`: whatever its outcome, the
    exchange it adds is accepted by the monitor from every table in which stream `l` is open and
    quiet, only the entry of stream `l` changes, and the stream is open and quiet again after a normal
    return (`Live` after an exception).  It is `Str l (Quiet1 r) (QL r) x`. -/
def SQ {α : Type} (l r : Nat) (x : M α) : Prop :=
  ∀ (w w' : World) (res : Except Err α), x w = (res, w') → lockTransport ∉ w.locks →
    ∃ X Y, Adds w w' X Y ∧ (NZ X → ∀ (S : Table) (st : St), alookup l S = some st → Quiet1 r st →
      ∃ st', Acc S X (aset l st' S) ∧ QL r res st')

theorem SQ.explicit {α : Type} {l r : Nat} {x : M α} (hx : SQ l r x) {w w' : World} {res : Except Err α}
    (h : x w = (res, w')) (hl : lockTransport ∉ w.locks) :
    ∃ evs : List TEv, w'.trace = evs ++ w.trace ∧ ((∀ p ∈ delivered evs, p.arg1 ≠ 0) →
      ∀ (S : Table) (st : St), alookup l S = some st → Quiet1 r st →
        ∃ st', Monitor.run S (ofXfers (exchanged evs)) = (aset l st' S, []) ∧
          ((∃ v, res = .ok v) → Quiet1 r st') ∧ Live r st') := by
  obtain ⟨X, Y, ⟨evs, htr, rfl, _⟩, hacc⟩ := hx w w' res h hl
  refine ⟨evs, htr, fun hnz S st hst hq => ?_⟩
  obtain ⟨st', h1, h2⟩ := hacc (NZ_exchanged hnz) S st hst hq
  exact ⟨st', h1, by rintro ⟨v, rfl⟩; exact h2, h2.live⟩

theorem SQ_of_Qt {α : Type} {l r : Nat} {x : M α} (h : Qt x) : SQ l r x :=
  (Str_of_Qt h).mono (fun _ h => h) fun _ _ h => QL.of_quiet h

theorem SQ_bind {α β : Type} {l r : Nat} {x : M α} {f : α → M β} (hx : SQ l r x) (hfr : Fr x) (hf : ∀ a, SQ l r (f a)) :
    SQ l r (x >>= f) :=
  Str.bind hx hfr hf fun _ _ h => h

theorem SQ_ite {α : Type} {l r : Nat} {c : Prop} [Decidable c] {a b : M α} (ha : SQ l r a) (hb : SQ l r b) :
    SQ l r (if c then a else b) := by
  split <;> assumption

theorem SQ_pure {α : Type} {l r : Nat} (a : α) : SQ l r (pure a : M α) := SQ_of_Qt (Qt_pure a)
theorem SQ_throw {α : Type} {l r : Nat} (e : Err) : SQ l r (M.throw e : M α) := SQ_of_Qt (Qt_throw e)

/-- `_read_until` on an open-and-quiet stream: the delivered WRTE is acknowledged once, nothing else is sent -/
theorem SQ_readUntil {t : Txn} {l r : Nat} (hi : Ids t l r) (ex : List Cmd) : SQ l r (readUntil ex t) := by
  intro w w' res h hl
  rcases readUntil_any h hl with hA | ⟨p, _, hacc, hA⟩
  · refine ⟨[], [], hA, ?_⟩
    intro _ S st hst hq
    exact ⟨st, by rw [aset_self hst]; exact Acc.nil S, QL.of_quiet hq⟩
  · refine ⟨_, [], hA, ?_⟩
    intro hnz S st hst hq
    have hz : p.arg1 ≠ 0 := (NZ_cons_rx.1 hnz).1
    obtain ⟨st', h1, _, h3⟩ := Acc_rx_ack hi hst hq.live (hi.arg1 hacc hz)
    exact ⟨st', h1, QL.of_quiet (h3 hq)⟩

/-- `_filesync_flush` on an open-and-quiet stream: one WRTE; device WRTEs delivered meanwhile are each
    acknowledged once; it returns after the device's OKAY, so no WRTE is in flight any more -/
theorem SQ_fsFlush {t : Txn} {l r : Nat} (hi : Ids t l r) (fi : FsInfo) : SQ l r (fsFlush t fi) := by
  intro w w' res h hl
  obtain ⟨wrtes, rest, hw, hacc, hA, hres⟩ := fsFlush_dlv h hl
  refine ⟨_, [], hA, ?_⟩
  intro hnz S st hst hq
  have harg := hi.arg1_served hacc (NZ_cons_tx.1 hnz)
  -- the WRTE
  let st1 : St := { st with hostWrteInflight := true }
  have hl1 : Live r st1 := ⟨hq.remote, hq.open_, by show 0 ≤ st.owed; rw [hq.owed]; exact Int.le_refl 0⟩
  have h1 : Acc S [.tx (wrteMsg t fi.sendBuf)] (aset l st1 S) :=
    hi.wrteMsg _ ▸ Acc_tx hst rfl (hostStep_wrte hq)
  have hst1 : alookup l (aset l st1 S) = some st1 := alookup_aset_self _ _ _
  -- device WRTEs, each acknowledged
  have h2 : Acc (aset l st1 S) (wrtes.flatMap (served t)) (aset l st1 S) :=
    Acc_served_wrtes hi hst1 hl1 hw (fun p hp => harg p (by simp [hp]))
  rw [List.flatMap_append] at *
  cases res with
  | ok fi' =>
    obtain ⟨⟨o, rfl, hoc⟩, _, _⟩ := hres
    have ho1 : o.arg1 = l := harg o (by simp)
    have h3 := Acc_rx (p := o) hst1 ho1
    rw [aset_aset, hoc] at h3
    refine ⟨devStep st1 .OKAY o.arg0, ?_, ?_⟩
    · have : served t o = [.rx o] := by simp [served, replyOf, hoc]
      simpa [this] using h1.append (h2.append h3)
    · show Quiet1 r _
      constructor <;> simp [devStep, st1, hq.remote, hq.open_, hq.owed]
  | error e =>
    rcases hres with rfl | ⟨p, rfl, hpc⟩
    · exact ⟨st1, by simpa using h1.append h2, hl1⟩
    · have h3 : Acc (aset l st1 S) ([p].flatMap (served t)) (aset l st1 S) :=
        Acc_served_wrtes hi hst1 hl1 (by simpa using hpc) (fun q hq' => harg q (by simp at hq'; simp [hq']))
      exact ⟨st1, by simpa using h1.append (h2.append h3), hl1⟩

/-! ### FileSync operations, compositionally -/

theorem Qt_callProgress (cb : CbMode) (path : Bytes) (n total : Nat) : Qt (callProgress cb path n total) :=
  Pres_callProgress QtR.wrel cb path n total

theorem Qt_lookupFile (id : Nat) : Qt (lookupFile id) := Pres_lookupFile QtR.wrel id

section
variable {t : Txn} {l r : Nat}

theorem SQ_fsSend (hi : Ids t l r) (id : SyncId) (fi : FsInfo) (data : Bytes) (size : Option Nat) :
    SQ l r (fsSend id t fi data size) := by
  unfold fsSend
  extract_lets size' append
  have happend : ∀ fi, SQ l r (append fi) := fun fi => SQ_of_Qt (Pres.guard QtR.wrel (Qt_throw _) (Qt_pure _))
  exact SQ_ite (SQ_bind (SQ_fsFlush hi fi) (Fr_fsFlush _ _) happend) (SQ_bind (SQ_pure _) (Fr_pure _) happend)

theorem SQ_fsReadBufferedLoop (hi : Ids t l r) (size : Nat) : ∀ fuel fi, SQ l r (fsReadBufferedLoop size t fuel fi)
  | 0, _ => SQ_throw _
  | fuel + 1, fi => by
    unfold fsReadBufferedLoop
    exact SQ_ite (SQ_bind (SQ_readUntil hi _) (Fr_readUntil _ _) fun (_, _) => SQ_fsReadBufferedLoop hi size fuel _) (SQ_pure _)

theorem SQ_fsReadBuffered (hi : Ids t l r) (size : Nat) (fi : FsInfo) : SQ l r (fsReadBuffered size t fi) :=
  SQ_bind (SQ_of_Qt Qt_get) Fr_get fun _ => SQ_fsReadBufferedLoop hi size _ _

theorem SQ_fsRead (hi : Ids t l r) (ex : List SyncId) (fi : FsInfo) : SQ l r (fsRead ex t fi) := by
  unfold fsRead
  extract_lets rest
  -- `rest`: everything after the optional flush; `check`: everything after the optional data block
  have hrest : ∀ fi, SQ l r (rest fi) := by
    intro fi
    refine SQ_bind (SQ_fsReadBuffered hi _ _) (Fr_fsReadBuffered _ _ _) ?_
    rintro ⟨hdr, fi⟩
    dsimp -zeta only
    extract_lets header
    split
    · exact SQ_throw _
    · extract_lets readData check
      have q := QtR.wrel
      have hcheck : ∀ x, SQ l r (check x) := fun (_, _) => SQ_of_Qt <| show Pres QtR _ from
        .ite (.ite (.bind q (.throw q _) fun _ => .ite (.pure q _) (.pure q _))
          (.bind q (.throw q _) fun _ => .ite (.pure q _) (.pure q _))) (.ite (.pure q _) (.pure q _))
      exact SQ_ite (SQ_bind (SQ_fsReadBuffered hi _ _) (Fr_fsReadBuffered _ _ _) hcheck) (SQ_bind (SQ_pure _) (Fr_pure _) hcheck)
  exact SQ_ite (SQ_bind (SQ_fsFlush hi fi) (Fr_fsFlush _ _) hrest) (SQ_bind (SQ_pure _) (Fr_pure _) hrest)

theorem SQ_listLoop (hi : Ids t l r) : ∀ fuel fi acc, SQ l r (listLoop t fuel fi acc)
  | 0, _, _ => SQ_throw _
  | fuel + 1, fi, acc => by
    unfold listLoop
    exact SQ_bind (SQ_fsRead hi _ _) (Fr_fsRead _ _ _) fun (_, _) => SQ_ite (SQ_pure _) (SQ_listLoop hi fuel _ _)

theorem SQ_pullLoop (hi : Ids t l r) (devPath : Bytes) (cb : CbMode) (total : Nat) :
    ∀ fuel fi, SQ l r (pullLoop devPath cb total t fuel fi)
  | 0, _ => SQ_throw _
  | fuel + 1, fi => by
    unfold pullLoop
    exact SQ_bind (SQ_fsRead hi _ _) (Fr_fsRead _ _ _) fun (_, _) => SQ_ite (SQ_pure _)
      (SQ_bind (SQ_of_Qt (Qt_modify fun _ => rfl)) (Fr_modify fun _ => Frame.sink _ _) fun _ =>
        SQ_bind (SQ_of_Qt (Qt_callProgress _ _ _ _)) (Fr_callProgress _ _ _ _) fun _ => SQ_pullLoop hi devPath cb total fuel _)

theorem SQ_pushDataLoop (hi : Ids t l r) (devPath : Bytes) (cb : CbMode) (total chunk : Nat) :
    ∀ fuel content fi, SQ l r (pushDataLoop devPath cb total chunk t fuel content fi)
  | 0, _, _ => SQ_throw _
  | fuel + 1, content, fi => by
    unfold pushDataLoop
    exact SQ_ite (SQ_pure _) (SQ_bind (SQ_fsSend hi _ _ _ _) (Fr_fsSend _ _ _ _ _) fun _ =>
      SQ_bind (SQ_of_Qt (Qt_callProgress _ _ _ _)) (Fr_callProgress _ _ _ _) fun _ => SQ_pushDataLoop hi devPath cb total chunk fuel _ _)

theorem SQ_pushStatus (hi : Ids t l r) (fi : FsInfo) : SQ l r (pushStatus t fi) :=
  SQ_bind (SQ_fsRead hi _ _) (Fr_fsRead _ _ _) fun (_, _) => SQ_ite (SQ_pure _) (SQ_throw _)

/-- `_push` (one file) on an open-and-quiet stream -/
theorem SQ_pushOne (hi : Ids t l r) (content devPath : Bytes) (mode mtime : Nat) (cb : CbMode) (fi : FsInfo) :
    SQ l r (pushOne content devPath mode mtime cb t fi) :=
  SQ_bind (SQ_fsSend hi _ _ _ _) (Fr_fsSend _ _ _ _ _) fun _ => SQ_bind (SQ_of_Qt Qt_get) Fr_get fun _ =>
    SQ_bind (SQ_pushDataLoop hi _ _ _ _ _ _ _) (Fr_pushDataLoop _ _ _ _ _ _ _ _) fun _ => SQ_bind (SQ_of_Qt Qt_get) Fr_get fun _ =>
      SQ_bind (SQ_fsSend hi _ _ _ _) (Fr_fsSend _ _ _ _ _) fun _ => SQ_pushStatus hi _

end

/-! ### Opening and closing a stream -/

/-- the local id `l` may be used by a new OPEN: the monitor does not know it, or knows it as `done` -/
def Fresh (S : Table) (l : Nat) : Prop := ∀ st, alookup l S = some st → st.done = true

/-- the tables differ at most in the entry of stream `l` -/
def Only (l : Nat) (S S' : Table) : Prop := ∀ k, k ≠ l → alookup k S' = alookup k S

theorem Only.refl (l : Nat) (S : Table) : Only l S S := fun _ _ => rfl
theorem Only.aset (l : Nat) (st : St) (S : Table) : Only l S (aset l st S) := fun _ hk => alookup_aset_ne (Ne.symm hk) st S
theorem Only.trans {l : Nat} {S S1 S2 : Table} (h1 : Only l S S1) (h2 : Only l S1 S2) : Only l S S2 :=
  fun k hk => (h2 k hk).trans (h1 k hk)

theorem nextId_ne_zero (c : Nat) : nextId c ≠ 0 := by unfold nextId; split <;> omega
theorem nextId_ne_self (c : Nat) : nextId c ≠ c := by unfold nextId; split <;> omega

/-- the OPEN of `_open`: fresh non-zero 32-bit local id, arg1 = 0, NUL-terminated destination -/
theorem Acc_open {S : Table} {w : World} (dest : Bytes) (hid : w.localId < 4294967296) (hf : Fresh S (nextId w.localId)) :
    Acc S [.tx (openMsg w dest)] (aset (nextId w.localId) St.fresh S) := by
  have h1 : Monitor.openMalformed (nextId w.localId) 0 (dest ++ [0]) = false := by
    have := nextId_range _ hid
    simp [Monitor.openMalformed, Monitor.endsWithNul]
    omega
  cases hs : alookup (nextId w.localId) S with
  | none => simp [Acc, Monitor.run, Monitor.step, ofXfer, openMsg, h1, hs]
  | some st => simp [Acc, Monitor.run, Monitor.step, ofXfer, openMsg, h1, hs, hf st hs]

/-- `_open`, every outcome -/
theorem openStream_mon {dest : Bytes} {tt rt total : Timeout} {w w' : World} {res : Except Err Txn}
    (h : openStream dest tt rt total w = (res, w')) (hl : w.locks = []) :
    ∃ X, Adds w w' X [] ∧ NZ X ∧
      match res with
      | .ok t => ∃ r, Ids t (nextId w.localId) r ∧ ∀ S, w.localId < 4294967296 → Fresh S (nextId w.localId) →
          ∃ st, Acc S X (aset (nextId w.localId) st S) ∧ Quiet1 r st
      | .error _ => ∀ S, w.localId < 4294967296 → Fresh S (nextId w.localId) →
          ∃ S', Acc S X S' ∧ Only (nextId w.localId) S S' := by
  have hp := openStream_dlv h hl
  cases res with
  | ok t =>
    obtain ⟨p, hA, hc, h1, hr, hlid, _⟩ := hp
    refine ⟨_, hA, ?_, p.arg0, ⟨hlid, hr⟩, ?_⟩
    · rw [NZ_cons_tx, NZ_cons_rx]; exact ⟨by rw [h1]; exact nextId_ne_zero _, NZ_nil⟩
    · intro S hid hf
      have hA1 := Acc_open dest hid hf
      have hA2 := Acc_rx (p := p) (alookup_aset_self (nextId w.localId) St.fresh S) h1
      rw [aset_aset, hc] at hA2
      refine ⟨_, Acc.cons hA1 hA2, ?_⟩
      constructor <;> simp [devStep, St.fresh]
  | error e =>
    rcases hp with hA | hA
    · exact ⟨_, hA, NZ_nil, fun S _ _ => ⟨S, Acc.nil S, Only.refl _ S⟩⟩
    · exact ⟨_, hA, NZ_cons_tx.2 NZ_nil, fun S hid hf => ⟨_, Acc_open dest hid hf, Only.aset _ _ S⟩⟩

/-- `_clse` on a stream the host has not closed: exactly one CLSE; after a normal return the stream is
    closed by both sides -/
theorem Str_clse {t : Txn} {l r : Nat} (hi : Ids t l r) :
    Str l (Live r) (fun res st => st.hostClosed = true ∧ DoneIfOk res st) (clse t) := by
  intro w w' res h hl
  have hp := clse_dlv h hl
  cases res with
  | ok u =>
    obtain ⟨c, hA, hcc, hacc⟩ := hp
    refine ⟨_, [], hA, ?_⟩
    intro hnz S st hst hlv
    have hc1 : c.arg1 = l := hi.arg1 hacc (NZ_cons_rx.1 (NZ_cons_tx.1 hnz)).1
    have h2 := Acc_rx (p := c) (alookup_aset_self l { st with hostClosed := true, done := st.done || st.devClosed } S) hc1
    rw [aset_aset, hcc] at h2
    refine ⟨_, Acc.cons (Acc_clse hi hst hlv) h2, by simp [devStep], fun _ _ => ?_⟩
    constructor <;> simp [devStep]
  | error e =>
    refine ⟨_, [], hp, ?_⟩
    intro _ S st hst hlv
    exact ⟨_, Acc_clse hi hst hlv, rfl, nofun⟩

/-- `_read_until_close` on an established stream: every delivered WRTE acknowledged once, the device's
    CLSE answered with exactly one CLSE, after which the stream is closed by both sides -/
theorem Str_readUntilClose {t : Txn} {l r : Nat} (hi : Ids t l r) :
    Str l (Live r) (fun res st => (Live r st ∨ Done st) ∧ DoneIfOk res st) (readUntilClose t) := by
  intro w w' res h hl
  obtain ⟨wrtes, rest, hw, hacc, hA, hres⟩ := readUntilClose_dlv h hl
  refine ⟨_, _, hA, ?_⟩
  intro hnz S st hst hlv
  have harg := hi.arg1_served hacc hnz
  have h1 : Acc S (wrtes.flatMap (served t)) S := Acc_served_wrtes hi hst hlv hw (fun p hp => harg p (by simp [hp]))
  rw [List.flatMap_append]
  -- the device's CLSE answered by the host's CLSE
  have hclose : ∀ c : Pkt, c.cmd = .CLSE → c.arg1 = l →
      ∃ st', Acc S (served t c) (aset l st' S) ∧ Done st' := by
    intro c hcc hc1
    have ha := Acc_rx (p := c) hst hc1
    rw [hcc] at ha
    have hb := Acc_clse hi (alookup_aset_self l (devStep st .CLSE c.arg0) S) (devStep_live hlv _ _)
    rw [aset_aset] at hb
    have hs : served t c = [.rx c, .tx (clseMsg t)] := by simp [served, replyOf, hcc]
    rw [hs]
    exact ⟨_, Acc.cons ha hb, by constructor <;> simp [devStep]⟩
  cases res with
  | ok items =>
    obtain ⟨_, c, rfl, hcc⟩ := hres
    obtain ⟨st', h2, hd⟩ := hclose c hcc (harg c (by simp))
    exact ⟨st', by simpa using h1.append h2, Or.inr hd, fun _ _ => hd⟩
  | error e =>
    rcases hres with rfl | ⟨p, rfl, hpc | hpc⟩
    · exact ⟨st, by simpa [aset_self hst] using h1, Or.inl hlv, nofun⟩
    · have h2 : Acc S ([p].flatMap (served t)) S :=
        Acc_served_wrtes hi hst hlv (by simpa using hpc) (by simpa using harg p (by simp))
      exact ⟨st, by simpa [aset_self hst] using h1.append h2, Or.inl hlv, nofun⟩
    · obtain ⟨st', h2, hd⟩ := hclose p hpc (harg p (by simp))
      exact ⟨st', by simpa using h1.append h2, Or.inr hd, nofun⟩

end Adb
