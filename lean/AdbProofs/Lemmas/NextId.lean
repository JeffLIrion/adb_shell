import AdbProofs.Lemmas.QuietFrame
import AdbProofs.Lemmas.Blocks
import Mathlib.Logic.Function.Iterate
/-
  Helper lemmas for C14: arithmetic of the stream-id counter `nextId`, and how `openStream` (`_open`)
  computes: the allocation under the local-id lock, then `send(OPEN)`, then `read([OKAY])`.
-/
namespace Adb

theorem nextId_iter_succ (k c : Nat) : nextId^[k+1] c = nextId^[k] (nextId c) := rfl

theorem nextId_range (c : Nat) (h : c < 4294967296) : 1 ≤ nextId c ∧ nextId c < 4294967296 := by
  unfold nextId; split <;> omega

theorem nextId_closed (c : Nat) (h1 : 1 ≤ c) (h2 : c < 4294967296) :
    nextId c = (c - 1 + 1) % 4294967295 + 1 := by
  rw [Nat.sub_add_cancel h1, nextId]
  split
  · rw [show c = 4294967295 by omega]
  · rw [Nat.mod_eq_of_lt (by omega)]

theorem nextId_iter_closed (k : Nat) : ∀ c, 1 ≤ c → c < 4294967296 →
    nextId^[k] c = (c - 1 + k) % 4294967295 + 1 := by
  induction k with
  | zero => intro c h1 h2; show c = _; omega
  | succ k ih =>
    intro c h1 h2
    rw [nextId_iter_succ, ih _ (nextId_range c h2).1 (nextId_range c h2).2, nextId_closed c h1 h2,
      Nat.add_sub_cancel, Nat.mod_add_mod, Nat.add_assoc, Nat.add_comm 1 k]

/-- the effective transport timeout `_get_transport_timeout_s` -/
def effTT (tt : Timeout) (w : World) : Timeout := if tt.isSome then tt else w.defaultTT

/-- the world after the locked allocation block of `_open` -/
def allocWorld (w : World) : World := { w with localId := nextId w.localId }

theorem openStream_idlock_held (dest : Bytes) (tt rt total : Timeout) (w : World)
    (h : lockLocalId ∈ w.locks) : openStream dest tt rt total w = (.error .hang, w) := by
  unfold openStream
  rw [bind_run, withLock_run]
  simp [h]

theorem openStream_alloc_run (dest : Bytes) (tt rt total : Timeout) (w : World)
    (h : lockLocalId ∉ w.locks) :
    openStream dest tt rt total w =
      match Txn.make (some (nextId w.localId)) none (effTT tt w) rt total with
      | .ok t => openRest dest t (allocWorld w)
      | .error e => (.error e, allocWorld w) := by
  unfold openStream
  rw [bind_run, withLock_run]
  simp only [h, if_false, bind_run, M.modify_run, M.get_run, getTT, liftExcept_run]
  cases hm : Txn.make (some (nextId w.localId)) none (effTT tt w) rt total with
  | error e => simp [effTT] at hm; simp [hm, allocWorld]
  | ok t => simp [effTT] at hm; simp [hm, allocWorld, openRest]; rfl

/-- `w'` is `w` plus one `tx m` event followed by quiet steps -/
def Sent (m : Msg) (w w' : World) : Prop := Quiet { w with trace := .tx m :: w.trace } w'

theorem Sent.trans {m : Msg} {a b c : World} (h1 : Sent m a b) (h2 : Quiet b c) : Sent m a c :=
  Quiet.trans h1 h2

theorem Sent.localId {m : Msg} {w w' : World} (h : Sent m w w') : w'.localId = w.localId := h.1

theorem Sent.trace {m : Msg} {w w' : World} (h : Sent m w w') :
    ∃ evs, w'.trace = evs ++ TEv.tx m :: w.trace ∧ ∀ m', TEv.tx m' ∉ evs := h.2

/-- `_AdbIOManager.send(m)`: either it blocks on the transport lock (nothing happens) or `_send` is
    entered: exactly one `tx m` is recorded and the rest is quiet. -/
theorem ioSend_sent_spec (m : Msg) (t : Txn) (w : World) :
    ((ioSend m t w).2 = w ∧ (ioSend m t w).1 = .error .hang) ∨ Sent m w (ioSend m t w).2 := by
  unfold ioSend
  rw [withLock_run]
  split
  · exact Or.inl ⟨rfl, rfl⟩
  · right
    obtain ⟨w1, hq, he⟩ := sendRaw_quiet_after_tx m t { w with locks := lockTransport :: w.locks }
    rw [he]
    exact hq

/-- the part of `_open` after the allocation: at most one message is sent, and it is the `OPEN`
    carrying `t.localId`; a normal return means it was sent, and the returned info keeps `localId`. -/
theorem openRest_spec (dest : Bytes) (t : Txn) (w : World) :
    (Quiet w (openRest dest t w).2 ∧ ∃ e, (openRest dest t w).1 = .error e)
      ∨ (Sent ⟨.OPEN, t.localId.getD 0, 0, dest ++ [0]⟩ w (openRest dest t w).2
          ∧ ∀ t', (openRest dest t w).1 = .ok t' → t'.localId = t.localId) := by
  unfold openRest
  rw [bind_run]
  rcases ioSend_sent_spec ⟨.OPEN, t.localId.getD 0, 0, dest ++ [0]⟩ t w with ⟨h1, h2⟩ | hs
  · left
    split
    · next a w1 he => rw [he] at h2; simp at h2
    · next e w1 he => rw [he] at h1; simp at h1; subst h1; exact ⟨Quiet.refl _, e, rfl⟩
  · right
    split
    · next a w1 he =>
      rw [he] at hs
      rw [bind_run]
      have hq := QuietM.ioRead [.OKAY] t false w1
      split
      · next p w2 hr =>
        rw [hr] at hq
        exact ⟨hs.trans hq, by intro t' ht'; simp at ht'; subst ht'; rfl⟩
      · next e w2 hr =>
        rw [hr] at hq
        exact ⟨hs.trans hq, by intro t' ht'; simp at ht'⟩
    · next e w1 he =>
      rw [he] at hs
      exact ⟨hs, by intro t' ht'; simp at ht'⟩

end Adb
