import AdbProofs.Lemmas.PushLemmas
import AdbProofs.Lemmas.Blocks
/-
  Trace discipline for C07.  `Tr Q x` says: `x` never READS the trace (started with another trace
  it gives the same result and the same world except for the trace) and it only PREPENDS events,
  all of which satisfy `Q`.  Proved once per model function, by a term that follows its `do` block
  (`Tr_bind` for a `←`, `Tr_get_bind` for `let w ← get`, `Tr_ite` for an `if`).  From it come "the read
  side transmits nothing but OKAY", "nothing below the callback records a progress call", and the
  callback-irrelevance theorem.
-/
namespace Adb.Push
open Adb

def Tr {α : Type} (Q : TEv → Prop) (x : M α) : Prop :=
  ∀ w, ∃ evs, (∀ e ∈ evs, Q e) ∧
    ∀ tr, x { w with trace := tr } = ((x w).1, { (x w).2 with trace := evs ++ tr })

/-- the events added by `x` all satisfy `Q` -/
theorem Tr.trace {α} {Q} {x : M α} (h : Tr Q x) : Pres (Grows Q) x := fun w =>
  let ⟨evs, hq, h⟩ := h w
  ⟨evs, congrArg (fun p => p.2.trace) (h w.trace), hq⟩

theorem Tr.mono {α} {Q Q' : TEv → Prop} {x : M α} (h : Tr Q x) (hq : ∀ e, Q e → Q' e) : Tr Q' x := by
  intro w
  obtain ⟨evs, h1, h2⟩ := h w
  exact ⟨evs, fun e he => hq e (h1 e he), h2⟩

/-- `x` does not touch the trace at all -/
theorem Tr_of_silent {α} {Q} {x : M α}
    (h : ∀ w tr, x { w with trace := tr } = ((x w).1, { (x w).2 with trace := tr })) : Tr Q x :=
  fun w => ⟨[], by simp, fun tr => by simpa using h w tr⟩

theorem Tr_pure {α} {Q} (a : α) : Tr Q (pure a : M α) := Tr_of_silent fun _ _ => rfl
theorem Tr_Mpure {α} {Q} (a : α) : Tr Q (M.pure a : M α) := Tr_of_silent fun _ _ => rfl
theorem Tr_throw {α} {Q} (e : Err) : Tr Q (M.throw e : M α) := Tr_of_silent fun _ _ => rfl
theorem Tr_now {Q} : Tr Q now := Tr_of_silent fun _ _ => rfl
theorem Tr_liftExcept {α} {Q} (x : Except Err α) : Tr Q (liftExcept x) := Tr_of_silent fun _ _ => rfl
theorem Tr_elapsedGt {Q} (s : Int) (l : Timeout) : Tr Q (elapsedGt s l) :=
  Tr_of_silent fun _ _ => by cases l <;> rfl
theorem Tr_emit {Q : TEv → Prop} {e : TEv} (h : Q e) : Tr Q (emit e) :=
  fun _ => ⟨[e], by simpa using h, fun _ => rfl⟩

theorem Tr_modify {Q} {f : World → World}
    (hf : ∀ w tr, f { w with trace := tr } = { f w with trace := tr }) : Tr Q (M.modify f) :=
  Tr_of_silent fun w tr => by
    show (Except.ok (), f { w with trace := tr }) = _
    rw [hf]; rfl

theorem Tr_bind {α β} {Q} {x : M α} {f : α → M β} (hx : Tr Q x) (hf : ∀ a, Tr Q (f a)) : Tr Q (x >>= f) := by
  intro w
  obtain ⟨e1, hq1, h1⟩ := hx w
  cases hxw : x w with
  | mk r w1 =>
    cases r with
    | error e =>
      refine ⟨e1, hq1, fun tr => ?_⟩
      rw [bind_run, h1 tr, bind_run, hxw]
    | ok a =>
      obtain ⟨e2, hq2, h2⟩ := hf a w1
      refine ⟨e2 ++ e1, List.forall_mem_append.2 ⟨hq2, hq1⟩, fun tr => ?_⟩
      rw [bind_run, h1 tr, bind_run, hxw]
      simp only []
      rw [h2 (e1 ++ tr)]
      simp

/-- `let w ← get; f w` where `f` does not look at the trace of `w` -/
theorem Tr_get_bind {β} {Q} {f : World → M β} (hf : ∀ w, Tr Q (f w))
    (hi : ∀ w tr, f { w with trace := tr } = f w) : Tr Q (M.get >>= f) := by
  intro w
  obtain ⟨evs, hq, h⟩ := hf w w
  refine ⟨evs, hq, fun tr => ?_⟩
  simp only [bind_run, M.get_run]
  rw [hi w tr]
  exact h tr

theorem Tr_ite {α} {Q} {c : Prop} [Decidable c] {a b : M α} (ha : Tr Q a) (hb : Tr Q b) :
    Tr Q (if c then a else b) := by
  split <;> assumption

theorem Tr_withLock {α} {Q} (l : Nat) {body : M α} (hb : Tr Q body) : Tr Q (withLock l body) := by
  intro w
  by_cases hl : l ∈ w.locks
  · refine ⟨[], by simp, fun tr => ?_⟩
    simp [withLock_run, hl]
  · obtain ⟨evs, hq, h⟩ := hb { w with locks := l :: w.locks }
    refine ⟨evs, hq, fun tr => ?_⟩
    have h' := h tr
    rw [withLock_run, withLock_run]
    simp only [hl, if_false]
    dsimp only at h'
    rw [h']

theorem Tr_swallow {Q} {x : M Unit} (hx : Tr Q x) : Tr Q (M.swallow x) := by
  intro w
  obtain ⟨evs, hq, h⟩ := hx w
  refine ⟨evs, hq, fun tr => ?_⟩
  unfold M.swallow
  rw [h tr]

theorem Tr_tryFinally {α} {Q} {x : M α} {fin : M Unit} (hx : Tr Q x) (hf : Tr Q fin) :
    Tr Q (M.tryFinally x fin) := by
  intro w
  obtain ⟨e1, hq1, h1⟩ := hx w
  cases hxw : x w with
  | mk r w1 =>
    obtain ⟨e2, hq2, h2⟩ := hf w1
    refine ⟨e2 ++ e1, List.forall_mem_append.2 ⟨hq2, hq1⟩, fun tr => ?_⟩
    rw [tryFinally_run, tryFinally_run, h1 tr, hxw]
    simp only []
    rw [h2 (e1 ++ tr)]
    simp

/-- bookkeeping events: everything except `tx`, `deliver`, `cbProgress` -/
def house : TEv → Bool
  | .tx _ => false
  | .deliver _ => false
  | .cbProgress _ _ _ => false
  | _ => true

/-- `Q` accepts every bookkeeping event -/
def House (Q : TEv → Prop) : Prop := ∀ e, house e = true → Q e
/-- `Q` accepts every `deliver` event -/
def Deliv (Q : TEv → Prop) : Prop := ∀ p, Q (.deliver p)
/-- `Q` accepts the transmission of any OKAY message -/
def TxOkay (Q : TEv → Prop) : Prop := ∀ m : Msg, m.cmd = Cmd.OKAY → Q (.tx m)
/-- `Q` accepts every transmission -/
def TxAll (Q : TEv → Prop) : Prop := ∀ m : Msg, Q (.tx m)
/-- `Q` accepts every progress-callback record -/
def Prog (Q : TEv → Prop) : Prop := ∀ p n t, Q (.cbProgress p n t)

theorem Tr_emit_house {Q} {e : TEv} (hQ : House Q) (h : house e = true) : Tr Q (emit e) := Tr_emit (hQ e h)
theorem Tr_emit_deliver {Q} {p : Pkt} (hQ : Deliv Q) : Tr Q (emit (.deliver p)) := Tr_emit (hQ p)
theorem Tr_emit_prog {Q} {p : Bytes} {n t : Nat} (hQ : Prog Q) : Tr Q (emit (.cbProgress p n t)) := Tr_emit (hQ p n t)
theorem Tr_emit_tx {Q} {m : Msg} (hQ : TxAll Q) : Tr Q (emit (.tx m)) := Tr_emit (hQ m)

theorem Tr_waitTimeout {α} {Q} (tt : Timeout) : Tr Q (waitTimeout tt : M α) :=
  Tr_of_silent fun _ _ => by cases tt <;> rfl

/-- a computation that reads and writes nothing but the open connection and the clock -/
theorem Tr_of_local {α} {Q} {x : M α} (h : Local x) : Tr Q x :=
  Tr_of_silent fun w tr => by
    obtain ⟨r, c', now', h⟩ := h w.cur w.now
    have h1 : x w = _ := h w
    have h2 : x { w with trace := tr } = _ := h { w with trace := tr }
    rw [h2, h1]

theorem Tr_bulkRead {Q} (n : Nat) (tt : Timeout) : Tr Q (bulkRead n tt) := Tr_of_local (bulkRead_local n tt)
theorem Tr_bulkWrite {Q} (d : Bytes) (tt : Timeout) : Tr Q (bulkWrite d tt) := Tr_of_local (bulkWrite_local d tt)

section
variable {Q : TEv → Prop}

theorem Tr_readBytesLoop (hQ : House Q) (t : Txn) (start : Int) :
    ∀ fuel rem acc, Tr Q (readBytesLoop t start fuel rem acc)
  | 0, _, _ => Tr_throw _
  | fuel + 1, _, _ =>
    Tr_ite (Tr_pure _) <| Tr_bind (Tr_emit_house hQ rfl) fun _ => Tr_bind (Tr_bulkRead _ _) fun _ =>
      Tr_ite (Tr_pure _) <| Tr_bind (Tr_elapsedGt _ _) fun _ =>
        Tr_ite (Tr_throw _) (Tr_readBytesLoop hQ t start fuel _ _)

theorem Tr_readBytes (hQ : House Q) (n : Nat) (t : Txn) : Tr Q (readBytes n t) :=
  Tr_bind Tr_now fun _ => Tr_get_bind (fun _ => Tr_readBytesLoop hQ _ _ _ _ _) fun _ _ => rfl

theorem Tr_readPacket (hQ : House Q) (t : Txn) : Tr Q (readPacket t) :=
  Tr_bind (Tr_readBytes hQ _ t) fun _ => by
    split
    · exact Tr_throw _
    split
    · exact Tr_throw _
    exact Tr_ite (Tr_pure _) <| Tr_bind (Tr_readBytes hQ _ t) fun _ =>
      Tr_ite (Tr_bind (Tr_throw _) fun _ => Tr_pure _) (Tr_pure _)

theorem Tr_writeAllLoop (t : Txn) (start : Int) : ∀ fuel data, Tr Q (writeAllLoop t start fuel data)
  | 0, _ => Tr_throw _
  | fuel + 1, _ =>
    Tr_bind (Tr_bulkWrite _ _) fun
      | none => Tr_pure _
      | some _ => Tr_ite (Tr_pure _) <| Tr_bind (Tr_elapsedGt _ _) fun _ =>
          Tr_ite (Tr_throw _) (Tr_writeAllLoop t start fuel _)

theorem Tr_writeAll (d : Bytes) (t : Txn) : Tr Q (writeAll d t) :=
  Tr_bind Tr_now fun _ => Tr_get_bind (fun _ => Tr_writeAllLoop _ _ _ _) fun _ _ => rfl

theorem Tr_sendRaw {m : Msg} (hm : Q (.tx m)) (t : Txn) : Tr Q (sendRaw m t) :=
  Tr_bind (Tr_emit hm) fun _ => by
    split
    · exact Tr_throw _
    · exact Tr_bind (Tr_writeAll _ t) fun _ => Tr_ite (Tr_writeAll _ t) (Tr_pure _)

theorem Tr_ioSend {m : Msg} (hm : Q (.tx m)) (t : Txn) : Tr Q (ioSend m t) := Tr_withLock _ (Tr_sendRaw hm t)

theorem Tr_storeFind (t : Txn) (az : Bool) : Tr Q (storeFind t az) := Tr_of_silent fun _ _ => rfl
theorem Tr_storeGet (k : Nat × Nat) : Tr Q (storeGet k) := by
  apply Tr_of_silent
  intro w tr
  unfold storeGet
  dsimp only
  split <;> rfl
theorem Tr_storePut (hQ : House Q) (p : Pkt) : Tr Q (storePut p) := by
  intro w
  refine ⟨[if p.cmd = Cmd.CLSE ∧ w.store.queue p.arg0 p.arg1 = none then TEv.lost p else TEv.park p], ?_, fun tr => rfl⟩
  intro e he
  simp only [List.mem_singleton] at he
  subst he
  split <;> exact hQ _ rfl
theorem Tr_storeClear (a0 a1 : Nat) : Tr Q (storeClear a0 a1) := Tr_modify fun _ _ => rfl
theorem Tr_storeClearAll : Tr Q storeClearAll := Tr_modify fun _ _ => rfl

theorem Tr_drainLoop (hQ : House Q) (hd : Deliv Q) (ex : List Cmd) (t : Txn) (az : Bool) :
    ∀ fuel, Tr Q (drainLoop ex t az fuel)
  | 0 => Tr_throw _
  | fuel + 1 =>
    Tr_bind (Tr_storeFind t az) fun
      | none => Tr_pure _
      | some _ => Tr_bind (Tr_storeGet _) fun _ => Tr_ite (Tr_bind (Tr_emit_deliver hd) fun _ => Tr_pure _) <|
          Tr_bind (Tr_emit_house hQ rfl) fun _ => Tr_drainLoop hQ hd ex t az fuel

theorem Tr_readIter (hQ : House Q) (hd : Deliv Q) (ex : List Cmd) (t : Txn) (az : Bool) : Tr Q (readIter ex t az) :=
  Tr_withLock _ <| Tr_get_bind (fun _ => Tr_bind (Tr_withLock _ (Tr_drainLoop hQ hd ex t az _)) fun
    | some _ => Tr_pure _
    | none => Tr_bind (Tr_readPacket hQ t) fun p => by
        refine Tr_ite (Tr_bind (Tr_withLock _ (Tr_storePut hQ p)) fun _ => Tr_pure _) ?_
        extract_lets k
        have hk : ∀ u, Tr Q (k u) := fun _ => Tr_ite (Tr_bind (Tr_emit_deliver hd) fun _ => Tr_pure _)
          (Tr_bind (Tr_emit_house hQ rfl) fun _ => Tr_pure _)
        exact Tr_ite (Tr_bind (Tr_withLock _ (Tr_storeClear _ _)) hk) (hk ())) fun _ _ => rfl

theorem Tr_readLoop (hQ : House Q) (hd : Deliv Q) (ex : List Cmd) (t : Txn) (az : Bool) (start : Int) :
    ∀ fuel, Tr Q (readLoop ex t az start fuel)
  | 0 => Tr_throw _
  | fuel + 1 =>
    Tr_bind (Tr_readIter hQ hd ex t az) fun
      | some _ => Tr_pure _
      | none => Tr_bind (Tr_elapsedGt _ _) fun _ => Tr_ite (Tr_throw _) (Tr_readLoop hQ hd ex t az start fuel)

theorem Tr_ioRead (hQ : House Q) (hd : Deliv Q) (ex : List Cmd) (t : Txn) (az : Bool) : Tr Q (ioRead ex t az) :=
  Tr_get_bind (fun _ => Tr_bind (Tr_withLock _ (Tr_drainLoop hQ hd ex t az _)) fun
    | some _ => Tr_pure _
    | none => Tr_bind Tr_now fun _ => Tr_readLoop hQ hd ex t az _ _) fun _ _ => rfl

theorem Tr_okay (ho : TxOkay Q) (t : Txn) : Tr Q (okay t) := Tr_ioSend (ho _ rfl) t

/-- `_read_until` hands nothing to `_send` except possibly an OKAY -/
theorem Tr_readUntil (hQ : House Q) (hd : Deliv Q) (ho : TxOkay Q) (ex : List Cmd) (t : Txn) : Tr Q (readUntil ex t) :=
  Tr_bind (Tr_ioRead hQ hd ex t true) fun _ => Tr_ite (Tr_bind (Tr_okay ho t) fun _ => Tr_pure _) (Tr_pure _)

theorem Tr_getTT (tt : Timeout) : Tr Q (getTT tt) := Tr_of_silent fun _ _ => rfl

/-- `_open` sends one OPEN and reads -/
theorem Tr_openStream (hQ : House Q) (hd : Deliv Q) (ho : ∀ m : Msg, m.cmd = Cmd.OPEN → Q (.tx m))
    (dest : Bytes) (tt rt total : Timeout) : Tr Q (openStream dest tt rt total) :=
  Tr_bind (Tr_withLock _ <| Tr_bind (Tr_modify fun _ _ => rfl) fun _ => Tr_get_bind (fun _ =>
      Tr_bind (Tr_getTT tt) fun _ => Tr_liftExcept _) fun _ _ => rfl) fun t =>
    Tr_bind (Tr_ioSend (ho _ rfl) t) fun _ => Tr_bind (Tr_ioRead hQ hd _ t _) fun _ => Tr_pure _

/-- `_clse` sends one CLSE, reads, and acknowledges with OKAY at most -/
theorem Tr_clse (hQ : House Q) (hd : Deliv Q) (ho : TxOkay Q) (hc : ∀ m : Msg, m.cmd = Cmd.CLSE → Q (.tx m))
    (t : Txn) : Tr Q (clse t) :=
  Tr_bind (Tr_ioSend (hc _ rfl) t) fun _ => Tr_bind (Tr_readUntil hQ hd ho _ t) fun _ => Tr_pure _

theorem Tr_fsFlushLoop (hQ : House Q) (hd : Deliv Q) (ho : TxOkay Q) (t : Txn) : ∀ fuel fi, Tr Q (fsFlushLoop t fuel fi)
  | 0, _ => Tr_throw _
  | fuel + 1, _ =>
    Tr_bind (Tr_readUntil hQ hd ho _ t) fun _ => Tr_ite (Tr_pure _) (Tr_fsFlushLoop hQ hd ho t fuel _)

theorem Tr_fsReadBufferedLoop (hQ : House Q) (hd : Deliv Q) (ho : TxOkay Q) (size : Nat) (t : Txn) :
    ∀ fuel fi, Tr Q (fsReadBufferedLoop size t fuel fi)
  | 0, _ => Tr_throw _
  | fuel + 1, _ =>
    Tr_ite (Tr_bind (Tr_readUntil hQ hd ho _ t) fun _ => Tr_fsReadBufferedLoop hQ hd ho size t fuel _) (Tr_pure _)

theorem Tr_fsReadBuffered (hQ : House Q) (hd : Deliv Q) (ho : TxOkay Q) (size : Nat) (t : Txn) (fi : FsInfo) :
    Tr Q (fsReadBuffered size t fi) :=
  Tr_get_bind (fun _ => Tr_fsReadBufferedLoop hQ hd ho size t _ fi) fun _ _ => rfl

theorem Tr_fsReadCheck (ex : List SyncId) (cid : SyncId) (header : List Nat) (data : Bytes) (fi : FsInfo) :
    Tr Q (fsReadCheck ex cid header data fi) :=
  Tr_ite (Tr_ite (Tr_bind (Tr_throw _) fun _ => Tr_ite (Tr_pure _) (Tr_pure _))
    (Tr_bind (Tr_throw _) fun _ => Tr_ite (Tr_pure _) (Tr_pure _))) (Tr_ite (Tr_pure _) (Tr_pure _))

/-- after the flush, `_filesync_read` only reads -/
theorem Tr_fsReadTail (hQ : House Q) (hd : Deliv Q) (ho : TxOkay Q) (ex : List SyncId) (t : Txn) (fi : FsInfo) :
    Tr Q (fsReadTail ex t fi) :=
  Tr_bind (Tr_fsReadBuffered hQ hd ho _ t fi) fun (hdr, fi) => by
    dsimp -zeta only
    extract_lets header
    split
    · exact Tr_throw _
    exact Tr_ite (Tr_bind (Tr_fsReadBuffered hQ hd ho _ t fi) fun _ => Tr_fsReadCheck _ _ _ _ _)
      (Tr_bind (Tr_pure _) fun _ => Tr_fsReadCheck _ _ _ _ _)

end

/-! ### with every transmission accepted: the whole send side -/

section
variable {Q : TEv → Prop}

theorem TxAll.okay (h : TxAll Q) : TxOkay Q := fun m _ => h m

theorem Tr_fsFlush (hQ : House Q) (hd : Deliv Q) (ht : TxAll Q) (t : Txn) (fi : FsInfo) : Tr Q (fsFlush t fi) :=
  Tr_bind (Tr_ioSend (ht _) t) fun _ => Tr_get_bind (fun _ => Tr_fsFlushLoop hQ hd ht.okay t _ fi) fun _ _ => rfl

/-- `_filesync_send` as two steps: flush if the record does not fit, then append it -/
theorem fsSend_eq (id : SyncId) (t : Txn) (fi : FsInfo) (data : Bytes) (size : Option Nat) :
    fsSend id t fi data size =
      ((if !fi.canAdd data.length then fsFlush t fi else pure fi) >>= fun fi1 =>
        if size.getD data.length ≥ 4294967296 then M.throw .pyStructError
        else pure { fi1 with sendBuf := fi1.sendBuf ++ le32 id.wire ++ le32 (size.getD data.length) ++ data }) := by
  unfold fsSend; split <;> rfl

theorem Tr_fsSend (hQ : House Q) (hd : Deliv Q) (ht : TxAll Q) (id : SyncId) (t : Txn) (fi : FsInfo) (data : Bytes)
    (size : Option Nat) : Tr Q (fsSend id t fi data size) := by
  rw [fsSend_eq]
  exact Tr_bind (Tr_ite (Tr_fsFlush hQ hd ht t fi) (Tr_pure _)) fun _ => Tr_ite (Tr_throw _) (Tr_pure _)

theorem Tr_fsRead (hQ : House Q) (hd : Deliv Q) (ht : TxAll Q) (ex : List SyncId) (t : Txn) (fi : FsInfo) :
    Tr Q (fsRead ex t fi) := by
  rw [fsRead_eq_tail]
  exact Tr_bind (Tr_ite (Tr_fsFlush hQ hd ht t fi) (Tr_pure _)) fun _ => Tr_fsReadTail hQ hd ht.okay ex t _

theorem Tr_pushStatus (hQ : House Q) (hd : Deliv Q) (ht : TxAll Q) (t : Txn) (fi : FsInfo) : Tr Q (pushStatus t fi) :=
  Tr_bind (Tr_fsRead hQ hd ht _ t fi) fun (_, _) => Tr_ite (Tr_pure _) (Tr_throw _)

theorem Tr_callProgress (hp : Prog Q) (cb : CbMode) (path : Bytes) (n total : Nat) : Tr Q (callProgress cb path n total) := by
  unfold callProgress
  split
  · exact Tr_pure _
  · exact Tr_swallow (Tr_bind (Tr_emit_prog hp) fun _ => Tr_ite (Tr_throw _) (Tr_pure _))

end


/-! ### the concrete event classes used by C07 -/

/-- neither a transmission nor a progress call, except transmissions of OKAY -/
def QOkay : TEv → Prop
  | .tx m => m.cmd = Cmd.OKAY
  | .cbProgress _ _ _ => False
  | _ => True

/-- anything but a progress call -/
def QNoProg : TEv → Prop
  | .cbProgress _ _ _ => False
  | _ => True

theorem QOkay.house : House QOkay := by intro e h; cases e <;> first | trivial | exact Bool.noConfusion h
theorem QOkay.deliv : Deliv QOkay := fun _ => trivial
theorem QOkay.txOkay : TxOkay QOkay := fun _ h => h
theorem QNoProg.house : House QNoProg := by intro e h; cases e <;> first | trivial | exact Bool.noConfusion h
theorem QNoProg.deliv : Deliv QNoProg := fun _ => trivial
theorem QNoProg.txAll : TxAll QNoProg := fun _ => trivial

theorem QOkay.noProg {e : TEv} (h : QOkay e) : QNoProg e := by cases e <;> simp_all [QOkay, QNoProg]

theorem QOkay.transmitted {evs : List TEv} (h : ∀ e ∈ evs, QOkay e) : ∀ m ∈ transmitted evs, m.cmd = Cmd.OKAY :=
  fun _ hm => h _ (mem_transmitted.1 hm)

theorem QNoProg.progressCalls {evs : List TEv} (h : ∀ e ∈ evs, QNoProg e) : progressCalls evs = [] :=
  progressCalls_eq_nil fun _ _ _ hm => h _ hm

theorem QOkay.progressCalls {evs : List TEv} (h : ∀ e ∈ evs, QOkay e) : progressCalls evs = [] :=
  QNoProg.progressCalls fun e he => (h e he).noProg

theorem QOkay.wrtePayloads {evs : List TEv} (h : ∀ e ∈ evs, QOkay e) (l r : Nat) : wrtePayloads l r evs = [] :=
  wrtePayloads_eq_nil (QOkay.transmitted h)

end Adb.Push
