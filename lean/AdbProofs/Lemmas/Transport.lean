import AdbProofs.Lemmas.Monad
/-
  The scripted transport (`bulkRead`, `bulkWrite` of World.lean) looks at the open connection and the clock
  only, and changes nothing else.  Every frame of the model gets its two transport facts from this.
  What a call does in each branch of the script is stated once, as equations (`bulkRead_none` … `bulkRead_healthy`,
  `bulkWrite_cases`): the byte-stream, clock and fragmentation lemmas are read off these.
-/
namespace Adb

/-- a computation that reads and writes only the open connection and the clock -/
def Local {α : Type} (x : M α) : Prop := ∀ c now, ∃ r c' now', ∀ w : World,
  x { w with cur := c, now := now } = (r, { w with cur := c', now := now' })

theorem Local.run {α} {x : M α} (h : Local x) (w : World) :
    ∃ r c' now', x w = (r, { w with cur := c', now := now' }) := by
  obtain ⟨r, c', now', h⟩ := h w.cur w.now
  exact ⟨r, c', now', h w⟩

/-- by computation in each branch of `bulkRead`; the fragment state is split only where the transport looks at it -/
theorem bulkRead_local (n : Nat) (tt : Timeout) : Local (bulkRead n tt) := by
  intro c now
  cases c with
  | none => exact ⟨_, _, _, fun _ => rfl⟩
  | some c =>
    unfold bulkRead waitTimeout
    dsimp only
    cases c.isReset
    case true => exact ⟨_, _, _, fun _ => rfl⟩
    cases c.isEof
    case true => exact ⟨_, _, _, fun _ => rfl⟩
    cases nextFault true c.inOff c.faults with
    | some f =>
      dsimp only
      cases f.kind <;> cases tt <;> exact ⟨_, _, _, fun _ => rfl⟩
    | none =>
      rcases c.fragLeft with _ | _ | k
      · rcases c.frags with _ | ⟨_ | f, rest⟩ <;> cases anyReadable c.outOff c.segs <;> cases tt <;>
          exact ⟨_, _, _, fun _ => rfl⟩
      all_goals cases anyReadable c.outOff c.segs <;> cases tt <;> exact ⟨_, _, _, fun _ => rfl⟩

theorem bulkWrite_local (d : Bytes) (tt : Timeout) : Local (bulkWrite d tt) := by
  intro c now
  cases c with
  | none => exact ⟨_, _, _, fun _ => rfl⟩
  | some c =>
    unfold bulkWrite waitTimeout
    dsimp only
    cases c.isReset
    case true => exact ⟨_, _, _, fun _ => rfl⟩
    cases nextFault false c.outOff c.faults with
    | some f =>
      dsimp only
      cases f.kind <;> cases tt <;> exact ⟨_, _, _, fun _ => rfl⟩
    | none =>
      cases c.writeNone
      case true => exact ⟨_, _, _, fun _ => rfl⟩
      cases c.ofragLeft <;> cases c.ofrags <;> exact ⟨_, _, _, fun _ => rfl⟩

theorem bulkRead_none (n : Nat) (tt : Timeout) (w : World) (hc : w.cur = none) :
    bulkRead n tt w = (.error .transportError, w) := by
  unfold bulkRead; simp only [hc]

theorem bulkRead_reset (n : Nat) (tt : Timeout) (w : World) (c : Conn) (hc : w.cur = some c) (hr : c.isReset = true) :
    bulkRead n tt w = (.error .transportError, w) := by
  unfold bulkRead; simp only [hc, hr, if_true]

theorem bulkRead_eof (n : Nat) (tt : Timeout) (w : World) (c : Conn) (hc : w.cur = some c) (hr : c.isReset = false)
    (he : c.isEof = true) : bulkRead n tt w = (.ok [], { w with now := w.now + c.dt }) := by
  unfold bulkRead; simp only [hc, hr, he, if_true, Bool.false_eq_true, if_false]

theorem bulkRead_fault (n : Nat) (tt : Timeout) (w : World) (c : Conn) (f : Fault) (hc : w.cur = some c)
    (hr : c.isReset = false) (he : c.isEof = false) (hf : nextFault true c.inOff c.faults = some f) :
    bulkRead n tt w =
      match f.kind with
      | .timeout => waitTimeout tt { w with cur := some { c with faults := c.faults.filter (· != f) } }
      | .reset => (.error .transportError,
          { w with cur := some { c with faults := c.faults.filter (· != f), isReset := true } })
      | .eof => (.ok [], { w with cur := some { c with faults := c.faults.filter (· != f), isEof := true }, now := w.now + c.dt }) := by
  unfold bulkRead; simp only [hc, hr, he, hf, Bool.false_eq_true, if_false]
  cases f.kind <;> rfl

theorem minOpt_le (a : Nat) (o : Option Nat) : minOpt a o ≤ a := by
  cases o
  · exact Nat.le_refl a
  · exact Nat.min_le_left a _

theorem readablePrefix_zero (out : Nat) (segs : List Seg) : readablePrefix out 0 segs = [] := by
  cases segs <;> rfl

theorem dropSegs_zero (segs : List Seg) : dropSegs 0 segs = segs := by
  cases segs <;> rfl

/-- `m` is `0` for an empty fragment, otherwise `n` cut down to the fragment in progress -/
theorem bulkRead_healthy (n : Nat) (tt : Timeout) (w : World) (c : Conn) (hc : w.cur = some c)
    (hr : c.isReset = false) (he : c.isEof = false) (hf : nextFault true c.inOff c.faults = none) :
    (anyReadable c.outOff c.segs = false ∧ bulkRead n tt w = waitTimeout tt w) ∨
    (∃ m fr, m ≤ n ∧ ∀ bs, bs = readablePrefix c.outOff (minOpt m (faultLimit true c.inOff c.faults)) c.segs →
      ∃ fl, bulkRead n tt w = (.ok bs,
        { w with cur := some { c with segs := dropSegs bs.length c.segs, inOff := c.inOff + bs.length,
                                      fragLeft := fl, frags := fr },
                 now := w.now + c.dt })) := by
  unfold bulkRead
  simp only [hc, hr, he, hf, Bool.false_eq_true, if_false]
  -- the fragment in progress or the next one of the script: its value plays no role
  generalize (Prod.fst _ : Option Nat) = fl
  generalize (Prod.snd _ : List Nat) = frags
  split
  · refine Or.inr ⟨0, frags, Nat.zero_le _, fun bs hbs => ⟨none, ?_⟩⟩
    rw [Nat.le_zero.1 (minOpt_le 0 _), readablePrefix_zero] at hbs
    rw [hbs, List.length_nil, dropSegs_zero]
    rfl
  · split
    · next hne => exact Or.inl ⟨by simpa using hne, rfl⟩
    · refine Or.inr ⟨minOpt n fl, frags, minOpt_le _ _, fun bs hbs => ?_⟩
      rw [List.take_length, ← hbs]
      exact ⟨_, rfl⟩

theorem minOpt_pos (a : Nat) (o : Option Nat) (ha : 1 ≤ a) (ho : ∀ d, o = some d → 1 ≤ d) : 1 ≤ minOpt a o := by
  cases o with
  | none => exact ha
  | some b => exact Nat.le_min.2 ⟨ha, ho b rfl⟩

theorem faultLimit_foldl_pos (off : Nat) (l : List Fault) (hl : ∀ f ∈ l, f.off > off) (acc : Option Nat)
    (hacc : ∀ d, acc = some d → 1 ≤ d) (d : Nat)
    (h : l.foldl (fun acc f => match acc with
      | none => some (f.off - off) | some d => some (min d (f.off - off))) acc = some d) : 1 ≤ d := by
  induction l generalizing acc with
  | nil => exact hacc d (by simpa using h)
  | cons f rest ih =>
    simp only [List.foldl_cons] at h
    have hf := hl f (by simp)
    refine ih (fun g hg => hl g (by simp [hg])) _ ?_ h
    intro d' hd'
    cases acc with
    | none => simp at hd'; omega
    | some a =>
      have := hacc a rfl
      simp at hd'; omega

theorem faultLimit_pos (inb : Bool) (off : Nat) (fs : List Fault) (d : Nat)
    (h : faultLimit inb off fs = some d) : 1 ≤ d := by
  unfold faultLimit at h
  refine faultLimit_foldl_pos off _ ?_ none (by simp) d h
  intro f hf
  simp only [List.mem_filter, Bool.and_eq_true, decide_eq_true_eq] at hf
  exact hf.2.2

/-- `c.ofragLeft = some 0` (a fragment in progress with no bytes left) is a state `bulkWrite` itself never leaves
    behind: `fl ≠ some 0` -/
theorem bulkWrite_accepts (d : Bytes) (tt : Timeout) (w : World) (c : Conn) (hc : w.cur = some c)
    (hr : c.isReset = false) (hf : nextFault false c.outOff c.faults = none) (hn : c.writeNone = false) :
    ∃ k fl fr, k ≤ d.length ∧ (d ≠ [] → c.ofragLeft ≠ some 0 → 1 ≤ k) ∧ fl ≠ some 0 ∧
      bulkWrite d tt w = (.ok (some k),
        { w with cur := some { c with peerChunks := d.take k :: c.peerChunks, outOff := c.outOff + k,
                                      ofragLeft := fl, ofrags := fr },
                 now := w.now + c.dt }) := by
  have rest : ∀ (fl0 : Option Nat) (k : Nat),
      (match fl0 with | none => none | some x => if x - k = 0 then none else some (x - k)) ≠ some 0 := by
    intro fl0 k
    cases fl0 with
    | none => exact fun h => nomatch h
    | some x =>
      dsimp only
      split
      · exact fun h => nomatch h
      · next hne => exact fun h => hne (Option.some.inj h)
  unfold bulkWrite
  simp only [hc, hr, hf, hn, Bool.false_eq_true, if_false]
  refine ⟨_, _, _, Nat.le_trans (minOpt_le _ _) (minOpt_le _ _), fun hd h0 =>
    minOpt_pos _ _ (minOpt_pos _ _ (List.length_pos_iff.2 hd) ?_) (faultLimit_pos _ _ _), rest _ _, rfl⟩
  -- the fragment in progress has bytes left; one that starts now is given at least one
  revert h0
  rcases c.ofragLeft with _ | x
  · rcases c.ofrags with _ | ⟨f, _⟩
    · exact fun _ _ hx => nomatch hx
    · exact fun _ _ hx => Option.some.inj hx ▸ Nat.le_max_right f 1
  · exact fun h0 _ hx => Option.some.inj hx ▸ Nat.pos_of_ne_zero (fun hx0 => h0 (congrArg some hx0))

theorem bulkWrite_cases (d : Bytes) (tt : Timeout) (w : World) :
    ((∀ c, w.cur = some c → c.isReset = true) ∧ bulkWrite d tt w = (.error .transportError, w)) ∨
    ∃ c, w.cur = some c ∧ c.isReset = false ∧
      ((∃ f, nextFault false c.outOff c.faults = some f ∧
          (bulkWrite d tt w = waitTimeout tt { w with cur := some { c with faults := c.faults.filter (· != f) } } ∨
           bulkWrite d tt w = (.error .transportError,
             { w with cur := some { c with faults := c.faults.filter (· != f), isReset := true } }))) ∨
       (nextFault false c.outOff c.faults = none ∧
          (bulkWrite d tt w = (.ok none,
              { w with cur := some { c with peerChunks := d :: c.peerChunks, outOff := c.outOff + d.length },
                       now := w.now + c.dt }) ∨
           ∃ k fl fr, k ≤ d.length ∧ (d ≠ [] → c.ofragLeft ≠ some 0 → 1 ≤ k) ∧ fl ≠ some 0 ∧
             bulkWrite d tt w = (.ok (some k),
               { w with cur := some { c with peerChunks := d.take k :: c.peerChunks, outOff := c.outOff + k,
                                             ofragLeft := fl, ofrags := fr },
                        now := w.now + c.dt })))) := by
  rcases hc : w.cur with _ | c
  · exact Or.inl ⟨fun _ h => (nomatch h), by unfold bulkWrite; simp only [hc]⟩
  rcases Bool.eq_false_or_eq_true c.isReset with hr | hr
  · exact Or.inl ⟨fun _ h => Option.some.inj h ▸ hr, by unfold bulkWrite; simp only [hc, hr, if_true]⟩
  refine Or.inr ⟨c, rfl, hr, ?_⟩
  rcases hf : nextFault false c.outOff c.faults with _ | f
  · rcases Bool.eq_false_or_eq_true c.writeNone with hn | hn
    · refine Or.inr ⟨rfl, Or.inl ?_⟩
      unfold bulkWrite; simp only [hc, hr, hf, hn, Bool.false_eq_true, if_false, if_true]
    · exact Or.inr ⟨rfl, Or.inr (bulkWrite_accepts d tt w c hc hr hf hn)⟩
  · refine Or.inl ⟨f, rfl, ?_⟩
    unfold bulkWrite; simp only [hc, hr, hf, Bool.false_eq_true, if_false]
    cases f.kind
    · exact Or.inl rfl
    · exact Or.inr rfl
    · exact Or.inr rfl

theorem waitTimeout_run {α : Type} (tt : Timeout) (w : World) : (waitTimeout tt : M α) w =
    (.error (match tt with | none => .hang | some _ => .transportTimeout),
     { w with now := w.now + (match tt with | none => 0 | some t => if t > 0 then t else 0) }) := by
  cases tt
  · exact congrArg (Prod.mk _) (by rw [Int.add_zero])
  · rfl

/-- the world after `transport.close()` -/
def closed0 (w : World) : World :=
  { w with cur := none, past := (match w.cur with | none => w.past | some c => c.peerGot :: w.past),
           trace := .tclose :: w.trace }

theorem tClose_run (w : World) : tClose w = (.ok (), closed0 w) := by
  unfold tClose closed0
  cases w.cur <;> rfl

theorem clearAll_run (w : World) (h : lockStore ∉ w.locks) :
    withLock lockStore storeClearAll w = (.ok (), { w with store := [] }) := by
  rw [withLock_run, if_neg h]
  simp only [storeClearAll, M.modify_run, List.erase_cons_head]

theorem tConnect_run (tt : Timeout) (w : World) : tConnect tt w =
    (if w.conns.head?.any (!·.connectFails) then .ok () else .error .transportError,
     { w with conns := w.conns.tail, cur := if w.conns.head?.any (!·.connectFails) then w.conns.head? else w.cur,
              trace := .tconnect :: w.trace }) := by
  unfold tConnect
  split
  · next h => simp [h]
  · next c rest h => cases hf : c.connectFails <;> simp [h, hf]

theorem tConnect_cases (tt : Timeout) (w : World) :
    tConnect tt w = (.error .transportError, { w with conns := w.conns.tail, trace := .tconnect :: w.trace }) ∨
    ∃ c rest, w.conns = c :: rest ∧
      tConnect tt w = (.ok (), { w with conns := rest, cur := some c, trace := .tconnect :: w.trace }) := by
  rw [tConnect_run]
  split
  · next h =>
    rcases hc : w.conns with _ | ⟨c, rest⟩
    · simp [hc] at h
    · exact Or.inr ⟨c, rest, rfl, rfl⟩
  · exact Or.inl rfl

end Adb
