import AdbModel
/-
  Run-lemmas for the effect type `M α := World → Except Err α × World`: how `pure`, `bind`, `throw`,
  `get`, `modify`, `withLock`, `tryFinally`, `swallow` compute when applied to a world.
-/
namespace Adb

@[simp] theorem M.pure_run {α} (a : α) (w : World) : (M.pure a) w = (.ok a, w) := rfl
@[simp] theorem pure_run {α} (a : α) (w : World) : (pure a : M α) w = (.ok a, w) := rfl
@[simp] theorem M.throw_run {α} (e : Err) (w : World) : (M.throw e : M α) w = (.error e, w) := rfl
@[simp] theorem M.get_run (w : World) : M.get w = (.ok w, w) := rfl
@[simp] theorem M.modify_run (f : World → World) (w : World) : M.modify f w = (.ok (), f w) := rfl
@[simp] theorem now_run (w : World) : now w = (.ok w.now, w) := rfl
@[simp] theorem emit_run (e : TEv) (w : World) : emit e w = (.ok (), { w with trace := e :: w.trace }) := rfl
@[simp] theorem liftExcept_run {α} (x : Except Err α) (w : World) : liftExcept x w = (x, w) := rfl

theorem bind_run {α β} (x : M α) (f : α → M β) (w : World) :
    (x >>= f) w = match x w with
      | (.ok a, w') => f a w'
      | (.error e, w') => (.error e, w') := rfl

theorem bind_run_ok {α β} {x : M α} {f : α → M β} {w w' : World} {a : α} (h : x w = (.ok a, w')) :
    (x >>= f) w = f a w' := by simp [bind_run, h]

theorem bind_run_err {α β} {x : M α} {f : α → M β} {w w' : World} {e : Err} (h : x w = (.error e, w')) :
    (x >>= f) w = (.error e, w') := by simp [bind_run, h]

theorem bind_any_inv {α β} {x : M α} {f : α → M β} {w w'' : World} {r : Except Err β}
    (h : (x >>= f) w = (r, w'')) :
    (∃ e, x w = (.error e, w'') ∧ r = .error e) ∨ ∃ a w', x w = (.ok a, w') ∧ f a w' = (r, w'') := by
  rw [bind_run] at h
  split at h
  · next a w' hx => exact Or.inr ⟨a, w', hx, h⟩
  · next e w' hx => cases h; exact Or.inl ⟨e, hx, rfl⟩

theorem bind_ok_inv {α β} {x : M α} {f : α → M β} {w w'' : World} {b : β}
    (h : (x >>= f) w = (.ok b, w'')) : ∃ a w', x w = (.ok a, w') ∧ f a w' = (.ok b, w'') := by
  rcases bind_any_inv h with ⟨_, -, he⟩ | h'
  · cases he
  · exact h'

theorem bind_err_inv {α β} {x : M α} {f : α → M β} {w w'' : World} {e : Err}
    (h : (x >>= f) w = (.error e, w'')) :
    (x w = (.error e, w'')) ∨ ∃ a w', x w = (.ok a, w') ∧ f a w' = (.error e, w'') := by
  rcases bind_any_inv h with ⟨_, hx, he⟩ | h'
  · cases he; exact Or.inl hx
  · exact Or.inr h'

theorem elapsedGt_run (start : Int) (limit : Timeout) (w : World) :
    elapsedGt start limit w = match limit with
      | none => (.error .pyTypeError, w)
      | some l => (.ok (decide (w.now - start > l)), w) := rfl

theorem withLock_run {α} (l : Nat) (body : M α) (w : World) :
    withLock l body w =
      if l ∈ w.locks then (.error .hang, w)
      else ((body { w with locks := l :: w.locks }).1,
            { (body { w with locks := l :: w.locks }).2 with
                locks := (body { w with locks := l :: w.locks }).2.locks.erase l }) := by
  unfold withLock
  split <;> rfl

theorem withLock_any_inv {α} {l : Nat} {body : M α} {w w' : World} {r : Except Err α}
    (h : withLock l body w = (r, w')) (hl : l ∉ w.locks) :
    ∃ w1, body { w with locks := l :: w.locks } = (r, w1) ∧ w' = { w1 with locks := w1.locks.erase l } := by
  rw [withLock_run, if_neg hl] at h
  cases h
  exact ⟨_, rfl, rfl⟩

theorem withLock_ok_inv {α} {l : Nat} {body : M α} {w w' : World} {a : α} (h : withLock l body w = (.ok a, w')) :
    l ∉ w.locks ∧ ∃ w1, body { w with locks := l :: w.locks } = (.ok a, w1) ∧ w' = { w1 with locks := w1.locks.erase l } := by
  by_cases hl : l ∈ w.locks
  · rw [withLock_run, if_pos hl] at h; cases h
  · exact ⟨hl, withLock_any_inv h hl⟩

@[simp] theorem M.swallow_run (x : M Unit) (w : World) : M.swallow x w = (.ok (), (x w).2) := rfl

theorem tryFinally_run {α} (x : M α) (fin : M Unit) (w : World) :
    M.tryFinally x fin w =
      ((match (x w).1 with
        | .error e => .error e
        | .ok a => (match (fin (x w).2).1 with | .ok _ => .ok a | .error e' => .error e')),
       (fin (x w).2).2) := by
  unfold M.tryFinally
  rcases x w with ⟨_ | a, w1⟩ <;> dsimp only <;> rcases fin w1 with ⟨_ | _, w2⟩ <;> rfl

theorem tryFinally_inv {α} {x : M α} {fin : M Unit} {w w' : World} {res : Except Err α}
    (h : M.tryFinally x fin w = (res, w')) :
    ∃ r1 w1 r2, x w = (r1, w1) ∧ fin w1 = (r2, w') ∧
      res = (match r1 with
        | .error e => .error e
        | .ok a => (match r2 with | .ok _ => .ok a | .error e' => .error e')) := by
  rw [tryFinally_run] at h
  cases h
  exact ⟨_, _, _, rfl, rfl, rfl⟩

theorem tryFinally_fin_ok {α} {x : M α} {fin : M Unit} {w w1 w' : World} {a : α} {r2 : Except Err Unit}
    (h : M.tryFinally x fin w = (.ok a, w')) {r1 : Except Err α} (hx : x w = (r1, w1)) (hf : fin w1 = (r2, w')) :
    r2 = .ok () := by
  rw [tryFinally_run, hx] at h
  rcases r1 with _ | _ <;> rcases r2 with _ | _ <;> simp [hf] at h
  rfl

end Adb
