import AdbProofs.Lemmas.Monad
/-
  Named blocks of the model's `do`-blocks, with the equations that cut the model functions there.
  A proof about `ioConnect`, `readIter`, `fsRead` or `openStream` rewrites with the equation and treats each
  block once (a block that follows an `if` without `else` is a join point: unfolding the function whole
  would repeat it).  Each equation holds by `rfl` or `split <;> rfl`; that of `pullInner` goes by cases on
  the result of the `stat`, because there the `do` block calls its join point inside the branches of a `match`.
-/
namespace Adb

def cnxnMsg (banner : Bytes) : Msg := ⟨.CNXN, Generated.VERSION, Generated.MAX_ADB_DATA, ascii "host::" ++ banner ++ [0]⟩
def pubMsg (keys : List Nat) : Msg := ⟨.AUTH, Generated.AUTH_RSAPUBLICKEY, 0, stubPub (keys.headD 0) ++ [0]⟩

/-- step 7 of `_AdbIOManager.connect` -/
def pubkeyStep (keys : List Nat) (authTimeout : Timeout) (hasCb : Bool) (t : Txn) : M Nat := do
  if hasCb then emit .cbAuth
  sendRaw (pubMsg keys) t
  let p ← expectPacket [.CNXN] { t with tt := authTimeout }
  pure p.arg1

/-- steps 2–7 of `_AdbIOManager.connect` -/
def connTail (banner : Bytes) (keys : List Nat) (authTimeout : Timeout) (hasCb : Bool) (t : Txn) : M Nat := do
  sendRaw (cnxnMsg banner) t
  let p ← expectPacket [.AUTH, .CNXN] t
  if p.cmd ≠ Cmd.AUTH then pure p.arg1 else do
    if keys.isEmpty then do
      tClose
      M.throw .deviceAuth
    match (← authLoop t keys p) with
    | (some maxdata, _) => pure maxdata
    | (none, _) => pubkeyStep keys authTimeout hasCb t

theorem ioConnect_eq (banner : Bytes) (keys : List Nat) (authT : Timeout) (hasCb : Bool) (t : Txn) :
    ioConnect banner keys authT hasCb t = withLock lockTransport (do
      tClose
      withLock lockStore storeClearAll
      tConnect t.tt
      connTail banner keys authT hasCb t) := rfl

/-- what `readIter` does with a packet just read from the device: park, deliver or drop it -/
def readIterRest (expected : List Cmd) (t : Txn) (allowZeros : Bool) (p : Pkt) : M (Option Pkt) :=
  if !t.argsMatch p.arg0 p.arg1 allowZeros then do
    withLock lockStore (storePut p)
    pure none
  else do
    if p.cmd = Cmd.CLSE then withLock lockStore (storeClear p.arg0 p.arg1)
    if expected.contains p.cmd then do emit (.deliver p); pure (some p)
    else do emit (.drop p); pure none

/-- what `readIter` runs under the transport lock -/
def readIterBody (expected : List Cmd) (t : Txn) (allowZeros : Bool) : M (Option Pkt) := do
  let w ← M.get
  match (← withLock lockStore (drainLoop expected t allowZeros w.fuel)) with
  | some p => pure (some p)
  | none =>
    let p ← readPacket t
    readIterRest expected t allowZeros p

theorem readIter_eq_body (ex : List Cmd) (t : Txn) (az : Bool) :
    readIter ex t az = withLock lockTransport (readIterBody ex t az) := rfl

/-- the last step of `_filesync_read`: the id must be an expected one -/
def fsReadCheck (ex : List SyncId) (cid : SyncId) (header : List Nat) (data : Bytes) (fi : FsInfo) :
    M (SyncRec × FsInfo) := do
  if !ex.contains cid then
    if cid = SyncId.FAIL then M.throw (.adbCommandFailure data)
    else M.throw .invalidResponse
  if !(cid ≠ SyncId.STAT) then pure (⟨cid, header.drop 1, none⟩, fi)
  else pure (⟨cid, (header.drop 1).dropLast, some data⟩, fi)

/-- `_filesync_read` after the optional flush -/
def fsReadTail (ex : List SyncId) (t : Txn) (fi : FsInfo) : M (SyncRec × FsInfo) := do
  let (hdrBytes, fi) ← fsReadBuffered fi.fmt.size t fi
  let header := unpackWords (fi.fmt.size / 4) hdrBytes
  match SyncId.ofWire? (header.headD 0) with
  | none => M.throw .pyKeyError
  | some cid =>
    let (data, fi) ← if cid ≠ SyncId.STAT then fsReadBuffered (header.getLastD 0) t fi else pure ([], fi)
    fsReadCheck ex cid header data fi

theorem fsRead_eq_tail (ex : List SyncId) (t : Txn) (fi : FsInfo) :
    fsRead ex t fi = ((if !fi.sendBuf.isEmpty then fsFlush t fi else pure fi) >>= fsReadTail ex t) := by
  unfold fsRead; split <;> rfl

theorem fsRead_eq_ite (ex : List SyncId) (t : Txn) (fi : FsInfo) :
    fsRead ex t fi = if !fi.sendBuf.isEmpty then fsFlush t fi >>= fsReadTail ex t else fsReadTail ex t fi := by
  unfold fsRead; split <;> rfl

/-- the first block of `_open` -/
def openTxnBlock (tt rt total : Timeout) : M Txn := withLock lockLocalId do
    M.modify fun w => { w with localId := nextId w.localId }
    let w ← M.get
    let tt' ← getTT tt
    liftExcept (Txn.make (some w.localId) none tt' rt total)

def openRest (dest : Bytes) (t : Txn) : M Txn :=
  ioSend ⟨.OPEN, t.localId.getD 0, 0, dest ++ [0]⟩ t >>= fun _ =>
  ioRead [.OKAY] t >>= fun p =>
  pure { t with remoteId := some p.arg0 }

theorem openStream_eq (dest : Bytes) (tt rt total : Timeout) :
    openStream dest tt rt total = openTxnBlock tt rt total >>= openRest dest := rfl

/-- the part of `_pull` after the optional `stat` -/
def pullRest (devPath : Bytes) (cb : CbMode) (t : Txn) (fi : FsInfo) (total : Nat) : M Unit := do
  let fi ← fsSend .RECV t fi devPath
  let w ← M.get
  pullLoop devPath cb total t w.fuel fi

/-- the optional `stat` at the head of `_pull` -/
def pullTotal (devPath : Bytes) (cb : CbMode) (t : Txn) : M Nat :=
  if cb ≠ CbMode.none then do
    match (← devStat devPath t.tt t.rt) with
    | .stat _ size _ => pure size
    | _ => pure 0
  else pure 0

theorem pullInner_eq (devPath : Bytes) (cb : CbMode) (t : Txn) (fi : FsInfo) :
    pullInner devPath cb t fi = pullTotal devPath cb t >>= pullRest devPath cb t fi := by
  unfold pullInner pullTotal pullRest
  by_cases hc : cb = CbMode.none
  · subst hc; rfl
  · simp only [ne_eq, hc, not_false_eq_true, if_true]
    funext w
    simp only [bind_run]
    cases h : devStat devPath t.tt t.rt w with
    | mk r w1 =>
      cases r with
      | error e => rfl
      | ok v => cases v <;> rfl

end Adb
