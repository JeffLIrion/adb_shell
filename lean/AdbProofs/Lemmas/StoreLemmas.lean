import AdbProofs.Lemmas.Assoc
/- Packet store: how `queue` (the abstraction) and `Inv` react to the dict primitives. -/
namespace Adb
namespace Store

theorem queue_aset (s : Store) (a1 : Nat) (inner : Inner) (b0 b1 : Nat) :
    queue (aset a1 inner s) b0 b1 = if b1 = a1 then alookup b0 inner else queue s b0 b1 := by
  unfold queue
  by_cases h : b1 = a1
  · subst h; simp
  · simp [h, alookup_aset_ne (Ne.symm h)]

theorem queue_adel (s : Store) (hn : (akeys s).Nodup) (a1 b0 b1 : Nat) :
    queue (adel a1 s) b0 b1 = if b1 = a1 then none else queue s b0 b1 := by
  unfold queue
  by_cases h : b1 = a1
  · subst h; simp [alookup_adel_self hn]
  · simp [h, alookup_adel_ne (Ne.symm h)]

theorem inv_empty : Inv ([] : Store) := by simp [Inv, akeys]

theorem mem_aset {β : Type} {k : Nat} {v : β} {l : List (Nat × β)} {p : Nat × β} (h : p ∈ aset k v l) :
    p = (k, v) ∨ p ∈ l := by
  induction l with
  | nil => exact Or.inl (List.mem_singleton.1 h)
  | cons q rest ih =>
    obtain ⟨k', v'⟩ := q
    rw [aset] at h
    split at h
    · next hk => exact (List.mem_cons.1 (hk ▸ h)).imp_right (List.mem_cons_of_mem _)
    · rcases List.mem_cons.1 h with h | h
      · exact Or.inr (h ▸ List.mem_cons_self)
      · exact (ih h).imp_right (List.mem_cons_of_mem _)

theorem mem_adel {β : Type} {k : Nat} {l : List (Nat × β)} {p : Nat × β} (h : p ∈ adel k l) : p ∈ l :=
  (adel_sublist k l).subset h

theorem inv_aset {s : Store} (hI : Inv s) (a1 : Nat) (inner : Inner) (hn : (akeys inner).Nodup) (hne : inner ≠ []) :
    Inv (aset a1 inner s) := by
  refine ⟨nodup_aset hI.1, ?_⟩
  intro p hp
  rcases mem_aset hp with h | h
  · subst h; exact ⟨hn, hne⟩
  · exact hI.2 p h

theorem inv_adel {s : Store} (hI : Inv s) (a1 : Nat) : Inv (adel a1 s) :=
  ⟨nodup_adel hI.1, fun p hp => hI.2 p (mem_adel hp)⟩

theorem inner_of_lookup {s : Store} (hI : Inv s) {a1 : Nat} {inner : Inner} (h : alookup a1 s = some inner) :
    (akeys inner).Nodup ∧ inner ≠ [] := hI.2 (a1, inner) (alookup_some_mem h)

theorem aset_ne_nil {β : Type} (k : Nat) (v : β) (l : List (Nat × β)) : aset k v l ≠ [] := by
  cases l with
  | nil => simp [aset]
  | cons p rest => obtain ⟨k', v'⟩ := p; by_cases h : k' = k <;> simp [aset, h]

end Store
end Adb
