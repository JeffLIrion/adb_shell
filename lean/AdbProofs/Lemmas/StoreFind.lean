import AdbProofs.Lemmas.StoreOps
/- Packet store lookups: `find` / `find_allow_zeros` against `pendingKeys`. -/
namespace Adb
namespace Store

theorem alookup_of_mem {β : Type} {l : List (Nat × β)} (hn : (akeys l).Nodup) {k : Nat} {v : β}
    (h : (k, v) ∈ l) : alookup k l = some v := by
  induction l with
  | nil => simp at h
  | cons p rest ih =>
    obtain ⟨k', v'⟩ := p
    simp [akeys] at hn
    simp at h
    rcases h with ⟨hk, hv⟩ | h
    · simp [alookup, hk, hv]
    · have hne : k' ≠ k := by
        intro he; subst he; exact hn.1 v h
      simp [alookup, hne]
      exact ih (by simpa [akeys] using hn.2) h

theorem mem_pendingKeys_raw (s : Store) (k0 k1 : Nat) :
    (k0, k1) ∈ pendingKeys s ↔ ∃ inner q, (k1, inner) ∈ s ∧ (k0, q) ∈ inner ∧ q ≠ [] := by
  simp only [pendingKeys, List.mem_flatMap, List.mem_map, List.mem_filter]
  constructor
  · rintro ⟨⟨a1, inner⟩, hp, ⟨a0, q⟩, ⟨he, hq⟩, heq⟩
    simp at heq
    obtain ⟨h0, h1⟩ := heq
    subst h0 h1
    exact ⟨inner, q, hp, he, by simpa using hq⟩
  · rintro ⟨inner, q, hp, he, hq⟩
    exact ⟨(k1, inner), hp, (k0, q), ⟨he, by simpa using hq⟩, rfl⟩

/-- `pendingKeys` lists exactly the pairs whose queue is non-empty. -/
theorem mem_pendingKeys {s : Store} (hI : Inv s) (k0 k1 : Nat) :
    (k0, k1) ∈ pendingKeys s ↔ ∃ q, s.queue k0 k1 = some q ∧ q ≠ [] := by
  rw [mem_pendingKeys_raw]
  constructor
  · rintro ⟨inner, q, hp, he, hq⟩
    have h1 := alookup_of_mem hI.1 hp
    have h0 := alookup_of_mem (hI.2 _ hp).1 he
    exact ⟨q, by simp [queue, h1, h0], hq⟩
  · rintro ⟨q, hq, hne⟩
    unfold queue at hq
    cases h1 : alookup k1 s with
    | none => simp [h1] at hq
    | some inner =>
      simp [h1] at hq
      exact ⟨inner, q, alookup_some_mem h1, alookup_some_mem hq, hne⟩

theorem firstNonEmptyInner_some {p : Nat → Bool} {inner : Inner} {k0 : Nat}
    (h : firstNonEmptyInner p inner = some k0) : ∃ q, (k0, q) ∈ inner ∧ p k0 = true ∧ q ≠ [] := by
  induction inner with
  | nil => simp [firstNonEmptyInner] at h
  | cons e rest ih =>
    obtain ⟨a0, q⟩ := e
    simp only [firstNonEmptyInner] at h
    split at h
    · rename_i hc
      simp at h hc
      subst h
      exact ⟨q, by simp, hc.1, hc.2⟩
    · obtain ⟨q', hm, hp, hq⟩ := ih h
      exact ⟨q', by simp [hm], hp, hq⟩

theorem firstNonEmptyInner_none {p : Nat → Bool} {inner : Inner}
    (h : firstNonEmptyInner p inner = none) : ∀ k0 q, (k0, q) ∈ inner → p k0 = true → q = [] := by
  induction inner with
  | nil => simp
  | cons e rest ih =>
    obtain ⟨a0, q⟩ := e
    simp only [firstNonEmptyInner] at h
    split at h
    · simp at h
    · rename_i hc
      intro k0 q' hm hp
      simp at hm
      rcases hm with ⟨h0, hq⟩ | hm
      · subst h0 hq
        simp [hp] at hc
        exact hc
      · exact ih h k0 q' hm hp

theorem mem_pendingKeys_cons (a1 : Nat) (inner : Inner) (rest : Store) (k : Nat × Nat) :
    k ∈ pendingKeys ((a1, inner) :: rest) ↔ (∃ q, (k.1, q) ∈ inner ∧ q ≠ [] ∧ k.2 = a1) ∨ k ∈ pendingKeys rest := by
  obtain ⟨k0, k1⟩ := k
  rw [pendingKeys, List.flatMap_cons, List.mem_append]
  refine or_congr ⟨?_, ?_⟩ Iff.rfl
  · intro hk
    obtain ⟨⟨a0, q⟩, he, heq⟩ := List.mem_map.1 hk
    obtain ⟨hm, hq⟩ := List.mem_filter.1 he
    cases heq
    exact ⟨q, hm, by simpa using hq, rfl⟩
  · rintro ⟨q, hm, hq, rfl⟩
    exact List.mem_map.2 ⟨(k0, q), List.mem_filter.2 ⟨hm, by simpa using hq⟩, rfl⟩

theorem firstNonEmpty_some {p : Nat → Bool} {s : Store} {k : Nat × Nat}
    (h : firstNonEmpty p s = some k) : k ∈ pendingKeys s ∧ p k.1 = true := by
  induction s with
  | nil => simp [firstNonEmpty] at h
  | cons e rest ih =>
    obtain ⟨a1, inner⟩ := e
    simp only [firstNonEmpty] at h
    cases hf : firstNonEmptyInner p inner with
    | some k0 =>
      simp [hf] at h
      subst h
      obtain ⟨q, hm, hp, hq⟩ := firstNonEmptyInner_some hf
      exact ⟨(mem_pendingKeys_cons ..).2 (Or.inl ⟨q, hm, hq, rfl⟩), hp⟩
    | none =>
      simp [hf] at h
      exact ⟨(mem_pendingKeys_cons ..).2 (Or.inr (ih h).1), (ih h).2⟩

theorem firstNonEmpty_none {p : Nat → Bool} {s : Store}
    (h : firstNonEmpty p s = none) : ∀ k ∈ pendingKeys s, p k.1 = false := by
  induction s with
  | nil => simp [pendingKeys]
  | cons e rest ih =>
    obtain ⟨a1, inner⟩ := e
    simp only [firstNonEmpty] at h
    cases hf : firstNonEmptyInner p inner with
    | some k0 => simp [hf] at h
    | none =>
      simp [hf] at h
      intro k hk
      rcases (mem_pendingKeys_cons ..).1 hk with ⟨q, hm, hne, -⟩ | hk
      · cases hp : p k.1 with
        | false => rfl
        | true => exact absurd (firstNonEmptyInner_none hf k.1 q hm hp) hne
      · exact ih h k hk

/-- Soundness and completeness of `find` for every pattern (exact, unknown remote id, unknown local
    id, both unknown): an answer is a pending pair matching the pattern; no answer means no pending
    pair matches. -/
theorem find_spec {s : Store} (hI : Inv s) (p0 p1 : Option Nat) :
    (∀ k, find s p0 p1 = some k → k ∈ pendingKeys s ∧ keyMatches p0 p1 k = true) ∧
    (find s p0 p1 = none → ∀ k ∈ pendingKeys s, keyMatches p0 p1 k = false) := by
  by_cases hs : s.isEmpty = true
  · have : s = [] := by simpa using hs
    subst this
    simp [find, pendingKeys]
  · have hs' : s.isEmpty = false := by simpa using hs
    cases p1 with
    | none =>
      -- the scan for the first non-empty queue whose first component passes the test of `keyMatches p0 none`
      have hf : find s p0 none = firstNonEmpty (fun k0 => keyMatches p0 none (k0, 0)) s := by
        cases p0 <;> simp [find, hs', keyMatches]
      rw [hf]
      exact ⟨fun k hk => ⟨(firstNonEmpty_some hk).1, (firstNonEmpty_some hk).2⟩, fun hn k hk => firstNonEmpty_none hn k hk⟩
    | some y =>
      -- a pair with another second component does not match; `(k0, y)` is pending exactly when the two lookups
      -- that `find` makes succeed with a non-empty queue
      suffices h : (∀ k, find s p0 (some y) = some k → k ∈ pendingKeys s ∧ keyMatches p0 (some y) k = true) ∧
          (find s p0 (some y) = none → ∀ k0 inner q, alookup y s = some inner → alookup k0 inner = some q → q ≠ [] →
            keyMatches p0 (some y) (k0, y) = false) by
        refine ⟨h.1, fun hn ⟨k0, k1⟩ hk => ?_⟩
        by_cases hk1 : k1 = y
        · subst hk1
          obtain ⟨q, hq, hne⟩ := (mem_pendingKeys hI k0 k1).1 hk
          obtain ⟨inner, hi, hq⟩ := Option.bind_eq_some_iff.1 hq
          exact h.2 hn k0 inner q hi hq hne
        · simp [keyMatches, hk1]
      have pend : ∀ {x inner q}, alookup y s = some inner → alookup x inner = some q → q ≠ [] → (x, y) ∈ pendingKeys s :=
        fun hi hq hne => (mem_pendingKeys hI _ _).2 ⟨_, by simp [queue, hi, hq], hne⟩
      cases h1 : alookup y s with
      | none =>
        simp only [find, hs', Bool.false_eq_true, ↓reduceIte, h1]
        exact ⟨by simp, fun _ _ _ _ hi => nomatch hi⟩
      | some inner =>
        cases p0 with
        | none =>
          simp only [find, hs', Bool.false_eq_true, ↓reduceIte, h1]
          constructor
          · intro k hk
            obtain ⟨k0, hf, rfl⟩ := Option.map_eq_some_iff.1 hk
            obtain ⟨q, hm, _, hq⟩ := firstNonEmptyInner_some hf
            exact ⟨pend h1 (alookup_of_mem (inner_of_lookup hI h1).1 hm) hq, by simp [keyMatches]⟩
          · intro hn k0 inner' q hi hq hne
            cases hi
            exact absurd (firstNonEmptyInner_none (Option.map_eq_none_iff.1 hn) k0 q (alookup_some_mem hq) rfl) hne
        | some x =>
          cases h0 : alookup x inner with
          | none =>
            simp only [find, hs', Bool.false_eq_true, ↓reduceIte, h1, h0]
            refine ⟨by simp, fun _ k0 inner' q hi hq _ => ?_⟩
            cases hi
            have hx : k0 ≠ x := fun he => by rw [he, h0] at hq; cases hq
            simp [keyMatches, hx]
          | some q =>
            simp only [find, hs', Bool.false_eq_true, ↓reduceIte, h1, h0]
            by_cases hq : q = []
            · subst hq
              refine ⟨by simp, fun _ k0 inner' q' hi hq' hne => ?_⟩
              cases hi
              have hx : k0 ≠ x := fun he => by rw [he, h0] at hq'; exact hne (Option.some.inj hq').symm
              simp [keyMatches, hx]
            · rw [if_neg (by simpa using hq)]
              refine ⟨fun k hk => ?_, by simp⟩
              cases hk
              exact ⟨pend h1 h0 hq, by simp [keyMatches]⟩

/-- `find_allow_zeros` answers with the first of the four patterns that `find` answers, and with `None` if none does -/
theorem findAllowZeros_cases (s : Store) (p0 p1 : Option Nat) :
    (∀ k, findAllowZeros s p0 p1 = some k → find s p0 p1 = some k ∨ find s p0 (some 0) = some k ∨
      find s (some 0) p1 = some k ∨ find s (some 0) (some 0) = some k) ∧
    (findAllowZeros s p0 p1 = none → find s p0 p1 = none ∧ find s p0 (some 0) = none ∧
      find s (some 0) p1 = none ∧ find s (some 0) (some 0) = none) := by
  unfold findAllowZeros
  cases find s p0 p1 <;> cases find s p0 (some 0) <;> cases find s (some 0) p1 <;> simp

theorem findAllowZeros_spec {s : Store} (hI : Inv s) (p0 p1 : Option Nat) :
    (∀ k, findAllowZeros s p0 p1 = some k → k ∈ pendingKeys s ∧ keyMatchesZ p0 p1 k = true) ∧
    (findAllowZeros s p0 p1 = none → ∀ k ∈ pendingKeys s, keyMatchesZ p0 p1 k = false) := by
  obtain ⟨hsome, hnone⟩ := findAllowZeros_cases s p0 p1
  constructor
  · intro k hk
    rcases hsome k hk with h | h | h | h <;>
      exact ⟨((find_spec hI _ _).1 k h).1, by simp [keyMatchesZ, ((find_spec hI _ _).1 k h).2]⟩
  · intro hn k hk
    obtain ⟨e1, e2, e3, e4⟩ := hnone hn
    simp [keyMatchesZ, (find_spec hI _ _).2 e1 k hk, (find_spec hI _ _).2 e2 k hk, (find_spec hI _ _).2 e3 k hk,
      (find_spec hI _ _).2 e4 k hk]

end Store
end Adb
