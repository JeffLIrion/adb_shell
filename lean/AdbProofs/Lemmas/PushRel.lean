import AdbProofs.Lemmas.PushSpecs
/-
  Callback irrelevance for C07.  `Rel x₁ x₂`: started in worlds that differ only in the trace, `x₁`
  and `x₂` give the same result and worlds that again differ only in the trace, and the events they
  add are the same once progress-callback records are removed.  Every trace-independent function
  (`Tr`) is related to itself; `callProgress cb₁` is related to `callProgress cb₂`.
-/
namespace Adb.Push
open Adb

/-- everything but a progress-callback record -/
def notProg : TEv → Bool
  | .cbProgress _ _ _ => false
  | _ => true

def Rel {α : Type} (x₁ x₂ : M α) : Prop :=
  ∀ w tr, ∃ e₁ e₂, (x₁ w).2.trace = e₁ ++ w.trace ∧
    x₂ { w with trace := tr } = ((x₁ w).1, { (x₁ w).2 with trace := e₂ ++ tr }) ∧
    e₁.filter notProg = e₂.filter notProg

theorem Rel_of_Tr {α} {Q} {x : M α} (h : Tr Q x) : Rel x x := by
  intro w tr
  obtain ⟨evs, -, h2⟩ := h w
  exact ⟨evs, evs, congrArg (fun p => p.2.trace) (h2 w.trace), h2 tr, rfl⟩

theorem Rel_bind {α β} {x₁ x₂ : M α} {f₁ f₂ : α → M β} (hx : Rel x₁ x₂) (hf : ∀ a, Rel (f₁ a) (f₂ a)) :
    Rel (x₁ >>= f₁) (x₂ >>= f₂) := by
  intro w tr
  obtain ⟨e1, e2, h1, h2, h3⟩ := hx w tr
  cases hxw : x₁ w with
  | mk r w1 =>
    rw [hxw] at h1 h2
    cases r with
    | error e =>
      refine ⟨e1, e2, ?_, ?_, h3⟩
      · rw [bind_run, hxw]; exact h1
      · rw [bind_run, h2, bind_run, hxw]
    | ok a =>
      obtain ⟨e1', e2', h1', h2', h3'⟩ := hf a w1 (e2 ++ tr)
      refine ⟨e1' ++ e1, e2' ++ e2, ?_, ?_, ?_⟩
      · rw [bind_run, hxw]
        simp only []
        rw [h1', h1, List.append_assoc]
      · rw [bind_run, h2, bind_run, hxw]
        simp only []
        rw [h2']
        simp
      · rw [List.filter_append, List.filter_append, h3, h3']

theorem Rel_get_bind {β} {f₁ f₂ : World → M β} (hf : ∀ w, Rel (f₁ w) (f₂ w))
    (hi : ∀ w tr, f₂ { w with trace := tr } = f₂ w) : Rel (M.get >>= f₁) (M.get >>= f₂) := by
  intro w tr
  obtain ⟨e1, e2, h1, h2, h3⟩ := hf w w tr
  refine ⟨e1, e2, h1, ?_, h3⟩
  rw [get_bind_run, get_bind_run, hi w tr]
  exact h2

theorem Rel_ite {α} {c : Prop} [Decidable c] {a₁ a₂ b₁ b₂ : M α} (ha : Rel a₁ a₂) (hb : Rel b₁ b₂) :
    Rel (if c then a₁ else b₁) (if c then a₂ else b₂) := by
  split <;> assumption

theorem Rel_callProgress (cb₁ cb₂ : CbMode) (p : Bytes) (n tot : Nat) :
    Rel (callProgress cb₁ p n tot) (callProgress cb₂ p n tot) := by
  intro w tr
  have hf : ∀ cb, (cbEvs cb p n tot).filter notProg = [] := by
    intro cb; unfold cbEvs; split <;> rfl
  refine ⟨cbEvs cb₁ p n tot, cbEvs cb₂ p n tot, ?_, ?_, by rw [hf, hf]⟩
  · rw [callProgress_run]; rfl
  · rw [callProgress_run, callProgress_run]; rfl

/-- anything goes -/
def QAll : TEv → Prop := fun _ => True
theorem QAll.house : House QAll := fun _ _ => trivial
theorem QAll.deliv : Deliv QAll := fun _ => trivial
theorem QAll.txAll : TxAll QAll := fun _ => trivial
theorem QAll.prog : Prog QAll := fun _ _ _ => trivial

theorem Rel_pushDataLoop (devPath : Bytes) (cb₁ cb₂ : CbMode) (total chunk : Nat) (t : Txn) :
    ∀ fuel content fi, Rel (pushDataLoop devPath cb₁ total chunk t fuel content fi)
                           (pushDataLoop devPath cb₂ total chunk t fuel content fi) := by
  intro fuel
  induction fuel with
  | zero => intro content fi; unfold pushDataLoop; exact Rel_of_Tr (Tr_throw (Q := QAll) _)
  | succ f ih =>
    intro content fi
    unfold pushDataLoop
    dsimp only
    apply Rel_ite
    · exact Rel_of_Tr (Tr_pure (Q := QAll) _)
    · apply Rel_bind (Rel_of_Tr (Tr_fsSend QAll.house QAll.deliv QAll.txAll _ _ _ _ _))
      intro fi1
      apply Rel_bind (Rel_callProgress _ _ _ _ _)
      intro _
      exact ih _ _

theorem Tr_pushTail {Q} (hQ : House Q) (hd : Deliv Q) (ht : TxAll Q) (t : Txn) (fi : FsInfo) (m : Nat) :
    Tr Q (fsSend .DONE t fi [] (some m) >>= fun fi => pushStatus t fi) :=
  Tr_bind (Tr_fsSend hQ hd ht _ t fi _ _) fun _ => Tr_pushStatus hQ hd ht t _

theorem Rel_pushOne (content devPath : Bytes) (mode mtime : Nat) (cb₁ cb₂ : CbMode) (t : Txn) (fi : FsInfo) :
    Rel (pushOne content devPath mode mtime cb₁ t fi) (pushOne content devPath mode mtime cb₂ t fi) := by
  unfold pushOne
  apply Rel_bind (Rel_of_Tr (Tr_fsSend QAll.house QAll.deliv QAll.txAll _ _ _ _ _))
  intro fi1
  refine Rel_get_bind (fun w1 => ?_) (fun _ _ => rfl)
  dsimp only
  apply Rel_bind (Rel_pushDataLoop _ _ _ _ _ _ _ _ _)
  intro fi2
  refine Rel_get_bind (fun w2 => ?_) (fun _ _ => rfl)
  exact Rel_of_Tr (Tr_pushTail QAll.house QAll.deliv QAll.txAll _ _ _)

/-- a selector that ignores progress records does not see their removal -/
theorem filterMap_filter_notProg {α} (f : TEv → Option α) (hf : ∀ p n t, f (.cbProgress p n t) = none) (evs : List TEv) :
    (evs.filter notProg).reverse.filterMap f = evs.reverse.filterMap f := by
  rw [← List.filter_reverse, List.filterMap_filter]
  congr 1
  funext e
  cases e
  case cbProgress p n t => exact (hf p n t).symm
  all_goals rfl

theorem transmitted_filter_notProg (evs : List TEv) : transmitted (evs.filter notProg) = transmitted evs := by
  rw [transmitted_eq, transmitted_eq]
  exact filterMap_filter_notProg txOf (fun _ _ _ => rfl) evs

theorem delivered_filter_notProg (evs : List TEv) : delivered (evs.filter notProg) = delivered evs := by
  rw [delivered_eq, delivered_eq]
  exact filterMap_filter_notProg delivOf (fun _ _ _ => rfl) evs

/-- what `Rel` says about two runs from the SAME world -/
theorem Rel.same_world {α} {x₁ x₂ : M α} (h : Rel x₁ x₂) (w : World) :
    ∃ e₁ e₂, (x₁ w).2.trace = e₁ ++ w.trace ∧ (x₂ w).2.trace = e₂ ++ w.trace ∧
      (x₂ w).1 = (x₁ w).1 ∧ (x₂ w).2 = { (x₁ w).2 with trace := (x₂ w).2.trace } ∧
      e₁.filter notProg = e₂.filter notProg ∧ transmitted e₁ = transmitted e₂ := by
  obtain ⟨e1, e2, h1, h2, h3⟩ := h w w.trace
  have h2' : x₂ w = ((x₁ w).1, { (x₁ w).2 with trace := e2 ++ w.trace }) := h2
  refine ⟨e1, e2, h1, ?_, ?_, ?_, h3, ?_⟩
  · rw [h2']
  · rw [h2']
  · rw [h2']
  · rw [← transmitted_filter_notProg e1, h3, transmitted_filter_notProg]


/-- the same, with the two outcomes named -/
theorem Rel.outcomes {α} {x₁ x₂ : M α} (h : Rel x₁ x₂) (w : World) :
    ∃ evs₁ evs₂ r w₁' w₂', x₁ w = (r, w₁') ∧ x₂ w = (r, w₂') ∧
      w₁'.trace = evs₁ ++ w.trace ∧ w₂'.trace = evs₂ ++ w.trace ∧
      transmitted evs₁ = transmitted evs₂ ∧ evs₁.filter notProg = evs₂.filter notProg ∧
      w₂' = { w₁' with trace := w₂'.trace } ∧
      w₁'.cur = w₂'.cur ∧ w₁'.store = w₂'.store ∧ w₁'.now = w₂'.now := by
  obtain ⟨e1, e2, h1, h2, h3⟩ := h w w.trace
  have h2' : x₂ w = ((x₁ w).1, { (x₁ w).2 with trace := e2 ++ w.trace }) := h2
  cases hx : x₁ w with
  | mk r w1 =>
    rw [hx] at h1 h2'
    refine ⟨e1, e2, r, w1, { w1 with trace := e2 ++ w.trace }, rfl, h2', h1, rfl, ?_, h3, rfl, rfl, rfl, rfl⟩
    rw [← transmitted_filter_notProg e1, h3, transmitted_filter_notProg]

end Adb.Push
