import AdbProofs.Lemmas.FragOps
/-
  Fragmentation independence, FileSync and device layers, the public API (`ApiOp`) and histories.
  `pull` wraps its body in `try/finally`; a `hang` of the clean-up `_clse` after a failing body is swallowed by
  Python (the body's exception is re-raised).  `devPullS` / `ApiOp.runS` are the hang-strict variants that
  report such a hang; they coincide with `devPull` / `ApiOp.run` whenever they do not report `hang`.
-/
namespace Adb.Frag
open Adb

/-! ### FileSync layer -/

theorem Ins_fsFlushLoop (t : Txn) (h : RtOk t.rt) : ∀ fuel fi, Ins (fsFlushLoop t fuel fi) := by
  intro fuel
  induction fuel with
  | zero => intro fi; exact Ins_throw _
  | succ f ih =>
    intro fi
    unfold fsFlushLoop
    fins [ih _, Ins_readUntil _ _ h]

theorem Ins_fsFlush (t : Txn) (h : RtOk t.rt) (fi : FsInfo) : Ins (fsFlush t fi) := by
  unfold fsFlush
  fins [Ins_ioSend _ _, Ins_fsFlushLoop _ h _ _]

theorem Ins_fsSend (id : SyncId) (t : Txn) (h : RtOk t.rt) (fi : FsInfo) (data : Bytes) (size : Option Nat) :
    Ins (fsSend id t fi data size) := by
  unfold fsSend
  fins [Ins_fsFlush _ h _]

theorem Ins_fsReadBufferedLoop (size : Nat) (t : Txn) (h : RtOk t.rt) :
    ∀ fuel fi, Ins (fsReadBufferedLoop size t fuel fi) := by
  intro fuel
  induction fuel with
  | zero => intro fi; exact Ins_throw _
  | succ f ih =>
    intro fi
    unfold fsReadBufferedLoop
    fins [ih _, Ins_readUntil _ _ h]

theorem Ins_fsReadBuffered (size : Nat) (t : Txn) (h : RtOk t.rt) (fi : FsInfo) :
    Ins (fsReadBuffered size t fi) := by
  unfold fsReadBuffered
  fins [Ins_fsReadBufferedLoop _ _ h _ _]

theorem Ins_fsReadCheck (ex : List SyncId) (cid : SyncId) (header : List Nat) (data : Bytes) (fi : FsInfo) :
    Ins (fsReadCheck ex cid header data fi) :=
  Ins_ite (Ins_ite (Ins_bind (Ins_throw _) fun _ => Ins_ite (Ins_pure _) (Ins_pure _))
    (Ins_bind (Ins_throw _) fun _ => Ins_ite (Ins_pure _) (Ins_pure _))) (Ins_ite (Ins_pure _) (Ins_pure _))

theorem Ins_fsReadTail (ex : List SyncId) (t : Txn) (h : RtOk t.rt) (fi : FsInfo) : Ins (fsReadTail ex t fi) :=
  Ins_bind (Ins_fsReadBuffered _ t h fi) fun (hdr, fi) => by
    dsimp -zeta only
    extract_lets header
    split
    · exact Ins_throw _
    exact Ins_ite (Ins_bind (Ins_fsReadBuffered _ t h fi) fun _ => Ins_fsReadCheck _ _ _ _ _)
      (Ins_bind (Ins_pure _) fun _ => Ins_fsReadCheck _ _ _ _ _)

theorem Ins_fsRead (ex : List SyncId) (t : Txn) (h : RtOk t.rt) (fi : FsInfo) : Ins (fsRead ex t fi) := by
  rw [fsRead_eq_tail]
  fins [Ins_fsFlush _ h _, Ins_fsReadTail _ _ h _]

theorem Ins_lookupFile (id : Nat) : Ins (lookupFile id) := by
  apply Ins_of_silent
  intro w c cs tr
  unfold lookupFile
  dsimp only
  split <;> rfl

/-- the progress callback: whatever it does (count, raise) the call is recorded and its exception swallowed;
    nothing inside can hang -/
theorem callProgress_eq (cb : CbMode) (path : Bytes) (n total : Nat) (hcb : cb ≠ CbMode.none) :
    callProgress cb path n total = emit (.cbProgress path n total) := by
  funext w
  cases cb with
  | none => exact absurd rfl hcb
  | count => simp [callProgress, M.swallow, bind_run]
  | raise => simp [callProgress, M.swallow, bind_run]

theorem Ins_callProgress (cb : CbMode) (path : Bytes) (n total : Nat) : Ins (callProgress cb path n total) := by
  by_cases hcb : cb = CbMode.none
  · subst hcb; exact Ins_pure _
  · rw [callProgress_eq cb path n total hcb]; exact Ins_emit _ rfl

theorem Ins_pushDataLoop (devPath : Bytes) (cb : CbMode) (total chunk : Nat) (t : Txn) (h : RtOk t.rt) :
    ∀ fuel content fi, Ins (pushDataLoop devPath cb total chunk t fuel content fi) := by
  intro fuel
  induction fuel with
  | zero => intro content fi; exact Ins_throw _
  | succ f ih =>
    intro content fi
    unfold pushDataLoop
    fins [ih _ _, Ins_fsSend _ _ h _ _ _, Ins_callProgress _ _ _ _]

theorem Ins_pushStatus (t : Txn) (h : RtOk t.rt) (fi : FsInfo) : Ins (pushStatus t fi) := by
  unfold pushStatus
  fins [Ins_fsRead _ _ h _]

theorem Ins_pushOne (content devPath : Bytes) (mode mtime : Nat) (cb : CbMode) (t : Txn) (h : RtOk t.rt) (fi : FsInfo) :
    Ins (pushOne content devPath mode mtime cb t fi) := by
  unfold pushOne
  fins [Ins_fsSend _ _ h _ _ _, Ins_pushDataLoop _ _ _ _ _ h _ _ _, Ins_pushStatus _ h _]

/-! ### device layer -/

theorem Ins_runGuard (g : String) (p : Option Bytes) : Ins (runGuard g p) := by
  apply Ins_of_silent
  intro w c cs tr
  unfold runGuard
  dsimp only
  repeat' split
  all_goals rfl

theorem Ins_runGuards : ∀ gs p, Ins (runGuards gs p) := by
  intro gs
  induction gs with
  | nil => intro p; exact Ins_pure _
  | cons g gs ih => intro p; exact Ins_bind (Ins_runGuard g p) fun _ => ih p

theorem Ins_devConnect (keys : List Nat) (tt authT rt : Timeout) (cb : Bool) (hrt : RtOk rt) :
    Ins (devConnect keys tt authT rt cb) := by
  unfold devConnect
  refine Ins_bind (Ins_getTT tt) fun tt' => ?_
  refine Ins_bind_post (fun t => RtOk t.rt) (Ins_liftExcept _) (Post_liftExcept _ _ ?_) ?_
  · intro t ht
    exact Txn.make_rtOk _ _ _ _ _ t hrt TotOk_none ht
  · intro t ht
    fins [Ins_ioConnect _ _ _ _ _ ht]

theorem Ins_devClose : Ins devClose := by
  unfold devClose
  fins [Ins_ioClose]

theorem Ins_devShellLike (op : String) (svc cmd : Bytes) (tt rt total : Timeout) (dec : Bool) (hrt : RtOk rt)
    (htot : TotOk total) : Ins (devShellLike op svc cmd tt rt total dec) := by
  unfold devShellLike
  exact Ins_bind (Ins_runGuards _ _) fun _ => Ins_service svc cmd tt rt total dec hrt htot

theorem Ins_devRoot (tt rt total : Timeout) (hrt : RtOk rt) (htot : TotOk total) : Ins (devRoot tt rt total) := by
  unfold devRoot
  exact Ins_bind (Ins_runGuards _ _) fun _ =>
    Ins_bind (Ins_service _ _ tt rt total false hrt htot) fun _ => Ins_pure _

theorem Ins_devReboot (fb : Bool) (tt rt total : Timeout) (hrt : RtOk rt) (htot : TotOk total) :
    Ins (devReboot fb tt rt total) := by
  unfold devReboot
  exact Ins_bind (Ins_runGuards _ _) fun _ =>
    Ins_bind (Ins_openStream _ tt rt total hrt htot) fun _ => Ins_pure _

theorem Ins_devStreamingShell (cmd : Bytes) (tt rt : Timeout) (dec : Bool) (hrt : RtOk rt) :
    Ins (devStreamingShell cmd tt rt dec) := by
  unfold devStreamingShell
  exact Ins_bind (Ins_runGuards _ _) fun _ => Ins_streamingService _ cmd tt rt dec hrt

theorem Ins_listLoop (t : Txn) (h : RtOk t.rt) : ∀ fuel fi acc, Ins (listLoop t fuel fi acc) := by
  intro fuel
  induction fuel with
  | zero => intro fi acc; exact Ins_throw _
  | succ f ih =>
    intro fi acc
    unfold listLoop
    fins [ih _ _, Ins_fsRead _ _ h _]

theorem Ins_devList (p : Bytes) (tt rt : Timeout) (hrt : RtOk rt) : Ins (devList p tt rt) := by
  unfold devList
  refine Ins_bind (Ins_runGuards _ _) fun _ => Ins_openStream_bind _ _ _ _ hrt TotOk_none ?_
  intro t ht
  fins [Ins_fsSend _ _ ht _ _ _, Ins_listLoop _ ht _ _ _, Ins_clse _ ht]

theorem Ins_devStat (p : Bytes) (tt rt : Timeout) (hrt : RtOk rt) : Ins (devStat p tt rt) := by
  unfold devStat
  refine Ins_bind (Ins_runGuards _ _) fun _ => Ins_openStream_bind _ _ _ _ hrt TotOk_none ?_
  intro t ht
  fins [Ins_fsSend _ _ ht _ _ _, Ins_fsRead _ _ ht _, Ins_clse _ ht]

theorem Ins_pullLoop (devPath : Bytes) (cb : CbMode) (total : Nat) (t : Txn) (h : RtOk t.rt) :
    ∀ fuel fi, Ins (pullLoop devPath cb total t fuel fi) := by
  intro fuel
  induction fuel with
  | zero => intro fi; exact Ins_throw _
  | succ f ih =>
    intro fi
    unfold pullLoop
    fins [ih _, Ins_fsRead _ _ h _, Ins_callProgress _ _ _ _]

theorem Ins_pullInner (devPath : Bytes) (cb : CbMode) (t : Txn) (h : RtOk t.rt) (fi : FsInfo) :
    Ins (pullInner devPath cb t fi) := by
  unfold pullInner
  fins [Ins_devStat _ _ _ h, Ins_fsSend _ _ h _ _ _, Ins_pullLoop _ _ _ _ h _ _]

/-- `pull` with the hang-strict `try/finally` -/
def devPullS (devPath : Bytes) (cb : CbMode) (tt rt : Timeout) : M Val := do
  runGuards (guardsFor "pull") (some devPath)
  M.modify fun w => { w with sink := some [] }
  let t ← openStream (ascii "sync:") tt rt none
  let w ← M.get
  let fi : FsInfo := { fmt := .pull, maxdata := w.maxdata }
  tryFinallyS (pullInner devPath cb t fi) (clse t)
  pure .none

theorem Ins_devPullS (devPath : Bytes) (cb : CbMode) (tt rt : Timeout) (hrt : RtOk rt) :
    Ins (devPullS devPath cb tt rt) := by
  unfold devPullS
  refine Ins_bind (Ins_runGuards _ _) fun _ => Ins_bind (Ins_modify fun _ _ _ _ => rfl) fun _ =>
    Ins_openStream_bind _ _ _ _ hrt TotOk_none ?_
  intro t ht
  fins [Ins_tryFinallyS (Ins_pullInner _ _ _ ht _) (Ins_clse _ ht)]

theorem Ins_pushFile (fid : Nat) (devPath : Bytes) (mode mtime : Nat) (cb : CbMode) (tt rt : Timeout) (hrt : RtOk rt) :
    Ins (pushFile fid devPath mode mtime cb tt rt) := by
  unfold pushFile
  refine Ins_bind (Ins_lookupFile _) fun _ => Ins_openStream_bind _ _ _ _ hrt TotOk_none ?_
  intro t ht
  fins [Ins_pushOne _ _ _ _ _ _ ht _, Ins_clse _ ht]

theorem Ins_pushFiles (devPath : Bytes) (mode mtime : Nat) (cb : CbMode) (tt rt : Timeout) (hrt : RtOk rt) :
    ∀ es, Ins (pushFiles devPath mode mtime cb tt rt es) := by
  intro es
  induction es with
  | nil => exact Ins_pure _
  | cons e es ih => exact Ins_bind (Ins_pushFile _ _ _ _ _ _ _ hrt) fun _ => ih

theorem Ins_devPush (src : LocalRef) (devPath : Bytes) (mode mtime : Nat) (cb : CbMode) (tt rt : Timeout)
    (hrt : RtOk rt) : Ins (devPush src devPath mode mtime cb tt rt) := by
  unfold devPush
  fins [Ins_runGuards _ _, Ins_pushFile _ _ _ _ _ _ _ hrt, Ins_devShellLike _ _ _ _ _ _ _ hrt TotOk_none,
    Ins_pushFiles _ _ _ _ _ _ hrt _]

end Adb.Frag

/-! ### the public API -/
namespace Adb
open Adb.Frag

/-- the numeric timeouts of the call that bound reads: `read_timeout_s` is a non-negative number and
    `timeout_s` (where the call has one) is `None` or non-negative.  The transport timeout is unconstrained. -/
def ApiOp.TimeoutsOk : ApiOp → Prop
  | .connect _ _ _ rt _ => RtOk rt
  | .close => True
  | .shell _ _ rt total _ => RtOk rt ∧ TotOk total
  | .execOut _ _ rt total _ => RtOk rt ∧ TotOk total
  | .root _ rt total => RtOk rt ∧ TotOk total
  | .reboot _ _ rt total => RtOk rt ∧ TotOk total
  | .streamingShell _ _ rt _ => RtOk rt
  | .list _ _ rt => RtOk rt
  | .stat _ _ rt => RtOk rt
  | .pull _ _ _ rt => RtOk rt
  | .push _ _ _ _ _ _ rt => RtOk rt

/-- the hang-strict semantics: as `ApiOp.run`, except that `pull` reports a `hang` of its clean-up `_clse`
    even when the body raised (Python re-raises the body's exception and the hang goes unnoticed) -/
def ApiOp.runS : ApiOp → M Val
  | .pull p cb tt rt => Frag.devPullS p cb tt rt
  | op => op.run

/-- the call hung (loop budget exhausted or blocked forever), a hang swallowed by `pull`'s `finally` included -/
def ApiOp.Hung (op : ApiOp) (w : World) : Prop := (op.runS w).1 = .error .hang

/-- some call of the history hung -/
def histHung : List ApiOp → World → Prop
  | [], _ => False
  | op :: ops, w => op.Hung w ∨ histHung ops (op.run w).2

namespace Frag

theorem Ins_apiOpS (op : ApiOp) (h : op.TimeoutsOk) : Ins op.runS := by
  cases op with
  | connect keys tt authT rt cb => exact Ins_devConnect keys tt authT rt cb h
  | close => exact Ins_devClose
  | shell cmd tt rt total dec => exact Ins_devShellLike _ _ cmd tt rt total dec h.1 h.2
  | execOut cmd tt rt total dec => exact Ins_devShellLike _ _ cmd tt rt total dec h.1 h.2
  | root tt rt total => exact Ins_devRoot tt rt total h.1 h.2
  | reboot fb tt rt total => exact Ins_devReboot fb tt rt total h.1 h.2
  | streamingShell cmd tt rt dec => exact Ins_devStreamingShell cmd tt rt dec h
  | list p tt rt => exact Ins_devList p tt rt h
  | stat p tt rt => exact Ins_devStat p tt rt h
  | pull p cb tt rt => exact Ins_devPullS p cb tt rt h
  | push src p mode mtime cb tt rt => exact Ins_devPush src p mode mtime cb tt rt h

/-- `x` and `x'` do the same whenever `x'` does not report `hang` -/
def EqUnlessHang {α} (x x' : M α) : Prop := ∀ w, (x' w).1 ≠ .error .hang → x w = x' w

theorem EqUnlessHang.refl {α} (x : M α) : EqUnlessHang x x := fun _ _ => rfl

theorem EqUnlessHang.bind_right {α β} (x : M α) {f f' : α → M β} (hf : ∀ a, EqUnlessHang (f a) (f' a)) :
    EqUnlessHang (x >>= f) (x >>= f') := by
  intro w h
  rw [bind_run] at h ⊢
  rw [bind_run]
  cases hx : x w with
  | mk r v =>
    rw [hx] at h
    cases r with
    | error e => rfl
    | ok a => exact hf a v h

theorem EqUnlessHang.bind_left {α β} {x x' : M α} (f : α → M β) (hx : EqUnlessHang x x') :
    EqUnlessHang (x >>= f) (x' >>= f) := by
  intro w h
  have : (x' w).1 ≠ .error .hang := by
    intro hh
    apply h
    rw [bind_run]
    cases hx' : x' w with
    | mk r v =>
      rw [hx'] at hh
      simp only at hh
      subst hh
      rfl
  rw [bind_run, bind_run, hx w this]

theorem devPull_eq_unless_hang (p : Bytes) (cb : CbMode) (tt rt : Timeout) :
    EqUnlessHang (devPull p cb tt rt) (devPullS p cb tt rt) := by
  unfold devPull devPullS
  refine EqUnlessHang.bind_right _ fun _ => EqUnlessHang.bind_right _ fun _ => EqUnlessHang.bind_right _ fun t =>
    EqUnlessHang.bind_right _ fun w => EqUnlessHang.bind_left _ ?_
  intro v hv
  exact tryFinallyS_eq _ _ v hv

/-- unless the strict semantics reports `hang`, it is the semantics -/
theorem run_eq_runS (op : ApiOp) (w : World) (h : ¬ op.Hung w) : op.run w = op.runS w := by
  cases op with
  | pull p cb tt rt => exact devPull_eq_unless_hang p cb tt rt w h
  | _ => rfl

/-- a `hang` of the real semantics is a `hang` of the strict one -/
theorem hung_of_run_hang (op : ApiOp) (w : World) (h : (op.run w).1 = .error .hang) : op.Hung w := by
  by_cases hh : op.Hung w
  · exact hh
  · rw [run_eq_runS op w hh] at h; exact h

/-- for every operation but `pull` "hung" is just "returned `hang`" -/
theorem hung_iff (op : ApiOp) (w : World) (hp : ∀ p cb tt rt, op ≠ .pull p cb tt rt) :
    op.Hung w ↔ (op.run w).1 = .error .hang := by
  cases op with
  | pull p cb tt rt => exact absurd rfl (hp p cb tt rt)
  | _ => exact Iff.rfl

theorem apiOp_frag (op : ApiOp) (h : op.TimeoutsOk) (w₁ w₂ : World) (hfr : FR w₁ w₂) :
    op.Hung w₁ ∨ op.Hung w₂ ∨ ((op.run w₁).1 = (op.run w₂).1 ∧ FR (op.run w₁).2 (op.run w₂).2) := by
  by_cases h1 : op.Hung w₁
  · exact Or.inl h1
  by_cases h2 : op.Hung w₂
  · exact Or.inr (Or.inl h2)
  rw [run_eq_runS op w₁ h1, run_eq_runS op w₂ h2]
  rcases Ins_apiOpS op h w₁ w₂ hfr with g | g | g
  · exact absurd g h1
  · exact absurd g h2
  · exact Or.inr (Or.inr g)

theorem history_frag (ops : List ApiOp) (h : ∀ op ∈ ops, op.TimeoutsOk) (w₁ w₂ : World) (hfr : FR w₁ w₂) :
    histHung ops w₁ ∨ histHung ops w₂ ∨
      ((runHistory ops w₁).1 = (runHistory ops w₂).1 ∧ FR (runHistory ops w₁).2 (runHistory ops w₂).2) := by
  induction ops generalizing w₁ w₂ with
  | nil => exact Or.inr (Or.inr ⟨rfl, hfr⟩)
  | cons op ops ih =>
    simp only [histHung, runHistory]
    rcases apiOp_frag op (h op (by simp)) w₁ w₂ hfr with g | g | ⟨g1, g2⟩
    · exact Or.inl (Or.inl g)
    · exact Or.inr (Or.inl (Or.inl g))
    · rcases ih (fun o ho => h o (by simp [ho])) _ _ g2 with i | i | ⟨i1, i2⟩
      · exact Or.inl (Or.inr i)
      · exact Or.inr (Or.inl (Or.inr i))
      · exact Or.inr (Or.inr ⟨by rw [g1, i1], i2⟩)

end Frag
end Adb
