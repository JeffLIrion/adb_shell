import AdbProofs.Lemmas.Transport
import AdbProofs.Lemmas.Trace
/-
  Frames.  Many facts about the model have the form "every run of `x`, whatever its outcome, takes a world
  `w` to a world `w'` with `R w w'`", for a relation `R` that composes: the trace only grows and locks,
  availability, … are untouched (`Frame`), the id counter stays 32-bit (`IdB`), the id counter or the pull
  destination is left alone, no `tx` event is added (`Quiet`).  `Pres R x` is that statement.  It composes
  over `>>=`, `if`, `with lock:`, `try/finally` for every `R` that is a preorder and is stable under the lock
  bracket (`WRel`), so it is proved once per model function (PresOps.lean), for every `R` that tolerates the
  few primitive world updates the function performs.
-/
namespace Adb

def Pres (R : World → World → Prop) {α : Type} (x : M α) : Prop := ∀ w, R w (x w).2

def Admits (R : World → World → Prop) (e : TEv) : Prop := ∀ w, R w { w with trace := e :: w.trace }

/-- what every frame relation provides -/
structure WRel (R : World → World → Prop) : Prop where
  refl : ∀ w, R w w
  trans : ∀ {a b c}, R a b → R b c → R a c
  lock : ∀ {w w'} (l : Nat), R { w with locks := l :: w.locks } w' → R w { w' with locks := w'.locks.erase l }
  transport : ∀ w conns cur past now, R w { w with conns := conns, cur := cur, past := past, now := now }
  store : ∀ w s, R w { w with store := s }
  event : ∀ e, e.silent = true → Admits R e

variable {R : World → World → Prop}

theorem WRel.transport_event (hR : WRel R) (w : World) (conns cur past now) {e : TEv} (he : e.silent = true) :
    R w { w with conns := conns, cur := cur, past := past, now := now, trace := e :: w.trace } :=
  hR.trans (hR.transport w conns cur past now) (hR.event e he _)

theorem WRel.store_event (hR : WRel R) (w : World) (s : Store) {e : TEv} (he : e.silent = true) :
    R w { w with store := s, trace := e :: w.trace } :=
  hR.trans (hR.store w s) (hR.event e he _)

theorem Grows.wrel {Q : TEv → Prop} (h : ∀ e, e.silent = true → Q e) : WRel (Grows Q) where
  refl := .refl Q
  trans := .trans
  lock _ h := h
  transport _ _ _ _ _ := .of_trace_eq rfl
  store _ _ := .of_trace_eq rfl
  event e he _ := .event (h e he) rfl

theorem Pres.run {α} {x : M α} (h : Pres R x) {w w' : World} {r : Except Err α} (hx : x w = (r, w')) : R w w' := by
  have := h w; rwa [hx] at this

theorem Pres.of_pure (hR : WRel R) {α} {x : M α} (hx : ∀ w, (x w).2 = w) : Pres R x :=
  fun w => (hx w).symm ▸ hR.refl w

theorem Pres.of_local (hR : WRel R) {α} {x : M α} (h : Local x) : Pres R x := by
  intro w; obtain ⟨_, _, _, h⟩ := h.run w; rw [h]; exact hR.transport w _ _ _ _

theorem Pres.pure (hR : WRel R) {α} (a : α) : Pres R (pure a : M α) := .of_pure hR fun _ => rfl
theorem Pres.mpure (hR : WRel R) {α} (a : α) : Pres R (M.pure a : M α) := .of_pure hR fun _ => rfl
theorem Pres.throw (hR : WRel R) {α} (e : Err) : Pres R (M.throw e : M α) := .of_pure hR fun _ => rfl
theorem Pres.get (hR : WRel R) : Pres R M.get := .of_pure hR fun _ => rfl
theorem Pres.now (hR : WRel R) : Pres R now := .of_pure hR fun _ => rfl
theorem Pres.liftExcept (hR : WRel R) {α} (x : Except Err α) : Pres R (liftExcept x) := .of_pure hR fun _ => rfl
theorem Pres.elapsedGt (hR : WRel R) (s : Int) (l : Timeout) : Pres R (elapsedGt s l) :=
  .of_pure hR fun _ => by cases l <;> rfl

theorem Pres.emit {e : TEv} (he : Admits R e) : Pres R (emit e) := he
theorem Pres.modify {f : World → World} (hf : ∀ w, R w (f w)) : Pres R (M.modify f) := hf

theorem Pres.bind (hR : WRel R) {α β} {x : M α} {f : α → M β} (hx : Pres R x) (hf : ∀ a, Pres R (f a)) :
    Pres R (x >>= f) := by
  intro w
  rw [bind_run]
  have h1 := hx w
  split
  · next a w' hxw => rw [hxw] at h1; exact hR.trans h1 (hf a w')
  · next e w' hxw => rw [hxw] at h1; exact h1

theorem Pres.ite {α} {c : Prop} [Decidable c] {a b : M α} (ha : Pres R a) (hb : Pres R b) :
    Pres R (if c then a else b) := by
  split <;> assumption

theorem Pres.ite_pos {α} {c : Prop} [Decidable c] {a b : M α} (ha : c → Pres R a) (hb : Pres R b) :
    Pres R (if c then a else b) := by
  split
  · next h => exact ha h
  · exact hb

theorem Pres.withLock (hR : WRel R) {α} (l : Nat) {body : M α} (hb : Pres R body) : Pres R (withLock l body) := by
  intro w
  rw [withLock_run]
  split
  · exact hR.refl w
  · exact hR.lock l (hb _)

theorem Pres.tryFinally (hR : WRel R) {α} {x : M α} {fin : M Unit} (hx : Pres R x) (hf : Pres R fin) :
    Pres R (M.tryFinally x fin) := by
  intro w
  rw [tryFinally_run]
  exact hR.trans (hx w) (hf _)

theorem Pres.swallow {x : M Unit} (hx : Pres R x) : Pres R (M.swallow x) := hx

/-- `if c: x` followed by the rest `k` of the block, as `do` notation elaborates it -/
theorem Pres.guard (hR : WRel R) {γ} {c : Prop} [Decidable c] {x : M Unit} {k : Unit → M γ}
    (hx : Pres R x) (hk : Pres R (k ())) : Pres R (if c then x >>= k else k ()) :=
  .ite (.bind hR hx fun _ => hk) hk

/-- `v = x if c else y` followed by the rest `k` of the block -/
theorem Pres.ite_bind (hR : WRel R) {β γ} {c : Prop} [Decidable c] {x y : M β} {k : β → M γ}
    (hx : Pres R x) (hy : Pres R y) (hk : ∀ b, Pres R (k b)) : Pres R (if c then x >>= k else y >>= k) :=
  .ite (.bind hR hx hk) (.bind hR hy hk)

end Adb
