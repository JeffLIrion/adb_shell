import AdbProofs.Lemmas.SyncLoops
/-
  From the device's side (C08, C09): if the reassembled FileSync stream is the encoding of DATA
  chunks + DONE (pull) or of directory entries + DONE (list), the records the host's loops consumed
  are exactly those chunks / entries.  Uses that a reading which stops at the first DONE record is
  unique (`Recs.until_done_unique`).
-/
namespace Adb.SR
open Adb Adb.Push

theorem dataRec_map_inj {a b : List Bytes} (h : a.map dataRec = b.map dataRec) : a = b := by
  have := congrArg (List.map (fun r : SyncRec => r.data.getD [])) h
  simpa [List.map_map, Function.comp_def, dataRec] using this

/-- the encoded pull stream: DATA chunks, then DONE (with whatever payload `dd` the device attaches), then `tail` -/
def pullStream (chunks : List Bytes) (dd tail : Bytes) : Bytes :=
  (chunks.map fun c => syncRec .DATA c.length c).flatten ++ (syncRec .DONE dd.length dd ++ tail)

theorem Recs_pullStream (chunks : List Bytes) (dd tail : Bytes)
    (hc : ∀ c ∈ chunks, c.length < 4294967296) (hdd : dd.length < 4294967296) :
    Recs .pull (pullStream chunks dd tail) (chunks.map dataRec ++ [⟨.DONE, [], some dd⟩]) tail := by
  have h1 := Recs_syncRecs (fmt := .pull) (Or.inl rfl) (chunks.map fun c => (SyncId.DATA, c))
    (syncRec .DONE dd.length dd ++ tail) (by
      intro x hx
      simp only [List.mem_map] at hx
      obtain ⟨c, hc', rfl⟩ := hx
      exact ⟨by simp, hc c hc'⟩)
  simp only [List.map_map, Function.comp_def] at h1
  exact Recs.concat h1 (Recs.cons (parse_syncRec (Or.inl rfl) .DONE dd tail (by decide) hdd) (Recs.nil _))

/-- if the stream is the encoding of `chunks` + DONE, the DATA records consumed up to the first DONE are `chunks` -/
theorem pull_wire {rest tail dd : Bytes} {datas chunks : List Bytes} {done : SyncRec}
    (h : Recs .pull (pullStream chunks dd tail) (datas.map dataRec ++ [done]) rest) (hd : done.id = SyncId.DONE)
    (hc : ∀ c ∈ chunks, c.length < 4294967296) (hdd : dd.length < 4294967296) :
    datas = chunks ∧ done = ⟨.DONE, [], some dd⟩ ∧ rest = tail := by
  have h2 := Recs_pullStream chunks dd tail hc hdd
  obtain ⟨h3, h4, h5⟩ := Recs.until_done_unique h h2
    (fun x hx => by rw [id_of_mem_dataRecs hx]; decide) (fun x hx => by rw [id_of_mem_dataRecs hx]; decide)
    hd rfl
  exact ⟨dataRec_map_inj h3, h4, h5⟩

/-- one directory entry as `list` returns it: (name, mode, size, mtime) -/
abbrev Entry := Bytes × Nat × Nat × Nat

/-- the `DENT` record of an entry -/
def dentOf (e : Entry) : SyncRec := ⟨.DENT, [e.2.1, e.2.2.1, e.2.2.2], some e.1⟩

theorem entryOf_dentOf (e : Entry) : entryOf (dentOf e) = e := by
  obtain ⟨n, a, b, c⟩ := e
  rfl

/-- the encoded list stream: one DENT record per entry, then a DONE record (any field values, any name), then `tail` -/
def listStream (entries : List Entry) (dn : Entry) (tail : Bytes) : Bytes :=
  (entries.map fun e => dentRec .DENT e.2.1 e.2.2.1 e.2.2.2 e.1).flatten ++
    (dentRec .DONE dn.2.1 dn.2.2.1 dn.2.2.2 dn.1 ++ tail)

def Entry.fits (e : Entry) : Prop :=
  e.2.1 < 4294967296 ∧ e.2.2.1 < 4294967296 ∧ e.2.2.2 < 4294967296 ∧ e.1.length < 4294967296

instance : DecidablePred Entry.fits := fun e => by unfold Entry.fits; infer_instance

theorem Recs_dents : ∀ (entries : List Entry) (rest : Bytes), (∀ e ∈ entries, e.fits) →
    Recs .list ((entries.map fun e => dentRec .DENT e.2.1 e.2.2.1 e.2.2.2 e.1).flatten ++ rest)
      (entries.map dentOf) rest := by
  intro entries
  induction entries with
  | nil => intro rest _; exact Recs.nil _
  | cons x xs ih =>
    intro rest h
    simp only [List.map_cons, List.flatten_cons, List.append_assoc]
    obtain ⟨h1, h2, h3, h4⟩ := h x (by simp)
    exact Recs.cons (parse_dentRec .DENT _ _ _ _ _ (by decide) h1 h2 h3 h4) (ih rest (fun y hy => h y (by simp [hy])))

theorem Recs_listStream (entries : List Entry) (dn : Entry) (tail : Bytes)
    (he : ∀ e ∈ entries, e.fits) (hdn : dn.fits) :
    Recs .list (listStream entries dn tail)
      (entries.map dentOf ++ [⟨.DONE, [dn.2.1, dn.2.2.1, dn.2.2.2], some dn.1⟩]) tail := by
  obtain ⟨h1, h2, h3, h4⟩ := hdn
  exact Recs.concat (Recs_dents entries _ he)
    (Recs.cons (parse_dentRec .DONE _ _ _ _ _ (by decide) h1 h2 h3 h4) (Recs.nil _))

/-- if the stream is the encoding of `entries` + DONE, the DENT records consumed up to the first DONE are those of `entries` -/
theorem list_wire {rest tail : Bytes} {dents : List SyncRec} {entries : List Entry} {dn : Entry} {done : SyncRec}
    (h : Recs .list (listStream entries dn tail) (dents ++ [done]) rest) (hd : done.id = SyncId.DONE)
    (hdents : ∀ r ∈ dents, r.id = SyncId.DENT)
    (he : ∀ e ∈ entries, e.fits) (hdn : dn.fits) :
    dents.map entryOf = entries ∧ rest = tail := by
  have h2 := Recs_listStream entries dn tail he hdn
  obtain ⟨h3, -, h5⟩ := Recs.until_done_unique h h2
    (by intro x hx; rw [hdents x hx]; decide)
    (by intro x hx; simp only [List.mem_map] at hx; obtain ⟨d, -, rfl⟩ := hx; simp [dentOf])
    hd rfl
  refine ⟨?_, h5⟩
  rw [h3, List.map_map]
  have : entryOf ∘ dentOf = id := funext entryOf_dentOf
  rw [this, List.map_id]

/-- a stream whose reading reaches a DONE record through records other than FAIL cannot also be read
    as records other than DONE followed by a FAIL record -/
theorem Recs.no_fail {fmt : SyncFmt} : ∀ {b a : List SyncRec} {bs rest mid rest' : Bytes} {done fl : SyncRec},
    Recs fmt bs (a ++ [done]) rest → (∀ x ∈ a, x.id ≠ SyncId.FAIL) → done.id = SyncId.DONE →
    Recs fmt bs b mid → (∀ y ∈ b, y.id ≠ SyncId.DONE) → parse fmt mid = .record fl rest' → fl.id = SyncId.FAIL → False := by
  intro b a bs rest mid rest' done fl h1 ha hd h2 hb hf hfl
  -- the second reading, continued by the FAIL record
  replace h2 := h2.concat (Recs.cons hf (Recs.nil _))
  induction a generalizing b bs with
  | nil =>
    cases b with
    | nil =>
      obtain ⟨rfl, -⟩ := h1.cons_cons h2
      rw [hd] at hfl
      cases hfl
    | cons y ys =>
      obtain ⟨rfl, -⟩ := h1.cons_cons h2
      exact hb _ List.mem_cons_self hd
  | cons x xs ih =>
    cases b with
    | nil =>
      obtain ⟨rfl, -⟩ := h1.cons_cons h2
      exact ha _ List.mem_cons_self hfl
    | cons y ys =>
      obtain ⟨rfl, _, h1', h2'⟩ := h1.cons_cons h2
      exact ih h1' (fun z hz => ha z (List.mem_cons_of_mem _ hz)) (fun z hz => hb z (List.mem_cons_of_mem _ hz)) h2'

end Adb.SR
