import AdbProofs.Lemmas.PresOps
/-
  The frame every model function respects: running it in any world leaves the lock set, the connection
  flag, maxdata, banner, default timeout, loop budget and local files as they were, and only PREPENDS events
  to the trace.  C12 (no lock left held), C13 (availability only changes in connect/close) and the
  trace-based theorems build on it.  `Fr x` is `Pres Frame x` (Pres.lean); the per-function facts are the
  instances of PresOps.lean.
-/
namespace Adb

structure Frame (w w' : World) : Prop where
  locks : w'.locks = w.locks
  available : w'.available = w.available
  maxdata : w'.maxdata = w.maxdata
  banner : w'.banner = w.banner
  defaultTT : w'.defaultTT = w.defaultTT
  fuel : w'.fuel = w.fuel
  files : w'.files = w.files
  dirs : w'.dirs = w.dirs
  trace : ∃ evs, w'.trace = evs ++ w.trace

theorem Frame.refl (w : World) : Frame w w := ⟨rfl, rfl, rfl, rfl, rfl, rfl, rfl, rfl, [], rfl⟩

theorem Frame.trans {a b c : World} (h1 : Frame a b) (h2 : Frame b c) : Frame a c := by
  obtain ⟨e1, he1⟩ := h1.trace
  obtain ⟨e2, he2⟩ := h2.trace
  exact ⟨h2.locks.trans h1.locks, h2.available.trans h1.available, h2.maxdata.trans h1.maxdata,
    h2.banner.trans h1.banner, h2.defaultTT.trans h1.defaultTT, h2.fuel.trans h1.fuel,
    h2.files.trans h1.files, h2.dirs.trans h1.dirs, e2 ++ e1, by simp [he2, he1]⟩

theorem Frame.of_eq {w w' : World} (h1 : w'.locks = w.locks) (h2 : w'.available = w.available) (h3 : w'.maxdata = w.maxdata)
    (h4 : w'.banner = w.banner) (h5 : w'.defaultTT = w.defaultTT) (h6 : w'.fuel = w.fuel) (h7 : w'.files = w.files)
    (h8 : w'.dirs = w.dirs) (h9 : w'.trace = w.trace) : Frame w w' :=
  ⟨h1, h2, h3, h4, h5, h6, h7, h8, [], by simp [h9]⟩

theorem Frame.wrel : WRel Frame where
  refl := Frame.refl
  trans := Frame.trans
  lock l h := ⟨by simp [h.locks], h.available, h.maxdata, h.banner, h.defaultTT, h.fuel, h.files, h.dirs, h.trace⟩
  transport _ _ _ _ _ := .of_eq rfl rfl rfl rfl rfl rfl rfl rfl rfl
  store _ _ := .of_eq rfl rfl rfl rfl rfl rfl rfl rfl rfl
  event e _ _ := ⟨rfl, rfl, rfl, rfl, rfl, rfl, rfl, rfl, [e], rfl⟩

theorem Frame.admits (e : TEv) : Admits Frame e := fun _ => ⟨rfl, rfl, rfl, rfl, rfl, rfl, rfl, rfl, [e], rfl⟩
theorem Frame.alloc (w : World) : Frame w { w with localId := nextId w.localId } :=
  .of_eq rfl rfl rfl rfl rfl rfl rfl rfl rfl
theorem Frame.sink (w : World) (s : Option Bytes) : Frame w { w with sink := s } :=
  .of_eq rfl rfl rfl rfl rfl rfl rfl rfl rfl

def Fr {α : Type} (x : M α) : Prop := ∀ w, Frame w (x w).2

theorem Fr_pure {α} (a : α) : Fr (pure a : M α) := Pres.pure Frame.wrel a
theorem Fr_Mpure {α} (a : α) : Fr (M.pure a : M α) := Pres.mpure Frame.wrel a
theorem Fr_get : Fr M.get := Pres.get Frame.wrel
theorem Fr_elapsedGt (s : Int) (l : Timeout) : Fr (elapsedGt s l) := Pres.elapsedGt Frame.wrel s l
theorem Fr_bind {α β} {x : M α} {f : α → M β} (hx : Fr x) (hf : ∀ a, Fr (f a)) : Fr (x >>= f) :=
  Pres.bind Frame.wrel hx hf
theorem Fr_withLock {α} (l : Nat) {body : M α} (hb : Fr body) : Fr (withLock l body) := Pres.withLock Frame.wrel l hb
theorem Fr_tryFinally {α} {x : M α} {fin : M Unit} (hx : Fr x) (hf : Fr fin) : Fr (M.tryFinally x fin) :=
  Pres.tryFinally Frame.wrel hx hf
theorem Fr_modify {f : World → World} (hf : ∀ w, Frame w (f w)) : Fr (M.modify f) := hf

end Adb
