import AdbProofs.Lemmas.PushLemmas
/-
  The pure reference parser of the FileSync RECEIVE side (C08, C09, C10).

  The receive side of `_filesync_read` is a parser over the byte stream obtained by concatenating
  the payloads of the device's WRTE packets.  `parse fmt bs` reads ONE record of receive format
  `fmt` at the head of `bs`: a header of `fmt.size` bytes = `fmt.size / 4` little-endian words
  whose first word is the id; for `STAT` the remaining words are the fields and there is no data,
  otherwise the last word is the length of the data that follows and the words between are the
  fields.  `Recs fmt bs rs rest` says that `bs` is the records `rs` (in order) followed by `rest`.
  Encoders for the three wire shapes and the decode-after-encode lemmas are at the end.
-/
namespace Adb.SR
open Adb Adb.Push

/-- outcome of reading one record at the head of a byte stream -/
inductive Parsed where
  | more                                   -- the header or the announced data is not complete yet
  | badId (word : Nat)                     -- a complete header whose id word is no FileSync id
  | record (r : SyncRec) (rest : Bytes)       -- a record and the bytes after it
  deriving DecidableEq, Repr

/-- one record of receive format `fmt` at the head of `bs` -/
def parse (fmt : SyncFmt) (bs : Bytes) : Parsed :=
  if bs.length < fmt.size then .more
  else
    let header := unpackWords (fmt.size / 4) (bs.take fmt.size)
    let body := bs.drop fmt.size
    match SyncId.ofWire? (header.headD 0) with
    | none => .badId (header.headD 0)
    | some cid =>
      if cid = SyncId.STAT then .record ⟨cid, header.drop 1, none⟩ body
      else if body.length < header.getLastD 0 then .more
      else .record ⟨cid, (header.drop 1).dropLast, some (body.take (header.getLastD 0))⟩ (body.drop (header.getLastD 0))

/-- pure reference parser: the record at the head of `bs` and the bytes after it, if complete and known -/
def parseRec (fmt : SyncFmt) (bs : Bytes) : Option (SyncRec × Bytes) :=
  match parse fmt bs with
  | .record r rest => some (r, rest)
  | _ => none

theorem parseRec_eq_some {fmt : SyncFmt} {bs : Bytes} {r : SyncRec} {rest : Bytes} :
    parseRec fmt bs = some (r, rest) ↔ parse fmt bs = .record r rest := by
  unfold parseRec
  cases parse fmt bs <;> simp

/-- `bs` is the records `rs`, in order, followed by `rest` -/
inductive Recs (fmt : SyncFmt) : Bytes → List SyncRec → Bytes → Prop
  | nil (bs : Bytes) : Recs fmt bs [] bs
  | cons {bs bs' rest : Bytes} {r : SyncRec} {rs : List SyncRec} :
      parse fmt bs = .record r bs' → Recs fmt bs' rs rest → Recs fmt bs (r :: rs) rest

theorem Recs.cons_inv {fmt : SyncFmt} {bs rest : Bytes} {r : SyncRec} {rs : List SyncRec}
    (h : Recs fmt bs (r :: rs) rest) : ∃ bs', parse fmt bs = .record r bs' ∧ Recs fmt bs' rs rest := by
  cases h with
  | cons hp hr => exact ⟨_, hp, hr⟩

theorem Recs.nil_inv {fmt : SyncFmt} {bs rest : Bytes} (h : Recs fmt bs [] rest) : rest = bs := by
  cases h; rfl

theorem Recs.cons_cons {fmt : SyncFmt} {bs r1 r2 : Bytes} {x y : SyncRec} {a b : List SyncRec}
    (h1 : Recs fmt bs (x :: a) r1) (h2 : Recs fmt bs (y :: b) r2) :
    x = y ∧ ∃ bs', Recs fmt bs' a r1 ∧ Recs fmt bs' b r2 := by
  obtain ⟨_, hp, h1'⟩ := h1.cons_inv
  obtain ⟨_, hp', h2'⟩ := h2.cons_inv
  rw [hp] at hp'
  cases hp'
  exact ⟨rfl, _, h1', h2'⟩

/-! ### `parse` on a stream split after the header -/

theorem parse_short {fmt : SyncFmt} {bs : Bytes} (h : bs.length < fmt.size) : parse fmt bs = .more := by
  simp [parse, h]

/-- unfolding of `parse` on `hdr ++ body` when `hdr` is exactly one header -/
theorem parse_hdr {fmt : SyncFmt} {hdr body : Bytes} (h : hdr.length = fmt.size) :
    parse fmt (hdr ++ body) =
      match SyncId.ofWire? ((unpackWords (fmt.size / 4) hdr).headD 0) with
      | none => .badId ((unpackWords (fmt.size / 4) hdr).headD 0)
      | some cid =>
        if cid = SyncId.STAT then .record ⟨cid, (unpackWords (fmt.size / 4) hdr).drop 1, none⟩ body
        else if body.length < (unpackWords (fmt.size / 4) hdr).getLastD 0 then .more
        else .record ⟨cid, ((unpackWords (fmt.size / 4) hdr).drop 1).dropLast,
                    some (body.take ((unpackWords (fmt.size / 4) hdr).getLastD 0))⟩
                  (body.drop ((unpackWords (fmt.size / 4) hdr).getLastD 0)) := by
  unfold parse
  have h1 : ¬ (hdr ++ body).length < fmt.size := by simp [h]
  have h2 : (hdr ++ body).take fmt.size = hdr := by rw [← h]; simp
  have h3 : (hdr ++ body).drop fmt.size = body := by rw [← h]; simp
  simp only [h1, if_false, h2, h3]

theorem parse_hdr_badId {fmt : SyncFmt} {hdr body : Bytes} (h : hdr.length = fmt.size)
    (hid : SyncId.ofWire? ((unpackWords (fmt.size / 4) hdr).headD 0) = none) :
    parse fmt (hdr ++ body) = .badId ((unpackWords (fmt.size / 4) hdr).headD 0) := by
  rw [parse_hdr h, hid]

theorem parse_hdr_stat {fmt : SyncFmt} {hdr body : Bytes} (h : hdr.length = fmt.size)
    (hid : SyncId.ofWire? ((unpackWords (fmt.size / 4) hdr).headD 0) = some SyncId.STAT) :
    parse fmt (hdr ++ body) = .record ⟨.STAT, (unpackWords (fmt.size / 4) hdr).drop 1, none⟩ body := by
  rw [parse_hdr h, hid]; simp

theorem parse_hdr_more {fmt : SyncFmt} {hdr body : Bytes} {cid : SyncId} (h : hdr.length = fmt.size)
    (hid : SyncId.ofWire? ((unpackWords (fmt.size / 4) hdr).headD 0) = some cid) (hc : cid ≠ SyncId.STAT)
    (hlen : body.length < (unpackWords (fmt.size / 4) hdr).getLastD 0) :
    parse fmt (hdr ++ body) = .more := by
  rw [parse_hdr h, hid]
  simp only [hc, if_false, hlen, if_true]

theorem parse_hdr_data {fmt : SyncFmt} {hdr data rest : Bytes} {cid : SyncId} (h : hdr.length = fmt.size)
    (hid : SyncId.ofWire? ((unpackWords (fmt.size / 4) hdr).headD 0) = some cid) (hc : cid ≠ SyncId.STAT)
    (hlen : data.length = (unpackWords (fmt.size / 4) hdr).getLastD 0) :
    parse fmt (hdr ++ (data ++ rest)) =
      .record ⟨cid, ((unpackWords (fmt.size / 4) hdr).drop 1).dropLast, some data⟩ rest := by
  rw [parse_hdr h, hid]
  simp only [hc, if_false, ← hlen]
  simp only [List.length_append, List.take_left', List.drop_left']
  rw [if_neg (by omega)]

/-! ### a parsed record does not depend on what follows it -/

theorem parse_split {fmt : SyncFmt} {bs : Bytes} (h : parse fmt bs ≠ .more) :
    ∃ hdr body, bs = hdr ++ body ∧ hdr.length = fmt.size := by
  refine ⟨bs.take fmt.size, bs.drop fmt.size, (List.take_append_drop _ _).symm, ?_⟩
  have : ¬ bs.length < fmt.size := fun hlt => h (parse_short hlt)
  rw [List.length_take]; omega

theorem parse_append {fmt : SyncFmt} {bs : Bytes} (x : Bytes) (h : parse fmt bs ≠ .more) :
    parse fmt (bs ++ x) = match parse fmt bs with
      | .record r rest => .record r (rest ++ x)
      | p => p := by
  obtain ⟨hdr, body, rfl, hl⟩ := parse_split h
  rw [List.append_assoc, parse_hdr hl, parse_hdr hl]
  rw [parse_hdr hl] at h
  cases hid : SyncId.ofWire? ((unpackWords (fmt.size / 4) hdr).headD 0) with
  | none => rfl
  | some cid =>
    rw [hid] at h
    dsimp only at h ⊢
    by_cases hc : cid = SyncId.STAT
    · rw [if_pos hc, if_pos hc]
    · rw [if_neg hc] at h
      rw [if_neg hc, if_neg hc]
      by_cases hb : body.length < (unpackWords (fmt.size / 4) hdr).getLastD 0
      · exact absurd (if_pos hb) h
      · have hle : (unpackWords (fmt.size / 4) hdr).getLastD 0 ≤ body.length := by omega
        rw [if_neg hb, if_neg (by rw [List.length_append]; omega), List.take_append_of_le_length hle,
          List.drop_append_of_le_length hle]

theorem parse_rec_append {fmt : SyncFmt} {bs rest : Bytes} {r : SyncRec} (x : Bytes)
    (h : parse fmt bs = .record r rest) : parse fmt (bs ++ x) = .record r (rest ++ x) := by
  rw [parse_append x (by rw [h]; exact Parsed.noConfusion), h]

theorem parse_badId_append {fmt : SyncFmt} {bs : Bytes} {word : Nat} (x : Bytes)
    (h : parse fmt bs = .badId word) : parse fmt (bs ++ x) = .badId word := by
  rw [parse_append x (by rw [h]; exact Parsed.noConfusion), h]

theorem Recs.append {fmt : SyncFmt} {bs rest : Bytes} {rs : List SyncRec} (x : Bytes)
    (h : Recs fmt bs rs rest) : Recs fmt (bs ++ x) rs (rest ++ x) := by
  induction h with
  | nil bs => exact Recs.nil _
  | cons hp _ ih => exact Recs.cons (parse_rec_append x hp) ih

theorem Recs.concat {fmt : SyncFmt} {bs mid rest : Bytes} {rs1 rs2 : List SyncRec}
    (h1 : Recs fmt bs rs1 mid) (h2 : Recs fmt mid rs2 rest) : Recs fmt bs (rs1 ++ rs2) rest := by
  induction h1 with
  | nil bs => exact h2
  | cons hp _ ih => exact Recs.cons hp (ih h2)

/-- the record list of a stream is determined up to its length: two readings agree on their common prefix -/
theorem Recs.det {fmt : SyncFmt} {bs r1 r2 : Bytes} {a b : List SyncRec}
    (h1 : Recs fmt bs a r1) (h2 : Recs fmt bs b r2) (hlen : a.length = b.length) : a = b ∧ r1 = r2 := by
  induction a generalizing b bs with
  | nil =>
    obtain rfl := List.eq_nil_of_length_eq_zero hlen.symm
    exact ⟨rfl, h1.nil_inv.trans h2.nil_inv.symm⟩
  | cons x xs ih =>
    cases b with
    | nil => simp at hlen
    | cons y ys =>
      obtain ⟨rfl, _, h1', h2'⟩ := h1.cons_cons h2
      obtain ⟨rfl, h4⟩ := ih h1' h2' (by simpa using hlen)
      exact ⟨rfl, h4⟩

/-- two readings of the same stream that both stop at their first `DONE` record are the same reading -/
theorem Recs.until_done_unique {fmt : SyncFmt} {bs r1 r2 : Bytes} {a b : List SyncRec} {d1 d2 : SyncRec}
    (h1 : Recs fmt bs (a ++ [d1]) r1) (h2 : Recs fmt bs (b ++ [d2]) r2)
    (ha : ∀ x ∈ a, x.id ≠ SyncId.DONE) (hb : ∀ x ∈ b, x.id ≠ SyncId.DONE)
    (hd1 : d1.id = SyncId.DONE) (hd2 : d2.id = SyncId.DONE) : a = b ∧ d1 = d2 ∧ r1 = r2 := by
  induction a generalizing b bs with
  | nil =>
    cases b with
    | nil =>
      obtain ⟨h, h'⟩ := Recs.det h1 h2 rfl
      exact ⟨rfl, (List.cons.inj h).1, h'⟩
    | cons y ys =>
      obtain ⟨rfl, -⟩ := h1.cons_cons h2
      exact absurd hd1 (hb _ List.mem_cons_self)
  | cons x xs ih =>
    cases b with
    | nil =>
      obtain ⟨rfl, -⟩ := h1.cons_cons h2
      exact absurd hd2 (ha _ List.mem_cons_self)
    | cons y ys =>
      obtain ⟨rfl, _, h1', h2'⟩ := h1.cons_cons h2
      obtain ⟨rfl, h4, h5⟩ := ih h1' h2' (fun z hz => ha z (List.mem_cons_of_mem _ hz))
        (fun z hz => hb z (List.mem_cons_of_mem _ hz))
      exact ⟨rfl, h4, h5⟩

/-! ### `struct.unpack('<nI')` -/

theorem unpackWords_length : ∀ (n : Nat) (bs : Bytes), 4 * n ≤ bs.length → (unpackWords n bs).length = n := by
  intro n
  induction n with
  | zero => intro bs _; simp [unpackWords]
  | succ n ih =>
    intro bs h
    match bs, h with
    | a :: b :: c :: d :: rest, h =>
      simp only [unpackWords, rd32, List.length_cons]
      rw [ih rest (by simp at h; omega)]
    | [], h => exact absurd h (by simp only [List.length_nil]; omega)
    | [_], h => exact absurd h (by simp only [List.length_cons, List.length_nil]; omega)
    | [_, _], h => exact absurd h (by simp only [List.length_cons, List.length_nil]; omega)
    | [_, _, _], h => exact absurd h (by simp only [List.length_cons, List.length_nil]; omega)

/-- every word produced by `unpack` is a 32-bit value -/
theorem unpackWords_lt : ∀ (n : Nat) (bs : Bytes), ∀ v ∈ unpackWords n bs, v < 4294967296 := by
  intro n
  induction n with
  | zero => intro bs v hv; simp [unpackWords] at hv
  | succ n ih =>
    intro bs v hv
    match bs with
    | a :: b :: c :: d :: rest =>
      simp only [unpackWords, rd32, List.mem_cons] at hv
      rcases hv with rfl | hv
      · have := a.toNat_lt; have := b.toNat_lt; have := c.toNat_lt; have := d.toNat_lt
        omega
      · exact ih rest v hv
    | [] => simp [unpackWords, rd32] at hv
    | [_] => simp [unpackWords, rd32] at hv
    | [_, _] => simp [unpackWords, rd32] at hv
    | [_, _, _] => simp [unpackWords, rd32] at hv

/-- any 32-bit words survive `pack` followed by `unpack` -/
theorem unpackWords_pack : ∀ (ws : List Nat) (rest : Bytes), (∀ v ∈ ws, v < 4294967296) →
    unpackWords ws.length ((ws.map le32).flatten ++ rest) = ws := by
  intro ws
  induction ws with
  | nil => intro rest _; simp [unpackWords]
  | cons v vs ih =>
    intro rest h
    simp only [List.map_cons, List.flatten_cons, List.length_cons, unpackWords, List.append_assoc]
    rw [rd32_le32 v (h v (by simp))]
    simp only
    rw [ih rest (fun x hx => h x (by simp [hx]))]

/-! ### shape of the records of each format -/

theorem fmt_words (fmt : SyncFmt) : 4 * (fmt.size / 4) = fmt.size := by cases fmt <;> decide

/-- number of header words of each format -/
theorem fmt_nwords (fmt : SyncFmt) :
    fmt.size / 4 = match fmt with | .list => 5 | .pull => 2 | .push => 2 | .stat => 4 := by
  cases fmt <;> decide

theorem getLastD_eq_or_mem : ∀ (ws : List Nat) (d : Nat), ws.getLastD d = d ∨ ws.getLastD d ∈ ws := by
  intro ws
  induction ws with
  | nil => intro d; exact Or.inl rfl
  | cons a as ih =>
    intro d
    rw [List.getLastD_cons]
    rcases ih a with h | h
    · exact Or.inr (by rw [h]; simp)
    · exact Or.inr (List.mem_cons_of_mem _ h)

/-- a parsed record has `fmt.size/4 - 1` fields and no data if it is `STAT`, `fmt.size/4 - 2` fields and data otherwise -/
theorem parse_shape {fmt : SyncFmt} {bs rest : Bytes} {r : SyncRec} (h : parse fmt bs = .record r rest) :
    (r.id = SyncId.STAT → r.fields.length = fmt.size / 4 - 1 ∧ r.data = none) ∧
    (r.id ≠ SyncId.STAT → r.fields.length = fmt.size / 4 - 2 ∧
      ∃ d, r.data = some d ∧ d.length < 4294967296 ∧ d ++ rest = bs.drop fmt.size) := by
  obtain ⟨hdr, body, rfl, hl⟩ := parse_split (by rw [h]; simp)
  rw [parse_hdr hl] at h
  rw [List.drop_left' hl]
  have hwl : (unpackWords (fmt.size / 4) hdr).length = fmt.size / 4 :=
    unpackWords_length _ _ (by rw [fmt_words, hl]; exact Nat.le_refl _)
  have hlt := unpackWords_lt (fmt.size / 4) hdr
  generalize unpackWords (fmt.size / 4) hdr = ws at *
  have hn : ws.getLastD 0 < 4294967296 := by
    rcases getLastD_eq_or_mem ws 0 with h0 | h0
    · rw [h0]; decide
    · exact hlt _ h0
  cases hid : SyncId.ofWire? (ws.headD 0) with
  | none => rw [hid] at h; cases h
  | some cid =>
    rw [hid] at h
    dsimp only at h
    split at h
    · next hc =>
      cases h
      exact ⟨fun _ => ⟨by simp [hwl], rfl⟩, fun hne => absurd hc hne⟩
    · next hc =>
      split at h
      · cases h
      · cases h
        refine ⟨fun he => absurd he hc, fun _ => ⟨by simp [hwl]; omega, _, rfl, ?_, by simp⟩⟩
        rw [List.length_take]
        omega

/-! ### the device's side: encoders, and decode-after-encode -/

/-- a `LIST` reply entry as the device packs it: `pack('<5I', id, mode, size, mtime, len(name)) + name` -/
def dentRec (id : SyncId) (mode size mtime : Nat) (name : Bytes) : Bytes :=
  le32 id.wire ++ le32 mode ++ le32 size ++ le32 mtime ++ le32 name.length ++ name

/-- a `STAT` reply as the device packs it: `pack('<4I', STAT, mode, size, mtime)` -/
def statRec (mode size mtime : Nat) : Bytes :=
  le32 SyncId.STAT.wire ++ le32 mode ++ le32 size ++ le32 mtime

theorem wire_table : ∀ id ∈ SyncId.all, SyncId.ofWire? id.wire = some id ∧ id.wire < 4294967296 := by decide +kernel

theorem mem_all (id : SyncId) : id ∈ SyncId.all := by cases id <;> decide

theorem ofWire_wire (id : SyncId) : SyncId.ofWire? id.wire = some id := (wire_table id (mem_all id)).1
theorem wire_lt (id : SyncId) : id.wire < 4294967296 := (wire_table id (mem_all id)).2

theorem flatten_le32_length (ws : List Nat) : ((ws.map le32).flatten).length = 4 * ws.length := by
  induction ws with
  | nil => rfl
  | cons a as ih =>
    simp only [List.map_cons, List.flatten_cons, List.length_append, le32_length, ih, List.length_cons]; omega

theorem getLastD_concat (ws : List Nat) (x d : Nat) : (ws ++ [x]).getLastD d = x := by
  induction ws generalizing d with
  | nil => rfl
  | cons a as ih => rw [List.cons_append, List.getLastD_cons]; exact ih a

/-- a data-carrying record: header words `id, fields…, len(data)`, then the data -/
theorem parse_encode_data {fmt : SyncFmt} (id : SyncId) (fields : List Nat) (data rest : Bytes)
    (hn : fields.length + 2 = fmt.size / 4) (hid : id ≠ SyncId.STAT)
    (hf : ∀ v ∈ fields, v < 4294967296) (hd : data.length < 4294967296) :
    parse fmt ((((id.wire :: fields) ++ [data.length]).map le32).flatten ++ (data ++ rest))
      = .record ⟨id, fields, some data⟩ rest := by
  have hall : ∀ v ∈ (id.wire :: fields) ++ [data.length], v < 4294967296 := by
    intro v hv
    simp only [List.cons_append, List.mem_cons, List.mem_append, List.mem_nil_iff, or_false] at hv
    rcases hv with rfl | hv | rfl
    · exact wire_lt id
    · exact hf v hv
    · exact hd
  have hlen : ((id.wire :: fields) ++ [data.length]).length = fmt.size / 4 := by simp; omega
  have hw := unpackWords_pack ((id.wire :: fields) ++ [data.length]) [] hall
  rw [hlen, List.append_nil] at hw
  have hl : ((((id.wire :: fields) ++ [data.length]).map le32).flatten).length = fmt.size := by
    rw [flatten_le32_length, hlen, fmt_words]
  rw [parse_hdr_data (cid := id) hl (by rw [hw]; simpa using ofWire_wire id) hid
    (by rw [hw, List.cons_append, ← List.cons_append, getLastD_concat])]
  rw [hw]
  simp

/-- a `STAT` record: header words `STAT, fields…`, no data -/
theorem parse_encode_stat {fmt : SyncFmt} (fields : List Nat) (rest : Bytes)
    (hn : fields.length + 1 = fmt.size / 4) (hf : ∀ v ∈ fields, v < 4294967296) :
    parse fmt ((((SyncId.STAT.wire :: fields)).map le32).flatten ++ rest)
      = .record ⟨.STAT, fields, none⟩ rest := by
  have hws := wire_lt SyncId.STAT
  have hof := ofWire_wire SyncId.STAT
  generalize SyncId.STAT.wire = sw at *
  have hall : ∀ v ∈ (sw :: fields), v < 4294967296 := by
    intro v hv
    simp only [List.mem_cons] at hv
    rcases hv with rfl | hv
    · exact hws
    · exact hf v hv
  have hlen : (sw :: fields).length = fmt.size / 4 := by rw [List.length_cons]; omega
  have hw := unpackWords_pack (sw :: fields) [] hall
  rw [hlen, List.append_nil] at hw
  have hl : (((sw :: fields).map le32).flatten).length = fmt.size := by
    rw [flatten_le32_length, hlen, fmt_words]
  rw [parse_hdr_stat hl (by rw [hw, List.headD_cons]; exact hof)]
  rw [hw]
  rfl

/-- `DATA`/`DONE`/`FAIL`/`OKAY` records of the pull and push formats -/
theorem parse_syncRec {fmt : SyncFmt} (hfmt : fmt = .pull ∨ fmt = .push) (id : SyncId) (data rest : Bytes)
    (hid : id ≠ SyncId.STAT) (hd : data.length < 4294967296) :
    parse fmt (syncRec id data.length data ++ rest) = .record ⟨id, [], some data⟩ rest := by
  have := parse_encode_data (fmt := fmt) id [] data rest (by rcases hfmt with rfl | rfl <;> decide) hid (by simp) hd
  simpa [syncRec, List.append_assoc] using this

/-- entries of a `LIST` reply -/
theorem parse_dentRec (id : SyncId) (mode size mtime : Nat) (name rest : Bytes) (hid : id ≠ SyncId.STAT)
    (h1 : mode < 4294967296) (h2 : size < 4294967296) (h3 : mtime < 4294967296) (h4 : name.length < 4294967296) :
    parse .list (dentRec id mode size mtime name ++ rest) = .record ⟨id, [mode, size, mtime], some name⟩ rest := by
  have := parse_encode_data (fmt := .list) id [mode, size, mtime] name rest (by simp only [List.length_cons, List.length_nil]; decide) hid
    (by intro v hv; simp at hv; rcases hv with rfl | rfl | rfl <;> assumption) h4
  simpa [dentRec, List.append_assoc] using this

/-- the `STAT` reply -/
theorem parse_statRec (mode size mtime : Nat) (rest : Bytes)
    (h1 : mode < 4294967296) (h2 : size < 4294967296) (h3 : mtime < 4294967296) :
    parse .stat (statRec mode size mtime ++ rest) = .record ⟨.STAT, [mode, size, mtime], none⟩ rest := by
  have := parse_encode_stat (fmt := .stat) [mode, size, mtime] rest (by simp only [List.length_cons, List.length_nil]; decide)
    (by intro v hv; simp at hv; rcases hv with rfl | rfl | rfl <;> assumption)
  simpa [statRec, List.append_assoc] using this

/-- a stream of encoded pull records parses back to them -/
theorem Recs_syncRecs {fmt : SyncFmt} (hfmt : fmt = .pull ∨ fmt = .push) :
    ∀ (items : List (SyncId × Bytes)) (rest : Bytes),
    (∀ x ∈ items, x.1 ≠ SyncId.STAT ∧ x.2.length < 4294967296) →
    Recs fmt ((items.map fun x => syncRec x.1 x.2.length x.2).flatten ++ rest)
      (items.map fun x => ⟨x.1, [], some x.2⟩) rest := by
  intro items
  induction items with
  | nil => intro rest _; exact Recs.nil _
  | cons x xs ih =>
    intro rest h
    simp only [List.map_cons, List.flatten_cons, List.append_assoc]
    exact Recs.cons (parse_syncRec hfmt x.1 x.2 _ (h x (by simp)).1 (h x (by simp)).2)
      (ih rest (fun y hy => h y (by simp [hy])))

end Adb.SR
