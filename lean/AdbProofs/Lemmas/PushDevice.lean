import AdbProofs.Lemmas.PushDeliver
import AdbProofs.Lemmas.PushRel
/-
  Device-level facts for C07: how `push` walks a directory, where a file's content comes from,
  and that after `_filesync_send` the buffer is never empty (so the status read starts with a flush).
-/
namespace Adb.Push
open Adb

theorem fsSend_sendBuf_ne_nil {id : SyncId} {t : Txn} {fi fi' : FsInfo} {data : Bytes} {size : Option Nat} {w w' : World}
    (h : fsSend id t fi data size w = (.ok fi', w')) : fi'.sendBuf ≠ [] := by
  obtain ⟨e, he⟩ := Fr.evs (Fr_fsSend _ _ _ _ _) h
  obtain ⟨hcase, -⟩ := fsSend_ok h he
  intro hnil
  have hl := congrArg List.length hnil
  rcases hcase with ⟨-, -, hb⟩ | ⟨-, -, -, hb⟩
  · rw [hb] at hl; simp at hl
  · rw [hb] at hl; simp at hl

theorem pushFiles_nil (devPath : Bytes) (mode mtime : Nat) (cb : CbMode) (tt rt : Timeout) :
    pushFiles devPath mode mtime cb tt rt [] = pure () := rfl

theorem pushFiles_cons (devPath : Bytes) (mode mtime : Nat) (cb : CbMode) (tt rt : Timeout)
    (name : Bytes) (fid : Nat) (rest : List (Bytes × Nat)) :
    pushFiles devPath mode mtime cb tt rt ((name, fid) :: rest) =
      (pushFile fid (devPath ++ [47] ++ name) mode mtime cb tt rt >>= fun _ =>
        pushFiles devPath mode mtime cb tt rt rest) := rfl

theorem runGuard_world (g : String) (p : Option Bytes) (w : World) : (runGuard g p w).2 = w := by
  unfold runGuard
  repeat' split
  all_goals rfl

theorem runGuards_world : ∀ (gs : List String) (p : Option Bytes) (w : World), (runGuards gs p w).2 = w := by
  intro gs
  induction gs with
  | nil => intro p w; rfl
  | cons g gs ih =>
    intro p w
    unfold runGuards
    rw [bind_run]
    have h1 := runGuard_world g p w
    split
    · next a w1 hx => rw [hx] at h1; simp only at h1; subst h1; exact ih p w1
    · next e w1 hx => rw [hx] at h1; exact h1

/-- guards only look: when they pass, the world is the one they started in -/
theorem runGuards_ok {gs : List String} {p : Option Bytes} {w : World} (hg : (runGuards gs p w).1 = .ok ()) :
    runGuards gs p w = (.ok (), w) := Prod.ext hg (runGuards_world gs p w)

/-- pushing a directory: after the guards, `mkdir` first, then the entries in listing order -/
theorem devPush_dir {id : Nat} {devPath : Bytes} {mode mtime : Nat} {cb : CbMode} {tt rt : Timeout} {w : World}
    {i : Nat} {entries : List (Bytes × Nat)}
    (hg : (runGuards (guardsFor "push") (some devPath) w).1 = .ok ())
    (hd : w.dirs.find? (·.1 == id) = some (i, entries)) :
    devPush (.dir id) devPath mode mtime cb tt rt w =
      (devShellLike "shell" (ascii "shell") (ascii "mkdir " ++ devPath) tt rt none true >>= fun _ =>
        pushFiles devPath mode mtime cb tt rt entries >>= fun _ => pure Val.none) w := by
  unfold devPush
  rw [bind_run_ok (runGuards_ok hg)]
  dsimp only
  rw [get_bind_run, hd]

theorem devPush_file {src : LocalRef} {id : Nat} (hs : src = .file id ∨ src = .bytesio id)
    {devPath : Bytes} {mode mtime : Nat} {cb : CbMode} {tt rt : Timeout} {w : World}
    (hg : (runGuards (guardsFor "push") (some devPath) w).1 = .ok ()) :
    devPush src devPath mode mtime cb tt rt w =
      (pushFile id devPath mode mtime cb tt rt >>= fun _ => pure Val.none) w := by
  unfold devPush
  rw [bind_run_ok (runGuards_ok hg)]
  rcases hs with rfl | rfl <;> rfl

/-- one file: its content is looked up under its own id, a fresh sync stream is opened, `_push` runs
    with an empty FileSync buffer sized by the negotiated maxdata, and the stream is closed -/
theorem pushFile_ok {fid : Nat} {devPath : Bytes} {mode mtime : Nat} {cb : CbMode} {tt rt : Timeout} {w w' : World} {u : Unit}
    (h : pushFile fid devPath mode mtime cb tt rt w = (.ok u, w')) :
    ∃ (i : Nat) (content : Bytes) (t : Txn) (w1 w2 : World),
      w.files.find? (·.1 == fid) = some (i, content) ∧
      openStream (ascii "sync:") tt rt none w = (.ok t, w1) ∧
      pushOne content devPath mode mtime cb t { fmt := .push, maxdata := w1.maxdata } w1 = (.ok (), w2) ∧
      clse t w2 = (.ok (), w') := by
  unfold pushFile at h
  obtain ⟨content, w0, h1, h2⟩ := bind_ok_inv h
  obtain ⟨t, w1, h3, h4⟩ := bind_ok_inv h2
  rw [get_bind_run] at h4
  obtain ⟨u1, w2, h5, h6⟩ := bind_ok_inv h4
  unfold lookupFile at h1
  split at h1
  · next i c hf =>
    simp only [Prod.mk.injEq, Except.ok.injEq] at h1
    obtain ⟨rfl, rfl⟩ := h1
    exact ⟨i, c, t, w1, w2, hf, h3, h5, h6⟩
  · simp at h1


/-- no WRTE transmission and no progress call -/
def QNoWrte : TEv → Prop
  | .tx m => m.cmd ≠ Cmd.WRTE
  | .cbProgress _ _ _ => False
  | _ => True

theorem QNoWrte.house : House QNoWrte := by
  intro e h; cases e <;> first | trivial | exact Bool.noConfusion h
theorem QNoWrte.deliv : Deliv QNoWrte := fun _ => trivial
/-- a transmission with any command other than WRTE -/
theorem QNoWrte.tx {m : Msg} {c : Cmd} (hm : m.cmd = c) (hc : c ≠ Cmd.WRTE) : QNoWrte (.tx m) :=
  show m.cmd ≠ Cmd.WRTE from hm ▸ hc
theorem QNoWrte.txOkay : TxOkay QNoWrte := fun _ h => QNoWrte.tx h (by decide)

theorem QNoWrte.wrtePayloads {evs : List TEv} (h : ∀ e ∈ evs, QNoWrte e) (l r : Nat) : wrtePayloads l r evs = [] := by
  unfold Push.wrtePayloads
  apply List.eq_nil_iff_forall_not_mem.2
  intro d hd
  rw [List.mem_filterMap] at hd
  obtain ⟨m, hm, hd⟩ := hd
  have : m.cmd ≠ Cmd.WRTE := h _ (mem_transmitted.1 hm)
  simp [this] at hd

theorem QNoWrte.progressCalls {evs : List TEv} (h : ∀ e ∈ evs, QNoWrte e) : progressCalls evs = [] :=
  progressCalls_eq_nil fun _ _ _ hm => h _ hm

/-- the whole of one file's push, on the wire: the WRTE payloads of its stream concatenate to
    SEND, the DATA chunks, DONE — `_open` and `_clse` add no WRTE -/
theorem pushFile_stream {fid : Nat} {devPath : Bytes} {mode mtime : Nat} {cb : CbMode} {tt rt : Timeout} {w w' : World}
    {u : Unit} {evs : List TEv}
    (h : pushFile fid devPath mode mtime cb tt rt w = (.ok u, w')) (hev : w'.trace = evs ++ w.trace) :
    ∃ (i : Nat) (content : Bytes) (t : Txn) (mtime' : Nat),
      w.files.find? (·.1 == fid) = some (i, content) ∧ (mtime ≠ 0 → mtime' = mtime) ∧
      (wrtePayloads (t.localId.getD 0) (t.remoteId.getD 0) evs).flatten =
        syncRec .SEND (devPath ++ [44] ++ decimal mode).length (devPath ++ [44] ++ decimal mode) ++
        ((chunksOf (maxChunkSize w.maxdata) content).map fun c => syncRec .DATA c.length c).flatten ++
        syncRec .DONE mtime' [] ∧
      progressCalls evs = (if cb = CbMode.none then []
        else (chunksOf (maxChunkSize w.maxdata) content).map fun c => (devPath, c.length, content.length)) := by
  obtain ⟨i, content, t, w1, w2, hf, h1, h2, h3⟩ := pushFile_ok h
  obtain ⟨e1, he1, hq1⟩ := (Tr_openStream QNoWrte.house QNoWrte.deliv (fun _ hm => QNoWrte.tx hm (by decide))
    (ascii "sync:") tt rt none).step h1
  obtain ⟨e3, he3, hq3⟩ := (Tr_clse QNoWrte.house QNoWrte.deliv QNoWrte.txOkay
    (fun _ hm => QNoWrte.tx hm (by decide)) t).step h3
  obtain ⟨e2, he2⟩ := Fr.evs (Fr_pushOne _ _ _ _ _ _ _) h2
  have hmd : w1.maxdata = w.maxdata := Fr.maxdata (Fr_openStream _ _ _ _) h1
  have he12 : w2.trace = (e2 ++ e1) ++ w.trace := by rw [he2, he1, List.append_assoc]
  have := evs_split he12 he3 hev
  subst this
  obtain ⟨fi1, fi2, fi3, v1, v2, v3, mtime', -, -, hmt, -, -, hshape, hprog⟩ := pushOne_ok h2 he2
  refine ⟨i, content, t, mtime', hf, ?_, ?_, ?_⟩
  · intro hne; rw [hmt, if_neg hne]
  · rw [wrtePayloads_append, wrtePayloads_append, QNoWrte.wrtePayloads hq1, QNoWrte.wrtePayloads hq3, hmd] at *
    simpa using hshape
  · rw [progressCalls_append, progressCalls_append, QNoWrte.progressCalls hq1, QNoWrte.progressCalls hq3, hprog, hmd]
    simp


/-- no transmission at all, no progress call -/
def QNoTx : TEv → Prop
  | .tx _ => False
  | .cbProgress _ _ _ => False
  | _ => True

theorem QNoTx.house : House QNoTx := by
  intro e h; cases e <;> first | trivial | exact Bool.noConfusion h
theorem QNoTx.deliv : Deliv QNoTx := fun _ => trivial

/-- `_AdbIOManager.read` never calls `_send` -/
theorem ioRead_noTx (ex : List Cmd) (t : Txn) (az : Bool) (w : World) {evs : List TEv}
    (hev : (ioRead ex t az w).2.trace = evs ++ w.trace) : transmitted evs = [] := by
  obtain ⟨e, he, hq⟩ := (Tr_ioRead QNoTx.house QNoTx.deliv ex t az).trace w
  have : evs = e := evs_unique (he ▸ hev)
  subst this
  exact transmitted_eq_nil fun m hm => hq _ hm

end Adb.Push
