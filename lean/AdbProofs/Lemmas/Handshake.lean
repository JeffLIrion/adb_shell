import AdbProofs.Lemmas.FrameOps
import AdbProofs.Lemmas.WireLemmas
import AdbProofs.Lemmas.Blocks
/-
  Trace specifications for the CNXN/AUTH handshake (`sendRaw`, `expectPacket`, `authLoop`,
  `ioConnect`).  The world's trace is stored most recent first; `vis` turns the events a computation
  added into the chronological list of VISIBLE events (everything except `req` = a bulk_read was
  issued, and `skip` = `_read_expected_packet_from_device` discarded a packet it was not waiting for).
  `Sp x S` says: in every world `x` only prepends events, and its result and visible events satisfy `S`;
  `SpW` is the same with a specification that may also mention the worlds before and after.  The
  visible events of `authLoop` and of steps 2–7 of `connect` follow the grammars `AuthRun` and `TailRun`;
  what C05 states is read off these grammars.
-/
namespace Adb
namespace HS

/-- events that carry no handshake information -/
def quiet : TEv → Bool
  | .req _ _ => true
  | .skip _ => true
  | _ => false

/-- visible events, oldest first (argument: newest first, as stored in `World.trace`) -/
def vis (evs : List TEv) : List TEv := (evs.filter (fun e => !quiet e)).reverse

def isDeliver : TEv → Option Pkt
  | .deliver p => some p
  | _ => none

def isTx : TEv → Option Msg
  | .tx m => some m
  | _ => none

def delivered (evs : List TEv) : List Pkt := evs.reverse.filterMap isDeliver
def transmitted (evs : List TEv) : List Msg := evs.reverse.filterMap isTx
/-- number of invocations of the auth callback -/
def callbacks (evs : List TEv) : Nat := (evs.filter (· == .cbAuth)).length
/-- number of `transport.close()` calls -/
def closes (evs : List TEv) : Nat := (evs.filter (· == .tclose)).length

/-- the same projections on a chronological list -/
def dlv (vs : List TEv) : List Pkt := vs.filterMap isDeliver
def trn (vs : List TEv) : List Msg := vs.filterMap isTx
def cbs (vs : List TEv) : Nat := (vs.filter (· == .cbAuth)).length
def cls (vs : List TEv) : Nat := (vs.filter (· == .tclose)).length

@[simp] theorem vis_nil : vis [] = [] := rfl
theorem vis_append (a b : List TEv) : vis (a ++ b) = vis b ++ vis a := by simp [vis]
theorem vis_cons_quiet {e : TEv} (h : quiet e = true) (evs : List TEv) : vis (e :: evs) = vis evs := by
  simp [vis, h]
theorem vis_cons_loud {e : TEv} (h : quiet e = false) (evs : List TEv) : vis (e :: evs) = vis evs ++ [e] := by
  simp [vis, h]

/-- a projection that ignores the quiet events can be taken on the visible events -/
theorem filterMap_vis {α} {f : TEv → Option α} (hf : ∀ e, quiet e = true → f e = none) (evs : List TEv) :
    evs.reverse.filterMap f = (vis evs).filterMap f := by
  simp only [vis, ← List.filter_reverse, List.filterMap_filter]
  congr 1
  funext e
  cases hq : quiet e
  · rfl
  · exact hf e hq

theorem count_vis {e : TEv} (he : quiet e = false) (evs : List TEv) :
    (evs.filter (· == e)).length = ((vis evs).filter (· == e)).length := by
  simp only [vis, List.filter_reverse, List.length_reverse, List.filter_filter]
  congr 2
  funext x
  by_cases hx : x = e
  · simp [hx, he]
  · simp [hx]

theorem delivered_eq (evs : List TEv) : delivered evs = dlv (vis evs) :=
  filterMap_vis (by intro e; cases e <;> simp [quiet, isDeliver]) evs

theorem transmitted_eq (evs : List TEv) : transmitted evs = trn (vis evs) :=
  filterMap_vis (by intro e; cases e <;> simp [quiet, isTx]) evs

theorem callbacks_eq (evs : List TEv) : callbacks evs = cbs (vis evs) := count_vis rfl evs

theorem closes_eq (evs : List TEv) : closes evs = cls (vis evs) := count_vis rfl evs

@[simp] theorem dlv_nil : dlv [] = [] := rfl
@[simp] theorem trn_nil : trn [] = [] := rfl
@[simp] theorem cbs_nil : cbs [] = 0 := rfl
@[simp] theorem cls_nil : cls [] = 0 := rfl
@[simp] theorem dlv_append (a b : List TEv) : dlv (a ++ b) = dlv a ++ dlv b := by simp [dlv]
@[simp] theorem trn_append (a b : List TEv) : trn (a ++ b) = trn a ++ trn b := by simp [trn]
@[simp] theorem cbs_append (a b : List TEv) : cbs (a ++ b) = cbs a + cbs b := by simp [cbs]
@[simp] theorem cls_append (a b : List TEv) : cls (a ++ b) = cls a + cls b := by simp [cls]
@[simp] theorem dlv_tx (m : Msg) (vs : List TEv) : dlv (.tx m :: vs) = dlv vs := rfl
@[simp] theorem dlv_deliver (p : Pkt) (vs : List TEv) : dlv (.deliver p :: vs) = p :: dlv vs := rfl
@[simp] theorem dlv_tclose (vs : List TEv) : dlv (.tclose :: vs) = dlv vs := rfl
@[simp] theorem dlv_tconnect (vs : List TEv) : dlv (.tconnect :: vs) = dlv vs := rfl
@[simp] theorem dlv_cbAuth (vs : List TEv) : dlv (.cbAuth :: vs) = dlv vs := rfl
@[simp] theorem trn_tx (m : Msg) (vs : List TEv) : trn (.tx m :: vs) = m :: trn vs := rfl
@[simp] theorem trn_deliver (p : Pkt) (vs : List TEv) : trn (.deliver p :: vs) = trn vs := rfl
@[simp] theorem trn_tclose (vs : List TEv) : trn (.tclose :: vs) = trn vs := rfl
@[simp] theorem trn_tconnect (vs : List TEv) : trn (.tconnect :: vs) = trn vs := rfl
@[simp] theorem trn_cbAuth (vs : List TEv) : trn (.cbAuth :: vs) = trn vs := rfl
@[simp] theorem cbs_tx (m : Msg) (vs : List TEv) : cbs (.tx m :: vs) = cbs vs := by simp [cbs]
@[simp] theorem cbs_deliver (p : Pkt) (vs : List TEv) : cbs (.deliver p :: vs) = cbs vs := by simp [cbs]
@[simp] theorem cbs_tclose (vs : List TEv) : cbs (.tclose :: vs) = cbs vs := by simp [cbs]
@[simp] theorem cbs_tconnect (vs : List TEv) : cbs (.tconnect :: vs) = cbs vs := by simp [cbs]
@[simp] theorem cbs_cbAuth (vs : List TEv) : cbs (.cbAuth :: vs) = cbs vs + 1 := by simp [cbs]
@[simp] theorem cls_tx (m : Msg) (vs : List TEv) : cls (.tx m :: vs) = cls vs := by simp [cls]
@[simp] theorem cls_deliver (p : Pkt) (vs : List TEv) : cls (.deliver p :: vs) = cls vs := by simp [cls]
@[simp] theorem cls_tclose (vs : List TEv) : cls (.tclose :: vs) = cls vs + 1 := by simp [cls]
@[simp] theorem cls_tconnect (vs : List TEv) : cls (.tconnect :: vs) = cls vs := by simp [cls]
@[simp] theorem cls_cbAuth (vs : List TEv) : cls (.cbAuth :: vs) = cls vs := by simp [cls]

/-- in every world, `x` only prepends events to the trace, and its result together with the visible
    new events (oldest first) satisfies `S` -/
def Sp {α : Type} (x : M α) (S : Except Err α → List TEv → Prop) : Prop :=
  ∀ w, ∃ evs, (x w).2.trace = evs ++ w.trace ∧ S (x w).1 (vis evs)

/-- world-aware variant of `Sp`: the specification may also mention the worlds before and after -/
def SpW {α : Type} (x : M α) (S : World → Except Err α → World → List TEv → Prop) : Prop :=
  ∀ w, ∃ evs, (x w).2.trace = evs ++ w.trace ∧ S w (x w).1 (x w).2 (vis evs)

theorem Sp.toW {α} {x : M α} {S : Except Err α → List TEv → Prop} (h : Sp x S) : SpW x (fun _ r _ vs => S r vs) := h

/-- a specification together with the run it speaks of -/
theorem Sp.exact {α} {x : M α} {S : Except Err α → List TEv → Prop} (h : Sp x S) :
    SpW x (fun w r w' vs => S r vs ∧ x w = (r, w')) := fun w => by
  obtain ⟨evs, h1, h2⟩ := h w
  exact ⟨evs, h1, h2, rfl⟩

theorem SpW.mono {α} {x : M α} {S S' : World → Except Err α → World → List TEv → Prop} (h : SpW x S)
    (hs : ∀ w r w' vs, S w r w' vs → S' w r w' vs) : SpW x S' := by
  intro w
  obtain ⟨evs, h1, h2⟩ := h w
  exact ⟨evs, h1, hs _ _ _ _ h2⟩

theorem Sp.mono {α} {x : M α} {S S' : Except Err α → List TEv → Prop} (h : Sp x S)
    (hs : ∀ r vs, S r vs → S' r vs) : Sp x S' := h.toW.mono fun _ r _ vs => hs r vs

/-- the events added by a run are determined by the two traces -/
theorem SpW.elim {α} {x : M α} {S : World → Except Err α → World → List TEv → Prop} (h : SpW x S) {w w' : World}
    {r : Except Err α} (hr : x w = (r, w')) {evs : List TEv} (he : w'.trace = evs ++ w.trace) : S w r w' (vis evs) := by
  obtain ⟨evs', h1, h2⟩ := h w
  rw [hr] at h1 h2
  rw [List.append_cancel_right (he.symm.trans h1)]
  exact h2

theorem Sp.elim {α} {x : M α} {S : Except Err α → List TEv → Prop} (h : Sp x S) {w w' : World}
    {r : Except Err α} (hr : x w = (r, w')) {evs : List TEv} (he : w'.trace = evs ++ w.trace) : S r (vis evs) :=
  h.toW.elim hr he

theorem Sp_pure {α} (a : α) : Sp (pure a : M α) (fun r vs => r = .ok a ∧ vs = []) :=
  fun _ => ⟨[], rfl, rfl, rfl⟩

theorem Sp_throw {α} (e : Err) : Sp (M.throw e : M α) (fun r vs => r = .error e ∧ vs = []) :=
  fun _ => ⟨[], rfl, rfl, rfl⟩

theorem SpW_bind {α β} {x : M α} {f : α → M β} {S1 : World → Except Err α → World → List TEv → Prop}
    {S2 : α → World → Except Err β → World → List TEv → Prop} (hx : SpW x S1) (hf : ∀ a, SpW (f a) (S2 a)) :
    SpW (x >>= f) (fun w r w'' vs => (∃ e, r = .error e ∧ S1 w (.error e) w'' vs) ∨
      (∃ a w' v1 v2, vs = v1 ++ v2 ∧ S1 w (.ok a) w' v1 ∧ S2 a w' r w'' v2)) := by
  intro w
  rw [bind_run]
  obtain ⟨e1, h1, s1⟩ := hx w
  split
  · next a w' hxw =>
    rw [hxw] at h1 s1
    obtain ⟨e2, h2, s2⟩ := hf a w'
    refine ⟨e2 ++ e1, ?_, Or.inr ⟨a, w', vis e1, vis e2, vis_append _ _, s1, s2⟩⟩
    simp only at h1
    rw [h2, h1, List.append_assoc]
  · next e w' hxw =>
    rw [hxw] at h1 s1
    exact ⟨e1, h1, Or.inl ⟨e, rfl, s1⟩⟩

/-- a first part whose visible events are `v0` whatever its outcome: the specification of the
    continuation, with `v0` in front, is the specification of the whole -/
theorem SpW_seq {α β} {x : M α} {f : α → M β} {v0 : List TEv} {S : Except Err β → World → List TEv → Prop}
    (hx : Sp x (fun _ vs => vs = v0)) (hf : ∀ a, SpW (f a) (fun _ r w' vs => S r w' (v0 ++ vs)))
    (he : ∀ e w', S (.error e) w' v0) : SpW (x >>= f) (fun _ r w' vs => S r w' vs) := by
  refine (SpW_bind hx.toW hf).mono ?_
  rintro _ r w' vs (⟨e, rfl, rfl⟩ | ⟨a, _, v1, v2, rfl, rfl, h⟩)
  · exact he e w'
  · exact h

theorem Sp_seq {α β} {x : M α} {f : α → M β} {v0 : List TEv} {S : Except Err β → List TEv → Prop}
    (hx : Sp x (fun _ vs => vs = v0)) (hf : ∀ a, Sp (f a) (fun r vs => S r (v0 ++ vs)))
    (he : ∀ e, S (.error e) v0) : Sp (x >>= f) S :=
  SpW_seq (S := fun r _ vs => S r vs) hx hf (fun e _ => he e)

/-- the same for a first part that cannot fail -/
theorem Sp_seq_ok {α β} {x : M α} {f : α → M β} {a : α} {v0 : List TEv} {S : Except Err β → List TEv → Prop}
    (hx : Sp x (fun r vs => r = .ok a ∧ vs = v0)) (hf : ∀ a, Sp (f a) (fun r vs => S r (v0 ++ vs))) : Sp (x >>= f) S := by
  refine (SpW_bind hx.toW fun a => (hf a).toW).mono (S' := fun _ r _ vs => S r vs) ?_
  rintro _ r w' vs (⟨e, rfl, h, -⟩ | ⟨a, _, v1, v2, rfl, ⟨-, rfl⟩, h⟩)
  · cases h
  · exact h

/-- `x` adds no visible event -/
def Qt {α : Type} (x : M α) : Prop := Sp x (fun _ vs => vs = [])

theorem Qt_Mpure {α} (a : α) : Qt (M.pure a : M α) := fun _ => ⟨[], rfl, rfl⟩
theorem Qt_throw {α} (e : Err) : Qt (M.throw e : M α) := fun _ => ⟨[], rfl, rfl⟩
theorem Qt_get : Qt M.get := fun _ => ⟨[], rfl, rfl⟩
theorem Qt_now : Qt now := fun _ => ⟨[], rfl, rfl⟩
theorem Qt_emit_skip (p : Pkt) : Qt (emit (.skip p)) := fun _ => ⟨[.skip p], rfl, rfl⟩
theorem Qt_elapsedGt (s : Int) (l : Timeout) : Qt (elapsedGt s l) := by
  intro w; unfold elapsedGt; cases l <;> exact ⟨[], rfl, rfl⟩

/-- requests for bytes are not visible -/
theorem Qt_readPacket (t : Txn) : Qt (readPacket t) := fun w => by
  obtain ⟨-, -, -, evs, ht, hr⟩ := readPacket_wire (t := t) (w := w) rfl
  refine ⟨evs, ht, ?_⟩
  simp only [vis, List.reverse_eq_nil_iff, List.filter_eq_nil_iff]
  intro e he
  obtain ⟨a, b, rfl⟩ := hr e he
  simp [quiet]

/-- `_send(msg)`: whatever happens, the only visible event is `tx msg` -/
theorem Sp_sendRaw (m : Msg) (t : Txn) : Sp (sendRaw m t) (fun _ vs => vs = [.tx m]) :=
  fun w => ⟨[.tx m], (Adb.sendRaw_spec m t w _ _ rfl).2.2.1, rfl⟩

theorem Sp_emit (e : TEv) : Sp (emit e) (fun r vs => r = .ok () ∧ vs = vis [e]) :=
  fun _ => ⟨[e], rfl, rfl, rfl⟩

theorem Sp_tClose : Sp tClose (fun r vs => r = .ok () ∧ vs = [.tclose]) := by
  intro w
  rw [Adb.tClose_run]
  exact ⟨[.tclose], rfl, rfl, rfl⟩

/-- outcome of `_read_expected_packet_from_device(expected)`: a returned packet is the only one
    delivered and its command is expected; an exception delivers nothing -/
def ExpectS (ex : List Cmd) : Except Err Pkt → List TEv → Prop
  | .ok p, vs => vs = [.deliver p] ∧ p.cmd ∈ ex
  | .error _, vs => vs = []

theorem Sp_expectLoop (ex : List Cmd) (t : Txn) (start : Int) : ∀ fuel, Sp (expectLoop ex t start fuel) (ExpectS ex) := by
  intro fuel
  induction fuel with
  | zero =>
    unfold expectLoop
    exact (Sp_throw _).mono (by rintro r vs ⟨rfl, rfl⟩; rfl)
  | succ f ih =>
    unfold expectLoop
    refine Sp_seq (Qt_readPacket t) (fun p => ?_) (fun _ => rfl)
    split
    · next hc =>
      refine Sp_seq_ok (Sp_emit _) (fun _ => (Sp_pure p).mono ?_)
      rintro r vs ⟨rfl, rfl⟩
      exact ⟨rfl, by simpa using hc⟩
    · refine Sp_seq (Qt_emit_skip p) (fun _ => ?_) (fun _ => rfl)
      refine Sp_seq (Qt_elapsedGt _ _) (fun b => ?_) (fun _ => rfl)
      dsimp only
      split
      · exact Sp_seq (Qt_throw _) (fun _ => ih) (fun _ => rfl)
      · exact ih

theorem Sp_expectPacket (ex : List Cmd) (t : Txn) : Sp (expectPacket ex t) (ExpectS ex) := by
  unfold expectPacket
  refine Sp_seq Qt_now (fun s => ?_) (fun _ => rfl)
  refine Sp_seq Qt_get (fun w => ?_) (fun _ => rfl)
  exact Sp_expectLoop ex t s w.fuel

/-- `_read_expected_packet_from_device(ex)` first: the continuation runs after the delivery of a packet
    with an expected command -/
theorem SpW_expect {β} {ex : List Cmd} {t : Txn} {f : Pkt → M β} {S : Except Err β → World → List TEv → Prop}
    (hf : ∀ p, SpW (f p) (fun _ r w' vs => p.cmd ∈ ex → S r w' (.deliver p :: vs)))
    (he : ∀ e w', S (.error e) w' []) : SpW (expectPacket ex t >>= f) (fun _ r w' vs => S r w' vs) := by
  refine (SpW_bind (Sp_expectPacket ex t).toW hf).mono ?_
  rintro _ r w' vs (⟨e, rfl, h⟩ | ⟨p, _, v1, v2, rfl, ⟨rfl, hp⟩, h⟩)
  · have : vs = [] := h
    subst this
    exact he e w'
  · exact h hp

theorem Sp_expect {β} {ex : List Cmd} {t : Txn} {f : Pkt → M β} {S : Except Err β → List TEv → Prop}
    (hf : ∀ p, Sp (f p) (fun r vs => p.cmd ∈ ex → S r (.deliver p :: vs)))
    (he : ∀ e, S (.error e) []) : Sp (expectPacket ex t >>= f) S :=
  SpW_expect (S := fun r _ vs => S r vs) hf (fun e _ => he e)

/-! ### The key loop (step 6 of `connect`) -/

/-- AUTH(SIGNATURE) carrying key `k`'s signature of `tok` -/
def sigMsg (k : Nat) (tok : Bytes) : Msg := ⟨.AUTH, Generated.AUTH_SIGNATURE, 0, stubSign k tok⟩

/-- Grammar of the visible events of `authLoop t keys last`, with its result: one
    `tx signature, deliver reply` pair per key tried. -/
inductive AuthRun : List Nat → Pkt → Except Err (Option Nat × Pkt) → List TEv → Prop
  /-- no key left: the last challenge is handed back -/
  | exhausted (last : Pkt) : AuthRun [] last (.ok (none, last)) []
  /-- 6.1: the challenge is not a token: close, InvalidResponseError, nothing signed -/
  | notToken (k : Nat) (ks : List Nat) (last : Pkt) (h : last.arg0 ≠ Generated.AUTH_TOKEN) :
      AuthRun (k :: ks) last (.error .invalidResponse) [.tclose]
  /-- the signature was handed to `_send`, and sending it or reading the reply raised -/
  | failed (k : Nat) (ks : List Nat) (last : Pkt) (e : Err) (h : last.arg0 = Generated.AUTH_TOKEN) :
      AuthRun (k :: ks) last (.error e) [.tx (sigMsg k last.data)]
  /-- 6.4: the reply is CNXN: done -/
  | accepted (k : Nat) (ks : List Nat) (last p : Pkt) (h : last.arg0 = Generated.AUTH_TOKEN) (hp : p.cmd = .CNXN) :
      AuthRun (k :: ks) last (.ok (some p.arg1, p)) [.tx (sigMsg k last.data), .deliver p]
  /-- the reply is another AUTH packet: go on with the next key and this new challenge -/
  | rejected (k : Nat) (ks : List Nat) (last p : Pkt) (r : Except Err (Option Nat × Pkt)) (vs : List TEv)
      (h : last.arg0 = Generated.AUTH_TOKEN) (hp : p.cmd = .AUTH) (rest : AuthRun ks p r vs) :
      AuthRun (k :: ks) last r (.tx (sigMsg k last.data) :: .deliver p :: vs)

theorem Sp_authLoop (t : Txn) : ∀ keys last, Sp (authLoop t keys last) (AuthRun keys last) := by
  intro keys
  induction keys with
  | nil =>
    intro last
    unfold authLoop
    exact (Sp_pure _).mono (by rintro r vs ⟨rfl, rfl⟩; exact .exhausted last)
  | cons k ks ih =>
    intro last
    unfold authLoop
    by_cases h : last.arg0 = Generated.AUTH_TOKEN
    · simp only [ne_eq, h, not_true_eq_false, if_false]
      refine Sp_seq (Sp_sendRaw _ t) (fun _ => Sp_expect (fun p => ?_) (fun e => .failed k ks last e h))
        (fun e => .failed k ks last e h)
      split
      · next hc => exact (Sp_pure _).mono (by rintro r vs ⟨rfl, rfl⟩ _; exact .accepted k ks last p h hc)
      · next hc => exact (ih p).mono (fun r vs hr hp => .rejected k ks last p r vs h ((mem_pair.1 hp).resolve_left hc) hr)
    · simp only [ne_eq, h, not_false_eq_true, if_true]
      -- nothing after the `raise` runs
      refine Sp_seq_ok Sp_tClose (fun _ => (Sp_throw (α := Option Nat × Pkt) Err.invalidResponse).mono ?_)
      rintro r vs ⟨rfl, rfl⟩
      exact .notToken k ks last h

/-! ### What the grammar `AuthRun` says about signatures, replies and results -/

theorem AuthRun.cbs {keys : List Nat} {last : Pkt} {r : Except Err (Option Nat × Pkt)} {vs : List TEv}
    (h : AuthRun keys last r vs) : cbs vs = 0 := by
  induction h with
  | rejected k ks last p r vs h hp rest ih => simpa using ih
  | _ => simp

/-- the i-th signature is made with the i-th key over the payload of the most recent challenge -/
theorem AuthRun.trn_spec {keys : List Nat} {last : Pkt} {r : Except Err (Option Nat × Pkt)} {vs : List TEv}
    (h : AuthRun keys last r vs) :
    ∃ j, j ≤ keys.length ∧ (dlv vs).length ≤ j ∧ j ≤ (dlv vs).length + 1 ∧
      trn vs = (List.zip (keys.take j) (last.data :: (dlv vs).map (·.data))).map (fun kt => sigMsg kt.1 kt.2) := by
  induction h with
  | exhausted last => exact ⟨0, by simp⟩
  | notToken k ks last h => exact ⟨0, by simp⟩
  | failed k ks last e h => exact ⟨1, by simp⟩
  | accepted k ks last p h hp => exact ⟨1, by simp⟩
  | rejected k ks last p r vs h hp rest ih =>
    obtain ⟨j, j1, j2, j3, j4⟩ := ih
    exact ⟨j + 1, by simpa using j1, by simpa using j2, by simpa using j3, by simp [j4]⟩

/-- What a run says by its outcome.  A signature was accepted: the CNXN reply is the last packet delivered, all
    earlier replies were AUTH challenges, and one signature was sent per reply.  Every key was rejected: one
    signature per key, one AUTH reply per key, in order.  The loop raised: every reply delivered so far was an
    AUTH challenge. -/
theorem AuthRun.out_spec {keys : List Nat} {last : Pkt} {r : Except Err (Option Nat × Pkt)} {vs : List TEv}
    (h : AuthRun keys last r vs) :
    match (generalizing := false) r with
    | .ok (some md, q) => ∃ ps, dlv vs = ps ++ [q] ∧ (∀ x ∈ ps, x.cmd = .AUTH) ∧ q.cmd = .CNXN ∧ md = q.arg1 ∧
        (trn vs).length = ps.length + 1 ∧ cls vs = 0
    | .ok (none, q) => (∀ x ∈ dlv vs, x.cmd = .AUTH) ∧ (dlv vs).length = keys.length ∧ (trn vs).length = keys.length ∧
        (last :: dlv vs).getLast? = some q ∧ cls vs = 0 ∧
        ∀ extra, trn vs = (List.zip keys (last.data :: ((dlv vs).map (·.data) ++ extra))).map (fun kt => sigMsg kt.1 kt.2)
    | .error _ => ∀ x ∈ dlv vs, x.cmd = .AUTH := by
  induction h with
  | exhausted last => simp
  | notToken k ks last h => simp
  | failed k ks last e h => simp
  | accepted k ks last p h hp => exact ⟨[], by simp, by simp, hp, rfl, by simp, by simp⟩
  | rejected k ks last p r vs h hp rest ih =>
    clear rest
    match r, ih with
    | .ok (some md, q), ⟨ps, h1, h2, h3, h4, h5, h6⟩ =>
      exact ⟨p :: ps, by simp [h1], List.forall_mem_cons.2 ⟨hp, h2⟩, h3, h4, by simp [h5], by simpa using h6⟩
    | .ok (none, q), ⟨h1, h2, h3, h4, h5, h6⟩ =>
      exact ⟨List.forall_mem_cons.2 ⟨hp, h1⟩, by simp [h2], by simp [h3], by simpa using h4, by simpa using h5,
        fun extra => by simp [h6 extra]⟩
    | .error e, ih => exact List.forall_mem_cons.2 ⟨hp, ih⟩

/-- 6.1: the i-th challenge (0 = the one the loop started with) is not a token while a key remains
    for it: InvalidResponseError, that challenge was the last packet read, no signature was made
    for it (exactly `i` signatures were sent), and the last visible event is the transport close -/
theorem AuthRun.nonToken {keys : List Nat} {last : Pkt} {r : Except Err (Option Nat × Pkt)} {vs : List TEv}
    (h : AuthRun keys last r vs) : ∀ i c, (last :: dlv vs)[i]? = some c → (i = 0 ∨ c.cmd = .AUTH) →
      c.arg0 ≠ Generated.AUTH_TOKEN → i < keys.length →
      r = .error .invalidResponse ∧ (dlv vs).length = i ∧ (trn vs).length = i ∧ vs.getLast? = some .tclose ∧ cls vs = 1 := by
  induction h with
  | exhausted last => intro i c _ _ _ hi; simp at hi
  | notToken k ks last h =>
    intro i c hc _ hn hi
    cases i with
    | zero => simp
    | succ i => simp at hc
  | failed k ks last e h =>
    intro i c hc _ hn hi
    cases i with
    | zero => simp at hc; subst hc; exact absurd h hn
    | succ i => simp at hc
  | accepted k ks last p h hp =>
    intro i c hc ha hn hi
    cases i with
    | zero => simp at hc; subst hc; exact absurd h hn
    | succ i =>
      cases i with
      | zero =>
        simp at hc; subst hc
        rcases ha with ha | ha
        · simp at ha
        · rw [hp] at ha; cases ha
      | succ i => simp at hc
  | rejected k ks last p r vs h hp rest ih =>
    intro i c hc ha hn hi
    cases i with
    | zero => simp at hc; subst hc; exact absurd h hn
    | succ i =>
      have hc' : (p :: dlv vs)[i]? = some c := by simpa using hc
      have ha' : i = 0 ∨ c.cmd = .AUTH := by
        rcases ha with ha | ha
        · simp at ha
        · exact Or.inr ha
      obtain ⟨h1, h2, h3, h4, h5⟩ := ih i c hc' ha' hn (by simpa using hi)
      exact ⟨h1, by simp [h2], by simp [h3], by simp [List.getLast?_cons, h4], by simpa using h5⟩

theorem pub_ne_cnxn (banner : Bytes) (d : Bytes) : (⟨.AUTH, Generated.AUTH_RSAPUBLICKEY, 0, d⟩ : Msg) ≠ cnxnMsg banner := by
  intro h
  have := congrArg Msg.cmd h
  simp [cnxnMsg] at this

/-- the key loop sends signatures only -/
theorem AuthRun.no_pub {keys : List Nat} {last : Pkt} {r : Except Err (Option Nat × Pkt)} {vs : List TEv}
    (h : AuthRun keys last r vs) (d : Bytes) : (⟨.AUTH, Generated.AUTH_RSAPUBLICKEY, 0, d⟩ : Msg) ∉ trn vs := by
  obtain ⟨j, -, -, -, ht⟩ := h.trn_spec
  rw [ht, List.mem_map]
  rintro ⟨kt, -, hk⟩
  have := congrArg Msg.arg0 hk
  simp [sigMsg, Generated.AUTH_RSAPUBLICKEY, Generated.AUTH_SIGNATURE] at this

/-! ### `_AdbIOManager.connect` -/

/-- the callback event, if a callback was supplied -/
def cbEv (hasCb : Bool) : List TEv := if hasCb then [.cbAuth] else []

/-- visible events and result of step 7 -/
inductive PubRun (keys : List Nat) (hasCb : Bool) : Except Err Nat → List TEv → Prop
  /-- sending the key or waiting for CNXN raised -/
  | noReply (e : Err) : PubRun keys hasCb (.error e) (cbEv hasCb ++ [.tx (pubMsg keys)])
  /-- the device answered CNXN -/
  | reply (p : Pkt) (hp : p.cmd = .CNXN) : PubRun keys hasCb (.ok p.arg1) (cbEv hasCb ++ [.tx (pubMsg keys), .deliver p])

theorem Sp_pubkeyStep (keys : List Nat) (authT : Timeout) (hasCb : Bool) (t : Txn) :
    Sp (pubkeyStep keys authT hasCb t) (PubRun keys hasCb) := by
  have hrest : Sp (do
        sendRaw (pubMsg keys) t
        let p ← expectPacket [.CNXN] { t with tt := authT }
        pure p.arg1)
      (fun r vs => PubRun keys hasCb r (cbEv hasCb ++ vs)) := by
    refine Sp_seq (Sp_sendRaw _ t) (fun _ => Sp_expect (fun p => (Sp_pure p.arg1).mono ?_) (fun e => .noReply e))
      (fun e => .noReply e)
    rintro r vs ⟨rfl, rfl⟩ hp
    exact .reply p (by simpa using hp)
  unfold pubkeyStep
  cases hasCb
  · exact hrest
  · exact Sp_seq_ok (Sp_emit .cbAuth) (fun _ => hrest)

/-- visible events and result of steps 2–7 -/
inductive TailRun (banner : Bytes) (keys : List Nat) (hasCb : Bool) : Except Err Nat → List TEv → Prop
  /-- sending CNXN or reading the first reply raised -/
  | noReply (e : Err) : TailRun banner keys hasCb (.error e) [.tx (cnxnMsg banner)]
  /-- step 4: the device answers CNXN at once -/
  | noAuth (p : Pkt) (hp : p.cmd = .CNXN) : TailRun banner keys hasCb (.ok p.arg1) [.tx (cnxnMsg banner), .deliver p]
  /-- step 5: challenged without keys -/
  | noKeys (p : Pkt) (hp : p.cmd = .AUTH) (hk : keys = []) :
      TailRun banner keys hasCb (.error .deviceAuth) [.tx (cnxnMsg banner), .deliver p, .tclose]
  /-- step 6 raised -/
  | authErr (p : Pkt) (e : Err) (va : List TEv) (hp : p.cmd = .AUTH) (hk : keys ≠ [])
      (ha : AuthRun keys p (.error e) va) : TailRun banner keys hasCb (.error e) (.tx (cnxnMsg banner) :: .deliver p :: va)
  /-- step 6.4: a signature was accepted -/
  | authOk (p q : Pkt) (md : Nat) (va : List TEv) (hp : p.cmd = .AUTH) (hk : keys ≠ [])
      (ha : AuthRun keys p (.ok (some md, q)) va) : TailRun banner keys hasCb (.ok md) (.tx (cnxnMsg banner) :: .deliver p :: va)
  /-- step 7: every key was rejected -/
  | pubkey (p q : Pkt) (va : List TEv) (r : Except Err Nat) (vp : List TEv) (hp : p.cmd = .AUTH) (hk : keys ≠ [])
      (ha : AuthRun keys p (.ok (none, q)) va) (hpub : PubRun keys hasCb r vp) :
      TailRun banner keys hasCb r (.tx (cnxnMsg banner) :: .deliver p :: (va ++ vp))

/-- steps 2–7 follow the grammar `TailRun`; and when the public key is among the messages sent, the outcome
    is that of `pubkeyStep` in some world (the one reached when every key had been rejected) -/
theorem SpW_connTail (banner : Bytes) (keys : List Nat) (authT : Timeout) (hasCb : Bool) (t : Txn) :
    SpW (connTail banner keys authT hasCb t) (fun _ r w' vs => TailRun banner keys hasCb r vs ∧
      (pubMsg keys ∈ trn vs → ∃ w0, pubkeyStep keys authT hasCb t w0 = (r, w'))) := by
  have hne : pubMsg keys ≠ cnxnMsg banner := pub_ne_cnxn banner _
  unfold connTail
  refine SpW_seq (Sp_sendRaw _ t) (fun _ => SpW_expect (fun p => ?_) (fun e _ => ⟨.noReply e, by simp [hne]⟩))
    (fun e _ => ⟨.noReply e, by simp [hne]⟩)
  split
  · next hc =>
    refine (Sp_pure _).toW.mono ?_
    rintro _ r _ vs ⟨rfl, rfl⟩ hp
    exact ⟨.noAuth p ((mem_pair.1 hp).resolve_left hc), by simp [hne]⟩
  · next hc =>
    have hp : p.cmd = .AUTH := by simpa using hc
    dsimp only
    split
    · next hk =>
      -- nothing after the `raise` runs
      refine (Sp_seq_ok (S := fun r vs => r = .error .deviceAuth ∧ vs = [.tclose]) Sp_tClose (fun _ =>
        (Sp_throw (α := Nat) Err.deviceAuth).mono (by rintro r vs ⟨rfl, rfl⟩; exact ⟨rfl, rfl⟩))).toW.mono ?_
      rintro _ r _ vs ⟨rfl, rfl⟩ _
      exact ⟨.noKeys p hp (by simpa using hk), by simp [hne]⟩
    · next hk =>
      have hk' : keys ≠ [] := by simpa using hk
      refine (SpW_bind (Sp_authLoop t keys p).toW
        (S2 := fun x w r w' vs => match x with
          | (some md, _) => r = .ok md ∧ vs = []
          | (none, _) => PubRun keys hasCb r vs ∧ pubkeyStep keys authT hasCb t w = (r, w')) (fun x => ?_)).mono ?_
      · rcases x with ⟨_ | md, q⟩
        · exact (Sp_pubkeyStep keys authT hasCb t).exact
        · exact (Sp_pure md).toW
      · rintro _ r w' vs (⟨e, rfl, ha⟩ | ⟨⟨o, q⟩, w0, v1, v2, rfl, ha, hs⟩) -
        · have hn : pubMsg keys ∉ trn vs := ha.no_pub _
          exact ⟨.authErr p e vs hp hk' ha, fun hm => absurd (by simpa [hne] using hm) hn⟩
        · have hn : pubMsg keys ∉ trn v1 := ha.no_pub _
          cases o with
          | none => exact ⟨.pubkey p q v1 r v2 hp hk' ha hs.1, fun _ => ⟨w0, hs.2⟩⟩
          | some md =>
            obtain ⟨rfl, rfl⟩ := hs
            exact ⟨by simpa using TailRun.authOk (banner := banner) (hasCb := hasCb) p q md v1 hp hk' ha,
              fun hm => absurd (by simpa [hne] using hm) hn⟩

/-- will the next `transport.connect()` succeed? -/
def canConnect (w : World) : Bool :=
  match w.conns with
  | c :: _ => !c.connectFails
  | [] => false

theorem canConnect_eq (w : World) : canConnect w = w.conns.head?.any (!·.connectFails) := by
  unfold canConnect
  cases w.conns <;> rfl

/-- steps 0 and 1 of `connect`, run with the transport lock taken: close, clear the store, `transport.connect()` -/
theorem connHead_run (tt : Timeout) (w : World) (hl : w.locks = []) :
    ∃ w1 w2 w3, tClose { w with locks := lockTransport :: w.locks } = (.ok (), w1) ∧
      withLock lockStore storeClearAll w1 = (.ok (), w2) ∧
      tConnect tt w2 = ((if canConnect w = true then .ok () else .error .transportError), w3) ∧
      w3.trace = .tconnect :: .tclose :: w.trace :=
  ⟨_, _, _, Adb.tClose_run _, clearAll_run (closed0 _) (by simp [closed0, hl, lockStore, lockTransport]),
    by rw [Adb.tConnect_run, canConnect_eq]; rfl, rfl⟩

/-- `_AdbIOManager.connect` called with no lock held: the visible new events are steps 0 and 1, `tclose` and
    `tconnect`, and, if the transport could connect, a `TailRun`; and if the public key is among the messages
    sent, the outcome is that of step 7 run in some world, with the transport lock released afterwards -/
theorem ioConnect_run {banner : Bytes} {keys : List Nat} {authT : Timeout} {hasCb : Bool} {t : Txn} {w w' : World}
    {r : Except Err Nat} {evs : List TEv} (hl : w.locks = []) (hr : ioConnect banner keys authT hasCb t w = (r, w'))
    (he : w'.trace = evs ++ w.trace) :
    ((canConnect w = false ∧ r = .error .transportError ∧ vis evs = [.tclose, .tconnect]) ∨
      (canConnect w = true ∧ ∃ vt, vis evs = .tclose :: .tconnect :: vt ∧ TailRun banner keys hasCb r vt)) ∧
      (pubMsg keys ∈ trn (vis evs) → ∃ w0 w'', pubkeyStep keys authT hasCb t w0 = (r, w'') ∧ w' = { w'' with locks := [] }) := by
  have hlk : w'.locks = [] := by
    rw [← hl, ← (Fr_ioConnect banner keys authT hasCb t w).locks, hr]
  rw [ioConnect_eq, withLock_run, if_neg (by simp [hl])] at hr
  simp only at hr
  obtain ⟨w1, w2, w3, h1, h2, h3, t3⟩ := connHead_run t.tt w hl
  rw [bind_run_ok h1, bind_run_ok h2] at hr
  by_cases hc : canConnect w = true
  · rw [if_pos hc] at h3
    rw [bind_run_ok h3] at hr
    obtain ⟨rfl, rfl⟩ := Prod.mk.inj hr
    obtain ⟨ev2, he2, hs, hpub⟩ := SpW_connTail banner keys authT hasCb t w3
    simp only at he hlk
    rw [he2, t3] at he
    obtain rfl : evs = ev2 ++ [.tconnect, .tclose] := List.append_cancel_right (by rw [← he]; simp)
    refine ⟨Or.inr ⟨hc, vis ev2, vis_append _ _, hs⟩, fun hm => ?_⟩
    obtain ⟨w0, hw0⟩ := hpub (by simpa [vis_append, vis, quiet] using hm)
    exact ⟨w0, _, hw0, by rw [hlk]⟩
  · rw [if_neg hc] at h3
    rw [bind_run_err h3] at hr
    obtain ⟨rfl, rfl⟩ := Prod.mk.inj hr
    simp only at he
    rw [t3] at he
    obtain rfl : evs = [.tconnect, .tclose] := List.append_cancel_right (by rw [← he]; simp)
    exact ⟨Or.inl ⟨by simpa using hc, rfl, rfl⟩, by simp [vis, quiet, trn, isTx]⟩

/-! ### What the grammar `TailRun` says -/

@[simp] theorem dlv_cbEv (b : Bool) : dlv (cbEv b) = [] := by cases b <;> rfl
@[simp] theorem trn_cbEv (b : Bool) : trn (cbEv b) = [] := by cases b <;> rfl

variable {banner : Bytes} {keys : List Nat} {hasCb : Bool}

theorem PubRun.trn_spec {r : Except Err Nat} {vp : List TEv} (h : PubRun keys hasCb r vp) :
    trn vp = [pubMsg keys] ∧ (dlv vp).length ≤ 1 := by
  cases h <;> simp

/-- success: the last delivered packet is a CNXN whose arg1 is the result, and all earlier ones are AUTH;
    failure: no CNXN was delivered (every delivered packet is an AUTH challenge) -/
theorem TailRun.dlv_spec {r : Except Err Nat} {vs : List TEv} (h : TailRun banner keys hasCb r vs) :
    match (generalizing := false) r with
    | .ok md => ∃ ps p, dlv vs = ps ++ [p] ∧ (∀ x ∈ ps, x.cmd = .AUTH) ∧ p.cmd = .CNXN ∧ md = p.arg1
    | .error _ => ∀ x ∈ dlv vs, x.cmd = .AUTH := by
  cases h with
  | noReply e => simp
  | noAuth p hp => exact ⟨[], p, by simp, by simp, hp, rfl⟩
  | noKeys p hp hk => simpa using hp
  | authErr p e va hp hk ha => simpa using ⟨hp, ha.out_spec⟩
  | authOk p q md va hp hk ha =>
    obtain ⟨ps, h1, h2, h3, h4, -, -⟩ := ha.out_spec
    exact ⟨p :: ps, q, by simp [h1], List.forall_mem_cons.2 ⟨hp, h2⟩, h3, h4⟩
  | pubkey p q va r vp hp hk ha hpub =>
    obtain ⟨h1, -⟩ := ha.out_spec
    cases hpub with
    | noReply e => simpa using ⟨hp, h1⟩
    | reply p' hp' => exact ⟨p :: dlv va, p', by simp, List.forall_mem_cons.2 ⟨hp, h1⟩, hp', rfl⟩

/-- step 5 -/
theorem TailRun.noKeys_spec {r : Except Err Nat} {vs : List TEv} (h : TailRun banner keys hasCb r vs) (hk : keys = [])
    (p : Pkt) (hd : (dlv vs).head? = some p) (hp : p.cmd = .AUTH) :
    r = .error .deviceAuth ∧ vs = [.tx (cnxnMsg banner), .deliver p, .tclose] := by
  cases h with
  | noReply e => simp at hd
  | noAuth p' hp' => simp at hd; subst hd; rw [hp] at hp'; cases hp'
  | noKeys p' hp' hk' => simp at hd; subst hd; exact ⟨rfl, rfl⟩
  | authErr p' e' va hp' hk' ha => exact absurd hk hk'
  | authOk p' q md' va hp' hk' ha => exact absurd hk hk'
  | pubkey p' q va r vp hp' hk' ha hpub => exact absurd hk hk'

/-- step 6.1 -/
theorem TailRun.nonToken {r : Except Err Nat} {vs : List TEv} (h : TailRun banner keys hasCb r vs) (i : Nat) (c : Pkt)
    (hc : (dlv vs)[i]? = some c) (ha : c.cmd = .AUTH) (hn : c.arg0 ≠ Generated.AUTH_TOKEN) (hi : i < keys.length) :
    r = .error .invalidResponse ∧ (dlv vs).length = i + 1 ∧ (trn vs).length = i + 1 ∧
      vs.getLast? = some .tclose ∧ cls vs = 1 := by
  cases h with
  | noReply e => simp at hc
  | noAuth p hp =>
    cases i with
    | zero => simp at hc; subst hc; rw [hp] at ha; cases ha
    | succ i => simp at hc
  | noKeys p hp hk => subst hk; simp at hi
  | authErr p e va hp hk har =>
    obtain ⟨h1, h2, h3, h4, h5⟩ := har.nonToken i c (by simpa using hc) (Or.inr ha) hn hi
    exact ⟨congrArg Except.error (Except.error.inj h1), by simp [h2], by simp [h3], by simp [List.getLast?_cons, h4],
      by simpa using h5⟩
  | authOk p q md va hp hk har =>
    obtain ⟨h1, -⟩ := har.nonToken i c (by simpa using hc) (Or.inr ha) hn hi
    simp at h1
  | pubkey p q va r vp hp hk har hpub =>
    obtain ⟨-, h2, -⟩ := har.out_spec
    have hc' : (p :: dlv va)[i]? = some c := by
      simp only [dlv_tx, dlv_deliver, dlv_append] at hc
      rw [← hc, ← List.cons_append, List.getElem?_append_left (by simp; omega)]
    obtain ⟨h1, -⟩ := har.nonToken i c hc' (Or.inr ha) hn hi
    simp at h1

/-- step 7: the public key is sent only after one signature per key -/
theorem TailRun.pub_spec {r : Except Err Nat} {vs : List TEv} (h : TailRun banner keys hasCb r vs) (d : Bytes)
    (hm : (⟨.AUTH, Generated.AUTH_RSAPUBLICKEY, 0, d⟩ : Msg) ∈ trn vs) :
    d = stubPub (keys.headD 0) ++ [0] ∧ keys ≠ [] ∧
      trn vs = cnxnMsg banner :: ((List.zip keys ((dlv vs).map (·.data))).map (fun kt => sigMsg kt.1 kt.2) ++ [pubMsg keys]) ∧
      keys.length + 1 ≤ (dlv vs).length ∧
      (∀ x ∈ (dlv vs).take (keys.length + 1), x.cmd = .AUTH) := by
  cases h with
  | noReply e => simp [pub_ne_cnxn] at hm
  | noAuth p hp => simp [pub_ne_cnxn] at hm
  | noKeys p hp hk => simp [pub_ne_cnxn] at hm
  | authErr p e va hp hk ha => simp [pub_ne_cnxn, ha.no_pub d] at hm
  | authOk p q md va hp hk ha => simp [pub_ne_cnxn, ha.no_pub d] at hm
  | pubkey p q va r vp hp hk ha hpub =>
    obtain ⟨h1, h2, h3, -, -, h6⟩ := ha.out_spec
    obtain ⟨t1, -⟩ := hpub.trn_spec
    -- the message can only be the one sent in step 7
    have hm' : (⟨.AUTH, Generated.AUTH_RSAPUBLICKEY, 0, d⟩ : Msg) = pubMsg keys := by
      simpa [t1, pub_ne_cnxn, ha.no_pub d] using hm
    refine ⟨by simpa [pubMsg] using congrArg Msg.data hm', hk, ?_, by simp [h2], ?_⟩
    · simp only [trn_tx, trn_deliver, trn_append, t1, dlv_tx, dlv_deliver, dlv_append, List.map_cons, List.map_append]
      rw [h6 ((dlv vp).map (·.data))]
    · intro x hx
      simp only [dlv_tx, dlv_deliver, dlv_append, List.take_succ_cons] at hx
      rw [List.take_append_of_le_length (by omega), List.take_of_length_le (by omega)] at hx
      rcases List.mem_cons.1 hx with rfl | hx
      · exact hp
      · exact h1 x hx

/-- the callback is invoked at most once, exactly when a callback was supplied and the public key
    is sent, and it is the visible event immediately before the public key's `tx` -/
theorem TailRun.cb_spec {r : Except Err Nat} {vs : List TEv} (h : TailRun banner keys hasCb r vs) :
    cbs vs ≤ 1 ∧ (cbs vs = 1 ↔ (hasCb = true ∧ pubMsg keys ∈ trn vs)) ∧
      (cbs vs = 1 → ∃ pre post, vs = pre ++ .cbAuth :: .tx (pubMsg keys) :: post ∧ cbs pre = 0 ∧
        trn pre = cnxnMsg banner :: (List.zip keys ((dlv pre).map (·.data))).map (fun kt => sigMsg kt.1 kt.2) ∧
        trn post = [] ∧ cbs post = 0) := by
  have hne : pubMsg keys ≠ cnxnMsg banner := pub_ne_cnxn banner _
  cases h with
  | noReply e => simp [hne]
  | noAuth p hp => simp [hne]
  | noKeys p hp hk => simp [hne]
  | authErr p e va hp hk ha =>
    have h0 := ha.cbs
    have hn : pubMsg keys ∉ trn va := ha.no_pub _
    simp [h0, hn, hne]
  | authOk p q md va hp hk ha =>
    have h0 := ha.cbs
    have hn : pubMsg keys ∉ trn va := ha.no_pub _
    simp [h0, hn, hne]
  | pubkey p q va r vp hp hk ha hpub =>
    have h0 := ha.cbs
    obtain ⟨-, -, -, -, -, h6⟩ := ha.out_spec
    obtain ⟨post, rfl, tp, cp⟩ : ∃ post, vp = cbEv hasCb ++ .tx (pubMsg keys) :: post ∧ trn post = [] ∧ cbs post = 0 := by
      cases hpub with
      | noReply e => exact ⟨[], rfl, rfl, rfl⟩
      | reply p' hp' => exact ⟨[.deliver p'], rfl, rfl, rfl⟩
    -- without a callback the count is 0; with one, the run splits at the callback event
    cases hasCb
    · simp [cbEv, h0, cp]
    · refine ⟨by simp [cbEv, h0, cp], by simp [cbEv, h0, cp], fun _ =>
        ⟨.tx (cnxnMsg banner) :: .deliver p :: va, post, by simp [cbEv], by simp [h0], ?_, tp, cp⟩⟩
      simpa using h6 []

/-- all messages of a handshake: CNXN, then one signature per key tried (the i-th key signs the
    payload of the i-th packet delivered, i.e. of the most recent challenge), then possibly the public key -/
theorem TailRun.sig_spec {r : Except Err Nat} {vs : List TEv} (h : TailRun banner keys hasCb r vs) :
    ∃ j tl, j ≤ keys.length ∧ j ≤ (dlv vs).length ∧ (dlv vs).length ≤ j + 1 + tl.length ∧
      trn vs = cnxnMsg banner :: ((List.zip (keys.take j) ((dlv vs).map (·.data))).map (fun kt => sigMsg kt.1 kt.2) ++ tl) ∧
      (tl = [] ∨ (tl = [pubMsg keys] ∧ j = keys.length)) ∧
      (∀ md, r = .ok md → tl = [] → (dlv vs).length = j + 1) := by
  cases h with
  | noReply e => exact ⟨0, [], by simp⟩
  | noAuth p hp => exact ⟨0, [], by simp⟩
  | noKeys p hp hk => exact ⟨0, [], by simp⟩
  | authErr p e va hp hk ha =>
    obtain ⟨j, j1, j2, j3, j4⟩ := ha.trn_spec
    exact ⟨j, [], j1, by simp; omega, by simp; omega, by simp [j4], Or.inl rfl, by simp⟩
  | authOk p q md va hp hk ha =>
    obtain ⟨j, j1, j2, j3, j4⟩ := ha.trn_spec
    obtain ⟨ps, h1, -, -, -, h5, -⟩ := ha.out_spec
    refine ⟨j, [], j1, by simp; omega, by simp; omega, by simp [j4], Or.inl rfl, ?_⟩
    intro _ _ _
    have : (trn va).length = j := by
      rw [j4, List.length_map, List.length_zip, List.length_take]
      simp; omega
    simp [h1] at j2 j3 ⊢
    omega
  | pubkey p q va r vp hp hk ha hpub =>
    obtain ⟨-, h2, -, -, -, h6⟩ := ha.out_spec
    obtain ⟨t1, d1⟩ := hpub.trn_spec
    refine ⟨keys.length, [pubMsg keys], Nat.le_refl _, by simp; omega, ?_, ?_, Or.inr ⟨rfl, rfl⟩, by simp⟩
    · simp [h2, d1]
    · simp only [trn_tx, trn_deliver, trn_append, t1, dlv_tx, dlv_deliver, dlv_append, List.map_cons, List.map_append,
        List.take_length]
      rw [h6 ((dlv vp).map (·.data))]

/-! ### `AdbDevice.connect` -/

/-- `AdbDevice.connect` is `_AdbIOManager.connect` run with the availability flag cleared; success
    sets the flag and stores the returned maxdata -/
theorem devConnect_run (keys : List Nat) (tt authT rt : Timeout) (cb : Bool) (w : World) (t : Txn)
    (hm : Txn.make none none (if tt.isSome = true then tt else w.defaultTT) rt none = .ok t) :
    devConnect keys tt authT rt cb w =
      match ioConnect w.banner keys authT cb t { w with available := false } with
      | (.ok md, w1) => (.ok (.bool true), { w1 with available := true, maxdata := md })
      | (.error e, w1) => (.error e, w1) := by
  unfold devConnect
  simp only [getTT, bind_run, liftExcept_run, hm, M.modify_run, M.get_run]
  split <;> simp_all

/-! ### The component specifications in terms of `transmitted` / `delivered` / `callbacks` -/

/-- `_send(m)`: whatever the outcome, the visible trace grows by exactly `tx m` -/
theorem sendRaw_spec {m : Msg} {t : Txn} {w w' : World} {r : Except Err Unit} {evs : List TEv}
    (hr : sendRaw m t w = (r, w')) (he : w'.trace = evs ++ w.trace) :
    vis evs = [.tx m] ∧ transmitted evs = [m] ∧ delivered evs = [] ∧ callbacks evs = 0 ∧ closes evs = 0 := by
  have h : vis evs = [.tx m] := (Sp_sendRaw m t).elim hr he
  rw [transmitted_eq, delivered_eq, callbacks_eq, closes_eq, h]
  exact ⟨rfl, rfl, rfl, rfl, rfl⟩

/-- `_read_expected_packet_from_device(ex)`: a returned packet is the only packet delivered and
    its command is one of `ex`; an exception delivers nothing; nothing is ever transmitted -/
theorem expectPacket_spec {ex : List Cmd} {t : Txn} {w w' : World} {r : Except Err Pkt} {evs : List TEv}
    (hr : expectPacket ex t w = (r, w')) (he : w'.trace = evs ++ w.trace) :
    (∀ p, r = .ok p → vis evs = [.deliver p] ∧ delivered evs = [p] ∧ p.cmd ∈ ex) ∧
    (∀ e, r = .error e → vis evs = [] ∧ delivered evs = []) ∧
    transmitted evs = [] ∧ callbacks evs = 0 ∧ closes evs = 0 := by
  have h : ExpectS ex r (vis evs) := (Sp_expectPacket ex t).elim hr he
  rw [transmitted_eq, delivered_eq, callbacks_eq, closes_eq]
  cases r with
  | ok p =>
    obtain ⟨h1, h2⟩ := h
    rw [h1]
    exact ⟨fun p' hp' => Except.ok.inj hp' ▸ ⟨rfl, rfl, h2⟩, fun e he => (nomatch he), rfl, rfl, rfl⟩
  | error e =>
    have h1 : vis evs = [] := h
    rw [h1]
    exact ⟨fun p hp => (nomatch hp), fun _ _ => ⟨rfl, rfl⟩, rfl, rfl, rfl⟩

/-- The key loop. `j` signatures are sent, `j ≤ len(keys)`; the i-th is made with the i-th key over
    the payload of the most recent AUTH packet (`last`, then the replies delivered); each reply
    follows a signature. Accepted: the CNXN is the last reply, earlier replies are AUTH, and one
    signature per reply was sent. Exhausted: every key was used and every reply is AUTH.
    A non-token challenge with a key left: InvalidResponseError, transport closed, not signed. -/
theorem authLoop_spec {t : Txn} {keys : List Nat} {last : Pkt} {w w' : World} {r : Except Err (Option Nat × Pkt)}
    {evs : List TEv} (hr : authLoop t keys last w = (r, w')) (he : w'.trace = evs ++ w.trace) :
    callbacks evs = 0 ∧
    (∃ j, j ≤ keys.length ∧ (delivered evs).length ≤ j ∧ j ≤ (delivered evs).length + 1 ∧
      transmitted evs = (List.zip (keys.take j) (last.data :: (delivered evs).map (·.data))).map
        (fun kt => (⟨.AUTH, Generated.AUTH_SIGNATURE, 0, stubSign kt.1 kt.2⟩ : Msg))) ∧
    (∀ md p, r = .ok (some md, p) → ∃ ps, delivered evs = ps ++ [p] ∧ (∀ x ∈ ps, x.cmd = .AUTH) ∧ p.cmd = .CNXN ∧
      md = p.arg1 ∧ (transmitted evs).length = (delivered evs).length ∧ closes evs = 0) ∧
    (∀ p, r = .ok (none, p) → (∀ x ∈ delivered evs, x.cmd = .AUTH) ∧ (delivered evs).length = keys.length ∧
      (transmitted evs).length = keys.length ∧ (last :: delivered evs).getLast? = some p ∧ closes evs = 0) ∧
    (∀ e, r = .error e → ∀ x ∈ delivered evs, x.cmd = .AUTH) ∧
    (∀ i c, (last :: delivered evs)[i]? = some c → (i = 0 ∨ c.cmd = .AUTH) → c.arg0 ≠ Generated.AUTH_TOKEN →
      i < keys.length → r = .error .invalidResponse ∧ (delivered evs).length = i ∧ (transmitted evs).length = i ∧
        (vis evs).getLast? = some .tclose ∧ closes evs = 1) := by
  have h : AuthRun keys last r (vis evs) := (Sp_authLoop t keys last).elim hr he
  rw [transmitted_eq, delivered_eq, callbacks_eq, closes_eq]
  refine ⟨h.cbs, h.trn_spec, ?_, ?_, ?_, h.nonToken⟩
  · rintro md p rfl
    obtain ⟨ps, h1, h2, h3, h4, h5, h6⟩ := h.out_spec
    exact ⟨ps, h1, h2, h3, h4, by simp [h5, h1], h6⟩
  · rintro p rfl
    obtain ⟨h1, h2, h3, h4, h5, -⟩ := h.out_spec
    exact ⟨h1, h2, h3, h4, h5⟩
  · rintro e rfl
    exact h.out_spec

/-! ### Concrete scenarios for the non-vacuity examples of C05 -/

instance exceptDecEq {ε α : Type} [DecidableEq ε] [DecidableEq α] : DecidableEq (Except ε α) := fun a b =>
  match a, b with
  | .ok x, .ok y => if h : x = y then isTrue (by rw [h]) else isFalse (by intro h'; cases h'; exact h rfl)
  | .error x, .error y => if h : x = y then isTrue (by rw [h]) else isFalse (by intro h'; cases h'; exact h rfl)
  | .ok _, .error _ => isFalse (by intro h; cases h)
  | .error _, .ok _ => isFalse (by intro h; cases h)

theorem pair_eta {α β : Type} (p : α × β) : p = (p.1, p.2) := rfl

def exTok1 : Bytes := [1, 2, 3]
def exTok2 : Bytes := [4, 5, 6, 7]
def exCnxn : Pkt := ⟨.CNXN, 0x01000000, 4096, ascii "device::x"⟩
def exTxn : Txn := ⟨none, none, some 10240, some 10240, none⟩

/-- a world whose next connection plays the given packets, all readable at once -/
def exWorld (ps : List Pkt) : World := { conns := [{ segs := ps.map (fun p => ⟨0, p.encode⟩) }] }

/-- two challenges, then CNXN -/
def exWorldAuth : World := exWorld [⟨.AUTH, 1, 0, exTok1⟩, ⟨.AUTH, 1, 0, exTok2⟩, exCnxn]
/-- a token, then a challenge that is not a token -/
def exWorldBad : World := exWorld [⟨.AUTH, 1, 0, exTok1⟩, ⟨.AUTH, 5, 0, exTok2⟩]
/-- a single challenge and silence -/
def exWorldChallenge : World := exWorld [⟨.AUTH, 1, 0, exTok1⟩]

end HS
end Adb
