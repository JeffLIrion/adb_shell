import AdbModel
/-
  `_AdbTransactionInfo.__init__` (`Txn.make`) in normal form, and what the other modules need of it.
-/
namespace Adb

/-- the `TypeError` is that of Python's `min` meeting a `None` read timeout -/
theorem Txn.make_eq (l r : Option Nat) (tt rt total : Timeout) :
    Txn.make l r tt rt total =
      if rt = none ∧ (tt ≠ none ∨ total ≠ none) then .error .pyTypeError
      else .ok ⟨l, r,
        (match tt with
          | none => (match total with | none => rt | some c => rt.map (min · c))
          | some a => (match total with | none => rt | some c => rt.map (min · c)).map (min a)),
        (match total with | none => rt | some c => rt.map (min · c)), total⟩ := by
  cases tt <;> cases rt <;> cases total <;> rfl

theorem Txn.make_ids {l r : Option Nat} {tt rt total : Timeout} {t : Txn}
    (h : Txn.make l r tt rt total = .ok t) : t.localId = l ∧ t.remoteId = r ∧ t.total = total := by
  rw [Txn.make_eq] at h
  split at h <;> cases h
  exact ⟨rfl, rfl, rfl⟩

theorem Txn.make_not_hang (l r : Option Nat) (a b c : Timeout) : Txn.make l r a b c ≠ .error .hang := by
  rw [Txn.make_eq]
  split <;> nofun

theorem Txn.make_fields {l r l' r' : Option Nat} {a b c : Timeout} {t t' : Txn}
    (h : Txn.make l r a b c = .ok t) (h' : Txn.make l' r' a b c = .ok t') :
    t.rt = t'.rt ∧ t.tt = t'.tt ∧ t.total = c := by
  rw [Txn.make_eq] at h h'
  split at h <;> cases h
  rw [if_neg ‹_›] at h'
  cases h'
  exact ⟨rfl, rfl, rfl⟩

theorem Txn.make_err_ids {l r l' r' : Option Nat} {a b c : Timeout} {e : Err} (h : Txn.make l r a b c = .error e) :
    ∀ t, Txn.make l' r' a b c ≠ .ok t := by
  rw [Txn.make_eq] at h ⊢
  split at h
  · rw [if_pos ‹_›]; nofun
  · cases h

theorem Txn.make_ok (l r : Option Nat) (tt : Timeout) (rt : Int) : ∃ t, Txn.make l r tt (some rt) none = .ok t := by
  rw [Txn.make_eq, if_neg (fun h => nomatch h.1)]
  exact ⟨_, rfl⟩

end Adb
