import AdbProofs.Lemmas.ConcLemmas
/-
  C06 under an arbitrary fair schedule: a finite fairness notion (`Round`, `Rounds`), the global
  measure `nu` (packets on the transport + packets parked for the readers), and the round lemma:
  a fair round strictly decreases `nu` unless the system is already quiescent.
-/
namespace Adb
namespace Conc

/-! ### Fair schedules -/

/-- one fair round for `n` readers: for every reader index `i < n` the segment contains the two
    choices `pre i`, `iter i`, in this order, as a (not necessarily contiguous) subsequence; any
    other choices may be interleaved anywhere -/
def Round (n : Nat) (seg : List Choice) : Prop :=
  ∀ i, i < n → [Choice.pre i, Choice.iter i].Sublist seg

instance (n : Nat) (seg : List Choice) : Decidable (Round n seg) := by unfold Round; infer_instance

/-- `sched` starts with `k` consecutive fair rounds (what follows the `k`-th round is arbitrary) -/
def Rounds (n : Nat) : Nat → List Choice → Prop
  | 0, _ => True
  | k + 1, sched => ∃ seg rest, sched = seg ++ rest ∧ Round n seg ∧ Rounds n k rest

theorem round_mono {n : Nat} {seg seg' : List Choice} (h : Round n seg) (hs : seg.Sublist seg') : Round n seg' :=
  fun i hi => (h i hi).trans hs

theorem round_append_right {n : Nat} {seg : List Choice} (h : Round n seg) (extra : List Choice) :
    Round n (seg ++ extra) := round_mono h (List.sublist_append_left _ _)

theorem round_append_left {n : Nat} {seg : List Choice} (h : Round n seg) (extra : List Choice) :
    Round n (extra ++ seg) := round_mono h (List.sublist_append_right _ _)

/-- prepending arbitrary choices keeps a schedule fair -/
theorem rounds_append_left {n : Nat} {k : Nat} {sched : List Choice} (h : Rounds n k sched)
    (extra : List Choice) : Rounds n k (extra ++ sched) := by
  cases k with
  | zero => trivial
  | succ k =>
    obtain ⟨seg, rest, he, hr, hk⟩ := h
    exact ⟨extra ++ seg, rest, by rw [he, List.append_assoc], round_append_left hr extra, hk⟩

/-- fewer rounds are required by a weaker hypothesis -/
theorem rounds_mono {n : Nat} : ∀ {k k' : Nat} {sched : List Choice}, Rounds n k sched → k' ≤ k → Rounds n k' sched := by
  intro k
  induction k with
  | zero =>
    intro k' sched _ hle
    have : k' = 0 := by omega
    subst this; trivial
  | succ k ih =>
    intro k' sched h hle
    cases k' with
    | zero => trivial
    | succ k' =>
      obtain ⟨seg, rest, he, hr, hk⟩ := h
      exact ⟨seg, rest, he, hr, ih hk (by omega)⟩

/-- fair schedules compose -/
theorem rounds_append {n : Nat} : ∀ {k k' : Nat} {a b : List Choice}, Rounds n k a → Rounds n k' b →
    Rounds n (k + k') (a ++ b) := by
  intro k
  induction k with
  | zero =>
    intro k' a b _ hb
    rw [Nat.zero_add]
    exact rounds_append_left hb a
  | succ k ih =>
    intro k' a b ⟨seg, rest, he, hr, hk⟩ hb
    rw [Nat.add_right_comm]
    exact ⟨seg, rest ++ b, by rw [he, List.append_assoc], hr, ih hk hb⟩

theorem rounds_append_right {n : Nat} : ∀ {k : Nat} {sched : List Choice}, Rounds n k sched →
    ∀ extra, Rounds n k (sched ++ extra) :=
  fun h extra => rounds_append h (k' := 0) (b := extra) trivial

/-- a concatenation of fair rounds is a fair schedule -/
theorem rounds_flatten {n : Nat} : ∀ (segs : List (List Choice)), (∀ seg ∈ segs, Round n seg) →
    Rounds n segs.length segs.flatten := by
  intro segs
  induction segs with
  | nil => intro _; trivial
  | cons seg segs ih =>
    intro h
    exact ⟨seg, segs.flatten, by simp, h seg (by simp), ih (fun x hx => h x (by simp [hx]))⟩

/-- one round-robin round: `pre 0, iter 0, pre 1, iter 1, …` -/
def rrRound (n : Nat) : List Choice := (List.range n).flatMap fun i => [Choice.pre i, Choice.iter i]

/-- the round-robin schedule of `k` rounds -/
def roundRobin (n k : Nat) : List Choice := (List.replicate k (rrRound n)).flatten

/-- "one thread runs for a long time, then the others": reader 0 runs alone for `m` rounds, then
    reader 1, … -/
def soloAll (n m : Nat) : List Choice := (List.range n).flatMap fun i => soloSched i m

theorem sublist_flatMap_of_mem {α β : Type} {f : α → List β} {l : List α} {a : α} (h : a ∈ l) :
    (f a).Sublist (l.flatMap f) := by
  induction l with
  | nil => cases h
  | cons x xs ih =>
    rw [List.flatMap_cons]
    rcases List.mem_cons.1 h with e | e
    · subst e; exact List.sublist_append_left _ _
    · exact (ih e).trans (List.sublist_append_right _ _)

theorem round_rrRound (n : Nat) : Round n (rrRound n) := fun i hi =>
  sublist_flatMap_of_mem (f := fun j => [Choice.pre j, Choice.iter j]) (a := i) (List.mem_range.2 hi)

theorem rounds_replicate {n : Nat} {seg : List Choice} (h : Round n seg) (k : Nat) :
    Rounds n k (List.replicate k seg).flatten := by
  simpa using rounds_flatten (List.replicate k seg) fun x hx => (List.mem_replicate.1 hx).2 ▸ h

/-- round-robin schedules are fair -/
theorem rounds_roundRobin (n k : Nat) : Rounds n k (roundRobin n k) := rounds_replicate (round_rrRound n) k

/-- the solo schedules of all readers, one after the other, form a fair round -/
theorem round_soloAll (n m : Nat) (hm : 0 < m) : Round n (soloAll n m) := fun i hi => by
  have h1 : [Choice.pre i, Choice.iter i].Sublist (soloSched i m) := by
    obtain ⟨m', rfl⟩ : ∃ m', m = m' + 1 := ⟨m - 1, by omega⟩
    rw [soloSched_succ]
    exact List.sublist_append_left _ _
  exact h1.trans (sublist_flatMap_of_mem (f := fun i => soloSched i m) (List.mem_range.2 hi))

/-- "every thread runs alone for a long time, one after the other", repeated `k` times, is fair -/
theorem rounds_soloAll (n m k : Nat) (hm : 0 < m) : Rounds n k (List.replicate k (soloAll n m)).flatten :=
  rounds_replicate (round_soloAll n m hm) k

/-! ### The global measure -/

/-- number of packets parked in the store for the streams of the readers of `sys₀` -/
def pend (sys₀ : Sys) (st : Store) : Nat := (sys₀.readers.map fun ρ => (parked st ρ).length).sum

/-- the global measure: packets still on the transport plus packets parked for the readers -/
def nu (sys₀ s : Sys) : Nat := s.wire.length + pend sys₀ s.store

theorem sum_map_le {α : Type} (f g : α → Nat) : ∀ (l : List α), (∀ a ∈ l, f a ≤ g a) →
    (l.map f).sum ≤ (l.map g).sum := by
  intro l
  induction l with
  | nil => intro _; simp
  | cons x xs ih =>
    intro h
    have h1 := h x (by simp)
    have h2 := ih (fun a ha => h a (by simp [ha]))
    simp only [List.map_cons, List.sum_cons]
    omega

theorem sum_map_lt {α : Type} (f g : α → Nat) (l : List α) (h : ∀ a ∈ l, f a ≤ g a)
    (hlt : ∃ a ∈ l, f a < g a) : (l.map f).sum < (l.map g).sum := by
  obtain ⟨a, ha, hlt⟩ := hlt
  obtain ⟨l1, l2, rfl⟩ := List.append_of_mem ha
  have h1 := sum_map_le f g l1 fun x hx => h x (by simp [hx])
  have h2 := sum_map_le f g l2 fun x hx => h x (by simp [hx])
  simp only [List.map_append, List.map_cons, List.sum_append, List.sum_cons]
  omega

/-- `put` parks at most one packet: the readers have distinct local ids, so at most one of them owns `p` -/
theorem pend_put (sys₀ : Sys) (hwf : WellFormed sys₀) {st : Store} {p : Pkt}
    (hk : ¬ (p.cmd = Cmd.CLSE ∧ st.queue p.arg0 p.arg1 = none)) :
    pend sys₀ (st.put p.arg0 p.arg1 p.cmd p.data) ≤ pend sys₀ st + 1 := by
  unfold pend
  have hn := hwf.1
  generalize sys₀.readers = l at hn
  induction l with
  | nil => exact Nat.zero_le _
  | cons x xs ih =>
    rw [List.map_cons, List.nodup_cons] at hn
    simp only [List.map_cons, List.sum_cons]
    rw [parked_put hk x]
    by_cases hx : ownB x p = true
    · have hxs : (xs.map fun ρ => (parked (st.put p.arg0 p.arg1 p.cmd p.data) ρ).length) =
          xs.map fun ρ => (parked st ρ).length := by
        apply List.map_congr_left
        intro ρ hρ
        have hne : ρ.lid ≠ x.lid := fun e => hn.1 (e ▸ List.mem_map_of_mem hρ)
        rw [parked_put hk, if_neg]
        simp [ownB, (ownB_iff.1 hx).1, Ne.symm hne]
      rw [hxs, if_pos hx, List.length_append]
      exact Nat.le_of_eq (Nat.add_right_comm _ _ _)
    · have := ih hn.2
      rw [if_neg hx]
      omega

section
variable {sys₀ s : Sys}

theorem pend_get (hwf : WellFormed sys₀) (h : Inv sys₀ s) {i : Nat} {r : Reader} (hr : s.readers[i]? = some r)
    {p : Pkt} {rest : List Pkt} {st' : Store} (ht : Took s.store st' r p rest) :
    pend sys₀ st' < pend sys₀ s.store := by
  have key : ∀ ρ : Reader, (parked st' ρ).length ≤ (parked s.store ρ).length ∧
      (ρ.rid = r.rid ∧ ρ.lid = r.lid → (parked st' ρ).length < (parked s.store ρ).length) := by
    intro ρ
    by_cases hb : ρ.rid = r.rid ∧ ρ.lid = r.lid
    · rw [ht.self ρ hb.1 hb.2, parked_congr hb.2 hb.1, ht.head]
      split <;> simp
    · rw [ht.other ρ hb]
      exact ⟨Nat.le_refl _, fun e => absurd e hb⟩
  obtain ⟨_, _, _, r₀, hm, _, e1, e2⟩ := reader_facts hwf h.static hr
  exact sum_map_lt _ _ _ (fun ρ _ => (key ρ).1) ⟨r₀, hm, (key r₀).2 ⟨e2, e1⟩⟩

theorem pend_afterOwn (sys₀ : Sys) {st : Store} (hI : Store.Inv st) (p : Pkt) :
    pend sys₀ (afterOwn st p) ≤ pend sys₀ st := by
  apply sum_map_le
  intro ρ _
  rw [parked_afterOwn hI]
  split <;> simp

/-- The effect of an enabled step of reader `j` on the global measure and on the other readers:
    the other readers are untouched and keep their parked packets; the step consumes something
    (`nu` decreases), or is the pre-check entering the loop, or finds nothing at all, or parks a
    packet for its owner (`nu` unchanged). -/
theorem step_fair (hwf : WellFormed sys₀) (h : Inv sys₀ s) {j : Nat} {rj : Reader} {c : Choice}
    (hr : s.readers[j]? = some rj) (hen : Enabled c j rj) :
    (∀ b, b ≠ j → (step s c).readers[b]? = s.readers[b]?) ∧
    (∀ ρ : Reader, ρ.lid ≠ rj.lid → parked s.store ρ ≠ [] → parked (step s c).store ρ ≠ []) ∧
    ( nu sys₀ (step s c) < nu sys₀ s
    ∨ (parked s.store rj = [] ∧
        ( (c = .pre j ∧ step s c = { s with readers := s.readers.set j { rj with inLoop := true } })
        ∨ (c = .iter j ∧ s.wire = [] ∧ step s c = s)
        ∨ (c = .iter j ∧ ∃ p rest, s.wire = p :: rest ∧ ownB rj p = false ∧
            (step s c).readers = s.readers ∧ nu sys₀ (step s c) ≤ nu sys₀ s ∧
            ∀ ρ : Reader, ownB ρ p = true → parked (step s c).store ρ ≠ []))) ) := by
  rcases step_enabled hwf h hr hen with ⟨p, rest, st', ht, he⟩ |
    ⟨hpe, ⟨hc, he⟩ | ⟨hc, hw, he⟩ | ⟨hc, p, rest, hw, hown, he⟩ | ⟨hc, p, rest, hw, hown, hk, he⟩ |
      ⟨_, p, rest, hw, _, _, _, he⟩⟩
  · rw [he]
    refine ⟨fun b hb => by simp [Ne.symm hb], ?_, Or.inl ?_⟩
    · intro ρ hne hρ
      show parked st' ρ ≠ []
      rw [ht.other ρ fun e => hne e.2]; exact hρ
    · show s.wire.length + pend sys₀ st' < s.wire.length + pend sys₀ s.store
      have := pend_get hwf h hr ht
      omega
  · rw [he]
    exact ⟨fun b hb => by simp [Ne.symm hb], fun ρ _ hp => hp, Or.inr ⟨hpe, Or.inl ⟨hc, rfl⟩⟩⟩
  · rw [he]
    exact ⟨fun b _ => rfl, fun ρ _ hp => hp, Or.inr ⟨hpe, Or.inr (Or.inl ⟨hc, hw, rfl⟩)⟩⟩
  · rw [he]
    have hids := ownB_iff.1 hown
    refine ⟨fun b hb => by simp [Ne.symm hb], ?_, Or.inl ?_⟩
    · intro ρ hne hρ
      show parked (afterOwn s.store p) ρ ≠ []
      rw [parked_afterOwn h.store.1, if_neg fun e => hne (e.2.2.trans hids.1)]; exact hρ
    · show rest.length + pend sys₀ (afterOwn s.store p) < s.wire.length + pend sys₀ s.store
      have := pend_afterOwn sys₀ h.store.1 p
      rw [hw, List.length_cons]
      omega
  · rw [he]
    refine ⟨fun b _ => rfl, ?_, Or.inr ⟨hpe, Or.inr (Or.inr ⟨hc, p, rest, hw, hown, rfl, ?_, ?_⟩)⟩⟩
    · intro ρ _ hρ
      show parked (s.store.put p.arg0 p.arg1 p.cmd p.data) ρ ≠ []
      rw [parked_put hk]
      split
      · simp
      · exact hρ
    · show rest.length + pend sys₀ (s.store.put p.arg0 p.arg1 p.cmd p.data) ≤ s.wire.length + pend sys₀ s.store
      have := pend_put sys₀ hwf hk
      rw [hw, List.length_cons]
      omega
    · intro ρ hρ
      show parked (s.store.put p.arg0 p.arg1 p.cmd p.data) ρ ≠ []
      rw [parked_put hk, if_pos hρ]
      simp
  · rw [he]
    refine ⟨fun b _ => rfl, fun ρ _ hρ => hρ, Or.inl ?_⟩
    show rest.length + pend sys₀ s.store < s.wire.length + pend sys₀ s.store
    rw [hw, List.length_cons]
    omega

/-- no step increases the global measure -/
theorem step_nu_le (hwf : WellFormed sys₀) (h : Inv sys₀ s) (c : Choice) : nu sys₀ (step s c) ≤ nu sys₀ s := by
  rcases enabled_or_not s c with ⟨i, r, hr, hen⟩ | hdis
  · rcases (step_fair hwf h hr hen).2.2 with h1 | ⟨_, ⟨_, he⟩ | ⟨_, _, he⟩ | ⟨_, p, rest, _, _, _, h1, _⟩⟩
    · omega
    · rw [he]; exact Nat.le_refl _
    · rw [he]; exact Nat.le_refl _
    · exact h1
  · rw [step_disabled c hdis]; exact Nat.le_refl _

theorem run_nu_le (hwf : WellFormed sys₀) (sched : List Choice) (s : Sys) (h : Inv sys₀ s) :
    nu sys₀ (run s sched) ≤ nu sys₀ s :=
  run_induction hwf (P := fun t => nu sys₀ t ≤ nu sys₀ s)
    (fun _ ht hp c => Nat.le_trans (step_nu_le hwf ht c) hp) sched s h (Nat.le_refl _)

/-! ### Quiescent states -/

/-- every reader is done or has nothing left to obtain -/
def Quiescent (s : Sys) : Prop := ∀ (i : Nat) (r : Reader), s.readers[i]? = some r → Sat s r

/-- in a quiescent state a step can only set the `inLoop` flag of a reader that is not done -/
theorem quiescent_step (hwf : WellFormed sys₀) (h : Inv sys₀ s) (hq : Quiescent s) (c : Choice) :
    step s c = s ∨ ∃ j rj, s.readers[j]? = some rj ∧
      step s c = { s with readers := s.readers.set j { rj with inLoop := true } } := by
  rcases enabled_or_not s c with ⟨j, rj, hrj, hen⟩ | hdis
  · rcases hq j rj hrj with hd | ⟨hw, hp⟩
    · rw [hen.1] at hd; cases hd
    · rcases step_enabled hwf h hrj hen with ⟨p, rest, st', ht, _⟩ |
        ⟨_, ⟨_, he⟩ | ⟨_, _, he⟩ | ⟨_, p, rest, hw', _⟩ | ⟨_, p, rest, hw', _⟩ | ⟨_, p, rest, hw', _⟩⟩
      · have := ht.head
        rw [hp] at this
        cases this
      · exact Or.inr ⟨j, rj, hrj, he⟩
      · exact Or.inl he
      · rw [hw] at hw'; cases hw'
      · rw [hw] at hw'; cases hw'
      · rw [hw] at hw'; cases hw'
  · exact Or.inl (step_disabled c hdis)

theorem quiescent_step_same (hwf : WellFormed sys₀) (h : Inv sys₀ s) (hq : Quiescent s) (c : Choice) :
    Quiescent (step s c) ∧
    (step s c).wire = s.wire ∧ (step s c).store = s.store ∧ (step s c).lost = s.lost ∧
    (step s c).readers.map (fun r => (r.given, r.done)) = s.readers.map (fun r => (r.given, r.done)) := by
  rcases quiescent_step hwf h hq c with he | ⟨j, rj, hrj, he⟩
  · rw [he]; exact ⟨hq, rfl, rfl, rfl, rfl⟩
  · rw [he]
    refine ⟨fun i r hr => ?_, rfl, rfl, rfl, ?_⟩
    · have hr' : (s.readers.set j { rj with inLoop := true })[i]? = some r := hr
      by_cases hij : j = i
      · subst hij
        rw [getElem?_set_self' hrj] at hr'
        cases hr'
        exact hq j rj hrj
      · rw [List.getElem?_set_ne hij] at hr'
        exact hq i r hr'
    · show (s.readers.set j { rj with inLoop := true }).map (fun r => (r.given, r.done)) = _
      rw [List.map_set]
      exact set_self (by simp [hrj])

theorem quiescent_run_same (hwf : WellFormed sys₀) (extra : List Choice) (s : Sys) (h : Inv sys₀ s)
    (hq : Quiescent s) :
    Quiescent (run s extra) ∧
    (run s extra).wire = s.wire ∧ (run s extra).store = s.store ∧ (run s extra).lost = s.lost ∧
    (run s extra).readers.map (fun r => (r.given, r.done)) = s.readers.map (fun r => (r.given, r.done)) :=
  run_induction hwf
    (P := fun t => Quiescent t ∧ t.wire = s.wire ∧ t.store = s.store ∧ t.lost = s.lost ∧
      t.readers.map (fun r => (r.given, r.done)) = s.readers.map (fun r => (r.given, r.done)))
    (fun _ ht ⟨hq, a1, a2, a3, a4⟩ c =>
      let ⟨hq', b1, b2, b3, b4⟩ := quiescent_step_same hwf ht hq c
      ⟨hq', b1.trans a1, b2.trans a2, b3.trans a3, b4.trans a4⟩)
    extra s h ⟨hq, rfl, rfl, rfl, rfl⟩

/-! ### A fair round makes progress -/

/-- what reader `i` (currently `r`) is still owed by the rest `seg` of the current round: a pre-check
    and later a loop iteration, or just a loop iteration if it is in the loop already -/
def Need (i : Nat) (r : Reader) (seg : List Choice) : Prop :=
  [Choice.pre i, Choice.iter i].Sublist seg ∨ (r.inLoop = true ∧ Choice.iter i ∈ seg)

theorem enabled_index {c : Choice} {i j : Nat} {r r' : Reader} (h : Enabled c i r) (h' : Enabled c j r') :
    i = j := by
  have e : c = .pre i ∨ c = .iter i := h.2.imp And.left And.left
  have e' : c = .pre j ∨ c = .iter j := h'.2.imp And.left And.left
  rcases e with e | e <;> rcases e' with e' | e' <;> rw [e] at e' <;> cases e' <;> rfl

theorem need_tail {i : Nat} {r : Reader} {c : Choice} {rest : List Choice} (hn : Need i r (c :: rest))
    (hd : r.done = false) (hen : ¬ Enabled c i r) : Need i r rest := by
  rcases hn with hs | ⟨hl, hm⟩
  · rcases List.sublist_cons_iff.1 hs with h2 | ⟨t, e, h2⟩
    · exact Or.inl h2
    · cases e
      -- `c = pre i` is not enabled: the reader is in the loop already
      cases hl : r.inLoop with
      | false => exact absurd ⟨hd, Or.inl ⟨rfl, hl⟩⟩ hen
      | true => exact Or.inr ⟨hl, List.singleton_sublist.1 h2⟩
  · rcases List.mem_cons.1 hm with e | e
    · exact absurd ⟨hd, Or.inr ⟨e.symm, hl⟩⟩ hen
    · exact Or.inr ⟨hl, e⟩

theorem owed_tail {i : Nat} {r : Reader} {c : Choice} {rest : List Choice}
    (h : Sat s r ∨ Need i r (c :: rest)) (hen : ¬ Enabled c i r) : Sat s r ∨ Need i r rest := by
  rcases h with hs | hn
  · exact Or.inl hs
  · cases hd : r.done with
    | true => exact Or.inl (Or.inl hd)
    | false => exact Or.inr (need_tail hn hd hen)

theorem waiting_progress (hwf : WellFormed sys₀) {b : Nat} : ∀ (seg : List Choice) (s : Sys) (r : Reader),
    Inv sys₀ s → s.readers[b]? = some r → r.done = false → parked s.store r ≠ [] → Need b r seg →
    nu sys₀ (run s seg) < nu sys₀ s := by
  intro seg
  induction seg with
  | nil =>
    intro s r _ _ _ _ hn
    rcases hn with hn | ⟨_, hn⟩
    · simp at hn
    · simp at hn
  | cons c rest ih =>
    intro s r h hr hd hp hn
    have h' := step_inv hwf h c
    show nu sys₀ (run (step s c) rest) < nu sys₀ s
    by_cases hen : Enabled c b r
    · have h1 : nu sys₀ (step s c) < nu sys₀ s := by
        rcases (step_fair hwf h hr hen).2.2 with h1 | ⟨e, _⟩
        · exact h1
        · exact absurd e hp
      have := run_nu_le hwf rest _ h'
      omega
    · have keep : (step s c).readers[b]? = some r ∧ parked (step s c).store r ≠ [] := by
        rcases enabled_or_not s c with ⟨j, rj, hrj, henj⟩ | hdis
        · have hjb : b ≠ j := by
            intro e; subst e; rw [hr] at hrj; cases hrj; exact hen henj
          obtain ⟨f1, f2, _⟩ := step_fair hwf h hrj henj
          have hne : r.lid ≠ rj.lid := fun e => hjb (lid_inj hwf h.static hr hrj e)
          exact ⟨by rw [f1 b hjb]; exact hr, f2 r hne hp⟩
        · rw [step_disabled c hdis]; exact ⟨hr, hp⟩
      have h1 := step_nu_le hwf h c
      have := ih (step s c) r h' keep.1 hd keep.2 (need_tail hn hd hen)
      omega

/-- the packet at the head of the transport belongs to a reader that is not done -/
theorem owner_of_head (hwf : WellFormed sys₀) (h : Inv sys₀ s) {p : Pkt} {rest : List Pkt} (hw : s.wire = p :: rest) :
    ∃ (b : Nat) (rb : Reader), s.readers[b]? = some rb ∧ ownB rb p = true ∧ rb.done = false := by
  obtain ⟨pre, hpre⟩ := h.wire
  obtain ⟨_, _, _, r₀, hm, e1, e2⟩ := hwf.2.2.1 p (by rw [hpre, hw]; simp)
  obtain ⟨b, hb⟩ := List.getElem?_of_mem hm
  obtain ⟨rb, hrb, f1, f2⟩ := inv_reader h hb
  refine ⟨b, rb, hrb, by simp [ownB, f1, f2, e1, e2], ?_⟩
  cases hd : rb.done with
  | false => rfl
  | true =>
    have : p ∈ ownOf r₀ s.wire := by rw [ownOf_eq, hw]; simp [ownB, e1, e2]
    rw [(done_rest hwf h hb hrb hd).2.1] at this
    cases this

/-- The round lemma, generalised to the rest of a round: if every reader either has nothing left to
    obtain or is still owed its turn by `seg`, then running `seg` strictly decreases the global
    measure or ends in a quiescent state. -/
theorem round_progress (hwf : WellFormed sys₀) : ∀ (seg : List Choice) (s : Sys), Inv sys₀ s →
    (∀ i r, s.readers[i]? = some r → Sat s r ∨ Need i r seg) →
    nu sys₀ (run s seg) < nu sys₀ s ∨ Quiescent (run s seg) := by
  intro seg
  induction seg with
  | nil =>
    intro s _ hN
    refine Or.inr (fun i r hr => ?_)
    rcases hN i r hr with h1 | h1 | ⟨_, h1⟩
    · exact h1
    · simp at h1
    · simp at h1
  | cons c rest ih =>
    intro s h hN
    have h' := step_inv hwf h c
    have hle := step_nu_le hwf h c
    show nu sys₀ (run (step s c) rest) < nu sys₀ s ∨ Quiescent (run (step s c) rest)
    -- the induction hypothesis, once the obligation is re-established after the step
    have fin : (∀ i r, (step s c).readers[i]? = some r → Sat (step s c) r ∨ Need i r rest) →
        nu sys₀ (run (step s c) rest) < nu sys₀ s ∨ Quiescent (run (step s c) rest) := by
      intro hN'
      rcases ih _ h' hN' with h2 | h2
      · left; omega
      · right; exact h2
    rcases enabled_or_not s c with ⟨j, rj, hrj, hen⟩ | hdis
    · -- the readers other than `j` cannot take the step
      have other : ∀ i r, i ≠ j → s.readers[i]? = some r → Sat s r ∨ Need i r rest :=
        fun i r hij hr => owed_tail (hN i r hr) fun e => hij (enabled_index e hen)
      obtain ⟨f1, _, f3⟩ := step_fair hwf h hrj hen
      rcases f3 with hlt | ⟨hp, ⟨hc, he⟩ | ⟨hc, hw, he⟩ | ⟨hc, p, wrest, hw, hown, hrd, _, hpark⟩⟩
      · left
        have := run_nu_le hwf rest _ h'
        omega
      · -- the pre-check enters the loop: reader `j` is now owed its loop iteration
        subst hc
        apply fin
        intro i r hr
        by_cases hij : i = j
        · subst hij
          rw [he] at hr ⊢
          have hr' : (s.readers.set i { rj with inLoop := true })[i]? = some r := hr
          rw [getElem?_set_self' hrj] at hr'
          cases hr'
          rcases hN i rj hrj with hs | hs | ⟨hl, _⟩
          · exact Or.inl hs
          · refine Or.inr (Or.inr ⟨rfl, ?_⟩)
            rcases List.sublist_cons_iff.1 hs with h2 | ⟨t, e, h2⟩
            · exact h2.subset (by simp)
            · cases e
              exact List.singleton_sublist.1 h2
          · rcases hen.2 with ⟨_, e⟩ | ⟨e, _⟩
            · rw [hl] at e; cases e
            · cases e
        · rw [f1 i hij] at hr
          rw [he]
          exact other i r hij hr
      · -- nothing to read: reader `j` has nothing left to obtain
        subst hc
        rw [he] at fin ⊢
        apply fin
        intro i r hr
        by_cases hij : i = j
        · subst hij
          rw [hrj] at hr
          cases hr
          exact Or.inl (Or.inr ⟨hw, hp⟩)
        · exact other i r hij hr
      · -- a packet is parked for its owner, which will consume it before the round ends
        subst hc
        left
        obtain ⟨b, rb, hrb, hownb, hdb⟩ := owner_of_head hwf h hw
        have hbj : b ≠ j := by
          intro e; subst e; rw [hrj] at hrb; cases hrb; rw [hown] at hownb; cases hownb
        have hneed : Need b rb rest := by
          rcases other b rb hbj hrb with (hs | ⟨hs, _⟩) | hs
          · rw [hdb] at hs; cases hs
          · rw [hw] at hs; cases hs
          · exact hs
        have := waiting_progress hwf rest _ rb h' (by rw [hrd]; exact hrb) hdb (hpark rb hownb) hneed
        omega
    · rw [step_disabled c hdis] at fin ⊢
      exact fin fun i r hr => owed_tail (hN i r hr) (hdis i r hr)

/-- a full fair round strictly decreases the global measure, or ends in a quiescent state -/
theorem fair_round_progress (hwf : WellFormed sys₀) (h : Inv sys₀ s) {seg : List Choice}
    (hr : Round sys₀.readers.length seg) : nu sys₀ (run s seg) < nu sys₀ s ∨ Quiescent (run s seg) := by
  apply round_progress hwf seg s h
  intro i r hi
  have hlt : i < s.readers.length := lt_of_getElem? hi
  have hlen : s.readers.length = sys₀.readers.length := by
    have := congrArg List.length h.static
    simpa using this
  exact Or.inr (Or.inl (hr i (by omega)))

/-- more fair rounds than the global measure: the run ends in a quiescent state -/
theorem rounds_quiescent (hwf : WellFormed sys₀) : ∀ (k : Nat) (sched : List Choice) (s : Sys), Inv sys₀ s →
    Rounds sys₀.readers.length k sched → nu sys₀ s < k → Quiescent (run s sched) := by
  intro k
  induction k with
  | zero => intro _ _ _ _ hk; omega
  | succ k ih =>
    intro sched s h ⟨seg, rest, he, hr, hk⟩ hlt
    rw [he, run_append]
    have h' := run_inv hwf h seg
    rcases fair_round_progress hwf h hr with h1 | h1
    · exact ih rest _ h' hk (by omega)
    · exact (quiescent_run_same hwf rest _ h' h1).1

theorem nu_initial (hi : Initial sys₀) : nu sys₀ sys₀ = sys₀.wire.length := by
  obtain ⟨_, hst, _, _⟩ := hi
  have : pend sys₀ sys₀.store = 0 := by
    unfold pend
    rw [hst]
    generalize sys₀.readers = l
    induction l with
    | nil => rfl
    | cons x xs ih => simp only [List.map_cons, List.sum_cons, ih]; simp [parked, Store.queue]
  simp [nu, this]

end

/-! ### The concrete systems and schedules of the non-vacuity examples -/

/-- two readers (streams (rid 11, lid 1) and (rid 12, lid 2)); the device interleaves the two streams,
    so each reader takes packets of the other stream off the transport -/
def sysFair : Sys :=
  { wire := [⟨.WRTE, 12, 2, [1]⟩, ⟨.WRTE, 11, 1, [2]⟩, ⟨.WRTE, 12, 2, [3]⟩, ⟨.CLSE, 12, 2, []⟩,
             ⟨.WRTE, 11, 1, [4]⟩, ⟨.CLSE, 11, 1, []⟩],
    readers := [{ lid := 1, rid := 11 }, { lid := 2, rid := 12 }] }

/-- an irregular fair schedule: seven rounds of different shapes, with repeated, out-of-phase and
    out-of-range choices interleaved -/
def segsMixed : List (List Choice) :=
  let a : List Choice := [.iter 1, .pre 1, .pre 0, .iter 1, .iter 1, .iter 0]
  let b : List Choice := [.pre 0, .pre 1, .iter 0, .pre 7, .iter 1]
  let c : List Choice := [.pre 1, .iter 1, .iter 1, .pre 0, .iter 0, .iter 0]
  [a, b, c, b, a, c, b]

end Conc
end Adb
