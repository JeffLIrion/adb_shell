import AdbModel
/- Helper lemmas about little-endian words and lists of bytes. -/
namespace Adb

@[simp] theorem le32_length (n : Nat) : (le32 n).length = 4 := by simp [le32]

theorem rd32_le32 (n : Nat) (h : n < 4294967296) (rest : Bytes) :
    rd32 (le32 n ++ rest) = some (n, rest) := by
  simp [le32, rd32, UInt8.toNat_ofNat']
  omega

theorem byteSum_append (a b : Bytes) : byteSum (a ++ b) = byteSum a + byteSum b := by
  induction a with
  | nil => simp [byteSum]
  | cons x xs ih => simp [byteSum, ih]; omega

theorem checksum_lt (d : Bytes) : checksum d < 4294967296 := by
  unfold checksum; omega

theorem mod64_lt (v : Nat) : v % 64 < 64 := Nat.mod_lt _ (by decide)

/-- A number is the sum of its base-64 digits (the top one unbounded): base64 groups, UTF-8 code points. -/
theorem sextets (v : Nat) :
    v / 262144 * 262144 + v / 4096 % 64 * 4096 + v / 64 % 64 * 64 + v % 64 = v := by omega

theorem sextets3 (v : Nat) : v / 4096 * 4096 + v / 64 % 64 * 64 + v % 64 = v := by
  rw [Nat.add_assoc, Nat.add_comm (v / 64 % 64 * 64), Nat.mul_comm _ 64, ← Nat.mod_mul (a := 64) (b := 64)]
  exact Nat.div_add_mod' v 4096

theorem sextets_hi3 (v : Nat) :
    v / 262144 * 262144 + v / 4096 % 64 * 4096 + v / 64 % 64 * 64 = v / 64 * 64 :=
  Nat.add_right_cancel ((sextets v).trans (Nat.div_add_mod' v 64).symm)

theorem sextets_hi2 (v : Nat) : v / 262144 * 262144 + v / 4096 % 64 * 4096 = v / 4096 * 4096 :=
  Nat.add_right_cancel (((Nat.add_assoc ..).symm.trans (sextets v)).trans
    ((Nat.add_assoc ..).symm.trans (sextets3 v)).symm)

theorem div_mul_div (v a b : Nat) (ha : 0 < a) : v / a * a / (a * b) = v / (a * b) := by
  rw [← Nat.div_div_eq_div_mul, Nat.mul_div_cancel _ ha, Nat.div_div_eq_div_mul]

end Adb
