import AdbProofs.Lemmas.TimeFrameSync
/-
  The time frame for `connect` and `close`.  `connect` runs under the transport lock on a FRESH connection and
  clears the packet store first, so it has its own small frame (`HF`): the same accounting as `TF` (one wait per
  delivered packet, one or two write waits per `_send`), without the packet store.  The wait that follows the
  public key uses `auth_timeout_s` as transport timeout; `P.τ` bounds both timeouts.
-/
namespace Adb
variable {P : TP} {X : Int}

/-! ### the handshake frame: `connect` runs under the transport lock, on a fresh connection and an empty store -/

/-- a wait that returns a packet delivered exactly that packet; a failing wait delivered nothing -/
def RxPost (w : World) (r : Except Err Pkt) (w' : World) : Prop :=
  match r with
  | .ok p => Adds w w' [.rx p] []
  | .error _ => Adds w w' [] []

theorem expectLoop_adds (ex : List Cmd) (t : Txn) (start : Int) : ∀ (fuel : Nat) (w w' : World) (r : Except Err Pkt),
    expectLoop ex t start fuel w = (r, w') → RxPost w r w' := by
  intro fuel
  induction fuel with
  | zero =>
    intro w w' r h
    simp only [expectLoop, M.throw_run, Prod.mk.injEq] at h
    obtain ⟨rfl, rfl⟩ := h
    exact (Adds.rfl' _ : Adds w w [] [])
  | succ n ih =>
    intro w w' r h
    unfold expectLoop at h
    rcases bind_any_inv h with ⟨e, he, rfl⟩ | ⟨p, w1, hp, hrest⟩
    · exact (Qt.adds (Qt_readPacket t) he : Adds w w' [] [])
    · have h1 : Adds w w1 [] [] := Qt.adds (Qt_readPacket t) hp
      simp only at hrest
      split at hrest
      · simp only [bind_run, emit_run, pure_run, Prod.mk.injEq] at hrest
        obtain ⟨rfl, rfl⟩ := hrest
        have h2 : Adds w1 { w1 with trace := .deliver p :: w1.trace } [.rx p] [] := Adds.deliver rfl
        exact (by simpa using h1.trans h2 : Adds w _ [.rx p] [])
      · rcases bind_any_inv hrest with ⟨e, he, _⟩ | ⟨_, w2, hem, hrest2⟩
        · simp at he
        · simp only [emit_run, Prod.mk.injEq] at hem
          have h2 : Adds w1 w2 [] [] := Adds.silent (e := .skip p) rfl (by rw [← hem.2])
          rcases bind_any_inv hrest2 with ⟨e, he, rfl⟩ | ⟨b, w3, hel, hrest3⟩
          · have h3 : Adds w2 w' [] [] := Qt.adds (Qt_elapsedGt _ _) he
            exact (by simpa using (h1.trans h2).trans h3 : Adds w w' [] [])
          · have h3 : Adds w2 w3 [] [] := Qt.adds (Qt_elapsedGt _ _) hel
            have h123 : Adds w w3 [] [] := by simpa using (h1.trans h2).trans h3
            split at hrest3
            · simp only [bind_run, M.throw_run, Prod.mk.injEq] at hrest3
              obtain ⟨rfl, rfl⟩ := hrest3
              exact h123
            · have h4 := ih _ _ _ hrest3
              cases r with
              | ok q => have h4' : Adds w3 w' [.rx q] [] := h4; exact (by simpa using h123.trans h4' : Adds w w' [.rx q] [])
              | error e => have h4' : Adds w3 w' [] [] := h4; exact (by simpa using h123.trans h4' : Adds w w' [] [])

theorem expectPacket_adds {ex : List Cmd} {t : Txn} {w w' : World} {r : Except Err Pkt}
    (h : expectPacket ex t w = (r, w')) : RxPost w r w' := by
  simp only [expectPacket, bind_run, now_run, M.get_run] at h
  exact expectLoop_adds ex t _ _ _ _ _ h

structure HPost (P : TP) (w : World) (ok : Bool) (w' : World) : Prop where
  cost : w'.CallCost P.D
  fuel : w'.fuel = w.fuel
  locks : w'.locks = w.locks
  dtt : w'.defaultTT = w.defaultTT
  files : w'.files = w.files
  mono : w.now ≤ w'.now
  time : w'.now - w.now ≤ w'.tcost P - w.tcost P + (if ok then 0 else P.W)

theorem HPost.trans {a b c : World} {ok : Bool} (h1 : HPost P a true b) (h2 : HPost P b ok c) : HPost P a ok c := by
  have t1 := h1.time
  have t2 := h2.time
  simp only [if_true] at t1
  exact ⟨h2.cost, h2.fuel.trans h1.fuel, h2.locks.trans h1.locks, h2.dtt.trans h1.dtt, h2.files.trans h1.files,
    by have := h1.mono; have := h2.mono; omega, by omega⟩

/-- the frame of one handshake step (lock set arbitrary, store not used) -/
def HFat {α : Type} (P : TP) (w : World) (r : Except Err α) (w' : World) : Prop :=
  Ext w w' ∧ (w.CallCost P.D → P.R < w.fuel → isHang r = false ∧ HPost P w (okB r) w')

def HF {α : Type} (P : TP) (x : M α) : Prop := ∀ w r w', x w = (r, w') → HFat P w r w'

theorem HF_bind {α β} {x : M α} {f : α → M β} (hx : HF P x) (hf : ∀ a, HF P (f a)) : HF P (x >>= f) := by
  intro w r w' h
  rcases bind_any_inv h with ⟨e, he, rfl⟩ | ⟨a, w1, hxa, hfa⟩
  · obtain ⟨e1, h1⟩ := hx w _ w' he
    refine ⟨e1, fun hc hf => ?_⟩
    simpa [isHang_error] using h1 hc hf
  · obtain ⟨e1, h1⟩ := hx w _ w1 hxa
    obtain ⟨e2, h2⟩ := hf a w1 r w' hfa
    refine ⟨e1.trans e2, fun hc hfu => ?_⟩
    obtain ⟨_, a1⟩ := h1 hc hfu
    obtain ⟨b0, b1⟩ := h2 a1.cost (by rw [a1.fuel]; exact hfu)
    exact ⟨b0, a1.trans b1⟩

theorem HF_ite {α} {c : Prop} [Decidable c] {a b : M α} (ha : HF P a) (hb : HF P b) : HF P (if c then a else b) := by
  split <;> assumption

theorem TQ.hf {α} {x : M α} (hx : TQ x) : HF P x := by
  intro w r w' h
  have q := hx.at h
  obtain ⟨Y, ha⟩ := q.adds
  have hW := P.W_pos
  refine ⟨ha.ext, fun hc _ => ⟨q.nohang, hc.of_cur_eq q.cur, q.fuel, q.locks, q.dtt, q.files, by rw [q.now]; omega, ?_⟩⟩
  have hcst := ha.pot P
  rw [hcst, q.now]
  split <;> simp <;> omega

theorem HF_tClose : HF P tClose := by
  intro w r w' h
  have hW := P.W_pos
  have ha : Adds w w' [] [] ∧ r = .ok () ∧ w'.now = w.now ∧ w'.fuel = w.fuel ∧ w'.locks = w.locks ∧
      w'.defaultTT = w.defaultTT ∧ w'.files = w.files ∧ w'.cur = none := by
    unfold tClose at h
    split at h <;>
    ( cases h
      exact ⟨Adds.silent (e := .tclose) rfl rfl, rfl, rfl, rfl, rfl, rfl, rfl, by first | assumption | rfl⟩ )
  obtain ⟨ha, rfl, h1, h2, h3, h4, h5, h6⟩ := ha
  refine ⟨ha.ext, fun _ _ => ⟨rfl, ?_, h2, h3, h4, h5, by omega, ?_⟩⟩
  · intro c hcur; rw [h6] at hcur; simp at hcur
  · have hcst := ha.pot P
    rw [hcst, h1]; simp

/-- a transport timeout `τ0 ≤ P.τ` only makes the waits shorter -/
theorem HF_sendRaw (m : Msg) (t : Txn) {τ0 : Int} (hrt : t.rt = some P.R) (htt : t.tt = some τ0) (h0 : 0 ≤ τ0)
    (hle : τ0 ≤ P.τ) : HF P (sendRaw m t) := by
  intro w r w' h
  have hfr := Fr_sendRaw m t w
  rw [h] at hfr
  refine ⟨hfr.ext, fun hc hfu => ?_⟩
  obtain ⟨a1, a2, a3, a4, a5, a6⟩ := sendRaw_time h hrt htt P.hR h0 hc (by omega)
  have := (sendRaw_adds h).send_time (P := P) (s := P.R + max P.D τ0) (by unfold TP.S; omega) a3 a4
  have hW := P.W_pos
  refine ⟨isHang_of_mem a5 hang_not_mem_sendErrs, a1, hfr.fuel, hfr.locks, hfr.defaultTT, hfr.files, a2, ?_⟩
  split <;> omega

theorem HF_expectPacket (ex : List Cmd) (t : Txn) {τ0 : Int} (hrt : t.rt = some P.R) (htt : t.tt = some τ0) (h0 : 0 ≤ τ0)
    (hle : τ0 ≤ P.τ) : HF P (expectPacket ex t) := by
  intro w r w' h
  have hfr := Fr_expectPacket ex t w
  rw [h] at hfr
  refine ⟨hfr.ext, fun hc hfu => ?_⟩
  obtain ⟨a1, a2, a3, a4, a5, a6⟩ := expectPacket_time h hrt htt P.hR h0 hc (by omega)
  have hd := expectPacket_adds h
  refine ⟨isHang_of_mem a4 hang_not_mem_pktErrs, a1, hfr.fuel, hfr.locks, hfr.defaultTT, hfr.files, a2, ?_⟩
  have hWe : P.W = P.R + 2 * (P.R + max P.D P.τ) := rfl
  rw [tcost_of_wait (r := r) (fun p hr => by subst hr; exact hd) (fun e hr => by subst hr; exact hd)]
  by_cases hr : okB r = true
  · rw [if_pos hr, if_pos hr]; omega
  · rw [if_neg hr, if_neg hr]; omega

/-- one syntax-directed step on a goal `HF P e` (as one step of `tf`) -/
macro "hf_step" : tactic => `(tactic| first
    | with_reducible refine HF_bind ?_ (fun _ => ?_)
    | with_reducible refine HF_ite ?_ ?_
    | (with_reducible apply HF_sendRaw) <;> assumption
    | (with_reducible apply HF_expectPacket) <;> assumption
    | with_reducible exact HF_tClose
    | with_reducible assumption
    | exact TQ.hf (by tq_leaf)
    | split
    | dsimp only)

macro "hf" : tactic => `(tactic| repeat' hf_step)

theorem HF_authLoop (t : Txn) {τ0 : Int} (hrt : t.rt = some P.R) (htt : t.tt = some τ0) (h0 : 0 ≤ τ0) (hle : τ0 ≤ P.τ) :
    ∀ keys last, HF P (authLoop t keys last) := by
  intro keys
  induction keys with
  | nil => intro last; unfold authLoop; hf
  | cons k ks ih => intro last; unfold authLoop; hf; all_goals exact ih _

theorem HF_connTail (banner : Bytes) (keys : List Nat) (A : Int) (hasCb : Bool) (t : Txn) {τ0 : Int}
    (hrt : t.rt = some P.R) (htt : t.tt = some τ0) (h0 : 0 ≤ τ0) (hle : τ0 ≤ P.τ) (hA : 0 ≤ A) (hAle : A ≤ P.τ) :
    HF P (connTail banner keys (some A) hasCb t) := by
  have hal := HF_authLoop (P := P) t hrt htt h0 hle
  have hrt' : ({ t with tt := some A } : Txn).rt = some P.R := hrt
  have htt' : ({ t with tt := some A } : Txn).tt = some A := rfl
  unfold connTail pubkeyStep
  hf
  all_goals exact hal _ _

/-- what the steps before the handshake do: no time, nothing delivered or transmitted -/
structure Still (w w' : World) : Prop where
  now : w'.now = w.now
  fuel : w'.fuel = w.fuel
  locks : w'.locks = w.locks
  dtt : w'.defaultTT = w.defaultTT
  files : w'.files = w.files
  adds : Adds w w' [] []

theorem Still.trans {a b c : World} (h1 : Still a b) (h2 : Still b c) : Still a c :=
  ⟨h2.now.trans h1.now, h2.fuel.trans h1.fuel, h2.locks.trans h1.locks, h2.dtt.trans h1.dtt, h2.files.trans h1.files,
    by simpa using h1.adds.trans h2.adds⟩

theorem tClose_still {w w' : World} {r : Except Err Unit} (h : tClose w = (r, w')) :
    r = .ok () ∧ Still w w' ∧ w'.cur = none ∧ w'.conns = w.conns := by
  cases (tClose_run w).symm.trans h
  exact ⟨rfl, ⟨rfl, rfl, rfl, rfl, rfl, Adds.silent (e := .tclose) rfl rfl⟩, rfl, rfl⟩

theorem clearAll_still {w w' : World} {r : Except Err Unit} (h : withLock lockStore storeClearAll w = (r, w'))
    (hl : lockStore ∉ w.locks) : r = .ok () ∧ Still w w' ∧ w'.cur = w.cur ∧ w'.conns = w.conns ∧ w'.store = [] := by
  cases (clearAll_run w hl).symm.trans h
  exact ⟨rfl, ⟨rfl, rfl, rfl, rfl, rfl, Adds.of_trace_eq rfl⟩, rfl, rfl, rfl⟩

theorem tConnect_still {tt : Timeout} {w w' : World} {r : Except Err Unit} (h : tConnect tt w = (r, w')) :
    Still w w' ∧ w'.store = w.store ∧
    ((r = .error .transportError ∧ w'.cur = w.cur) ∨ (r = .ok () ∧ ∃ c, w.conns.head? = some c ∧ w'.cur = some c)) := by
  rcases tConnect_cases tt w with h' | ⟨c, rest, hc, h'⟩ <;> cases h'.symm.trans h <;>
    refine ⟨⟨rfl, rfl, rfl, rfl, rfl, Adds.silent (e := .tconnect) rfl rfl⟩, rfl, ?_⟩
  · exact Or.inl ⟨rfl, rfl⟩
  · exact Or.inr ⟨rfl, c, by rw [hc]; rfl, rfl⟩

theorem Still.hpost {w w' : World} (s : Still w w') (hc : w'.CallCost P.D) (ok : Bool) : HPost P w ok w' := by
  have hW := P.W_pos
  have hcst := s.adds.pot P
  refine ⟨hc, s.fuel, s.locks, s.dtt, s.files, by rw [s.now]; omega, ?_⟩
  rw [hcst, s.now]
  split <;> simp <;> omega

/-- `_AdbIOManager.connect` with numeric timeouts, no lock held: the next scripted connection must be a
    conforming one (every call on it costs between 1 and `D` ticks) -/
theorem ioConnect_time (banner : Bytes) (keys : List Nat) (A : Int) (hasCb : Bool) (t : Txn) {τ0 : Int}
    (hrt : t.rt = some P.R) (htt : t.tt = some τ0) (h0 : 0 ≤ τ0) (hle : τ0 ≤ P.τ) (hA : 0 ≤ A) (hAle : A ≤ P.τ)
    {w w' : World} {r : Except Err Nat} (h : ioConnect banner keys (some A) hasCb t w = (r, w'))
    (hl : w.locks = []) (hconn : ∀ c, w.conns.head? = some c → 1 ≤ c.dt ∧ c.dt ≤ P.D) (hfu : P.R < w.fuel) :
    isHang r = false ∧ HPost P w (okB r) w' := by
  rw [ioConnect_eq] at h
  obtain ⟨w1, hb, rfl⟩ := withLock_any_inv h (by simp [hl])
  -- inside the lock
  have key : ∀ w0 : World, lockStore ∉ w0.locks → (∀ c, w0.conns.head? = some c → 1 ≤ c.dt ∧ c.dt ≤ P.D) → P.R < w0.fuel →
      (do tClose
          withLock lockStore storeClearAll
          tConnect t.tt
          connTail banner keys (some A) hasCb t : M Nat) w0 = (r, w1) → isHang r = false ∧ HPost P w0 (okB r) w1 := by
    intro w0 hls hcn hfu0 hrun
    rcases bind_any_inv hrun with ⟨e, he, rfl⟩ | ⟨_, wa, hca, hrest⟩
    · have := (tClose_still he).1; simp at this
    obtain ⟨-, s1, hcur1, hcn1⟩ := tClose_still hca
    rcases bind_any_inv hrest with ⟨e, he, rfl⟩ | ⟨_, wb, hcb, hrest⟩
    · have := (clearAll_still he (by rw [s1.locks]; exact hls)).1; simp at this
    obtain ⟨-, s2, hcur2, hcn2, -⟩ := clearAll_still hcb (by rw [s1.locks]; exact hls)
    rcases bind_any_inv hrest with ⟨e, he, rfl⟩ | ⟨_, wc, hcc, hrest⟩
    · obtain ⟨s3, -, hor⟩ := tConnect_still he
      rcases hor with ⟨he', hcur3⟩ | ⟨he', -⟩
      · simp only [Except.error.injEq] at he'
        subst he'
        have s := (s1.trans s2).trans s3
        refine ⟨rfl, s.hpost ?_ _⟩
        intro c hc; rw [hcur3, hcur2, hcur1] at hc; simp at hc
      · simp at he'
    · obtain ⟨s3, -, hor⟩ := tConnect_still hcc
      rcases hor with ⟨he', -⟩ | ⟨-, c, hhead, hcur3⟩
      · simp at he'
      · have s := (s1.trans s2).trans s3
        have hcc3 : wc.CallCost P.D := by
          intro c' hc'
          rw [hcur3] at hc'
          simp only [Option.some.injEq] at hc'
          subst hc'
          exact hcn c (by rw [← hcn1, ← hcn2]; exact hhead)
        obtain ⟨-, htl⟩ := HF_connTail banner keys A hasCb t hrt htt h0 hle hA hAle wc r w1 hrest
        obtain ⟨nh, post⟩ := htl hcc3 (by rw [s.fuel]; exact hfu0)
        exact ⟨nh, (s.hpost hcc3 true).trans post⟩
  obtain ⟨nh, post⟩ := key { w with locks := lockTransport :: w.locks } (by simp [hl, lockStore, lockTransport]) hconn hfu hb
  refine ⟨nh, post.cost, post.fuel, ?_, post.dtt, post.files, post.mono, ?_⟩
  · have := post.locks
    simp only at this ⊢
    rw [this, hl]; simp
  · exact post.time  -- the two lock updates leave clock and trace as they are

/-- effective timeouts of `connect(rsa_keys, transport_timeout_s, auth_timeout_s, read_timeout_s)`: the read
    timeout is `P.R`; the transport timeout (`τ0`) and the auth timeout (`A`, used for the wait that follows the
    public key) are numbers between `0` and `P.τ` -/
def ConnEff (P : TP) (tt authT rt : Timeout) : Prop :=
  ∃ (t0 : Txn) (τ0 A : Int), Txn.make none none (if tt.isSome then tt else P.dtt) rt none = .ok t0 ∧
    t0.rt = some P.R ∧ t0.tt = some τ0 ∧ 0 ≤ τ0 ∧ τ0 ≤ P.τ ∧ authT = some A ∧ 0 ≤ A ∧ A ≤ P.τ

/-- precondition of `connect`: no lock held and the NEXT scripted connection is a conforming one -/
structure ConnPre (P : TP) (w : World) : Prop where
  locks : w.locks = []
  dtt : w.defaultTT = P.dtt
  files : w.files = P.files
  next : ∀ c, w.conns.head? = some c → 1 ≤ c.dt ∧ c.dt ≤ P.D

theorem devConnect_time {keys : List Nat} {tt authT rt : Timeout} {hasCb : Bool} (heff : ConnEff P tt authT rt)
    {w w' : World} {r : Except Err Val} (h : devConnect keys tt authT rt hasCb w = (r, w'))
    (hp : ConnPre P w) (hfu : P.R < w.fuel) :
    Ext w w' ∧ isHang r = false ∧ TPre P w' ∧ w'.fuel = w.fuel ∧ w.now ≤ w'.now ∧
    w'.now - w.now ≤ w'.tcost P - w.tcost P + (if okB r then 0 else P.W) := by
  obtain ⟨t0, τ0, A, hmk, hrt, htt, h0, hle, rfl, hA, hAle⟩ := heff
  have hmk' : Txn.make none none (if tt.isSome then tt else w.defaultTT) rt none = .ok t0 := by rw [hp.dtt]; exact hmk
  unfold devConnect at h
  simp only [getTT, bind_run, liftExcept_run, hmk', M.modify_run, M.get_run] at h
  rcases hio : ioConnect w.banner keys (some A) hasCb t0 { w with available := false } with ⟨r1, w1⟩
  have hext : Ext { w with available := false } w1 := (Fr_ioConnect _ keys (some A) hasCb t0).ext hio
  obtain ⟨nh, post⟩ := ioConnect_time _ keys A hasCb t0 hrt htt h0 hle hA hAle hio hp.locks hp.next hfu
  simp only [hio] at h
  -- `available` and `maxdata` are the only fields updated around `ioConnect`
  have ptime : w1.now - w.now ≤ w1.tcost P - w.tcost P + (if okB r1 then 0 else P.W) := post.time
  cases r1 with
  | error e =>
    cases h
    exact ⟨hext, by rw [isHang_error] at nh ⊢; exact nh,
      ⟨post.cost, post.locks.trans hp.locks, post.dtt.trans hp.dtt, post.files.trans hp.files⟩,
      post.fuel, post.mono, ptime⟩
  | ok md =>
    cases h
    exact ⟨hext, rfl,
      ⟨post.cost.of_cur_eq rfl, post.locks.trans hp.locks, post.dtt.trans hp.dtt, post.files.trans hp.files⟩,
      post.fuel, post.mono, ptime⟩

/-- `close()`: no time passes, the device object stays idle, nothing is delivered or transmitted -/
theorem devClose_time {w w' : World} {r : Except Err Val} (h : devClose w = (r, w')) (hp : TPre P w) :
    Ext w w' ∧ r = .ok .none ∧ TPre P w' ∧ w'.fuel = w.fuel ∧ w'.now = w.now ∧ w'.tcost P = w.tcost P := by
  unfold devClose ioClose at h
  simp only [bind_run, M.modify_run] at h
  generalize hw0 : ({ w with available := false } : World) = w0 at h
  rcases hio : withLock lockTransport (do tClose; withLock lockStore storeClearAll) w0 with ⟨r1, w1⟩
  rw [hio] at h
  obtain ⟨w2, hb, rfl⟩ := withLock_any_inv hio (by rw [← hw0]; simp [hp.locks])
  rcases bind_any_inv hb with ⟨e, he, rfl⟩ | ⟨_, wa, hca, hrest⟩
  · have := (tClose_still he).1; simp at this
  obtain ⟨-, s1, hcur1, -⟩ := tClose_still hca
  have hls : lockStore ∉ wa.locks := by rw [s1.locks, ← hw0]; simp [hp.locks, lockStore, lockTransport]
  obtain ⟨rfl, s2, hcur2, -, -⟩ := clearAll_still hrest hls
  cases h
  subst hw0
  have s := s1.trans s2
  -- `available` and `locks` are the only fields updated around the two steps
  refine ⟨s.adds.ext, rfl, ⟨?_, ?_, s.dtt.trans hp.dtt, s.files.trans hp.files⟩, s.fuel, s.now, ?_⟩
  · intro c hc; simp only at hc; rw [hcur2, hcur1] at hc; simp at hc
  · simp only; rw [s.locks]; simp [hp.locks]
  · have : ({ w2 with locks := w2.locks.erase lockTransport } : World).tcost P = w2.tcost P := rfl
    rw [this, s.adds.pot P]; simp [World.tcost]

theorem devConnect_ext {keys : List Nat} {tt authT rt : Timeout} {hasCb : Bool} {w w' : World} {r : Except Err Val}
    (h : devConnect keys tt authT rt hasCb w = (r, w')) : Ext w w' := by
  unfold devConnect at h
  simp only [getTT, bind_run, liftExcept_run, M.modify_run, M.get_run] at h
  split at h
  · next t wa hmk =>
    simp only [Prod.mk.injEq] at hmk
    obtain ⟨-, rfl⟩ := hmk
    split at h
    · next md wb hio =>
      have := (Fr_ioConnect _ keys authT hasCb t).ext hio
      simp only [pure_run, Prod.mk.injEq] at h
      obtain ⟨-, rfl⟩ := h
      obtain ⟨evs, he⟩ := this
      exact ⟨evs, he⟩
    · next e wb hio =>
      have := (Fr_ioConnect _ keys authT hasCb t).ext hio
      simp only [Prod.mk.injEq] at h
      obtain ⟨-, rfl⟩ := h
      obtain ⟨evs, he⟩ := this
      exact ⟨evs, he⟩
  · next e wa hmk =>
    simp only [Prod.mk.injEq] at hmk h
    obtain ⟨-, rfl⟩ := hmk
    obtain ⟨-, rfl⟩ := h
    exact Ext.refl _

theorem devClose_ext {w w' : World} {r : Except Err Val} (h : devClose w = (r, w')) : Ext w w' := by
  unfold devClose at h
  simp only [bind_run, M.modify_run] at h
  split at h
  · next u wa hio =>
    have := (Fr_ioClose).ext hio
    simp only [pure_run, Prod.mk.injEq] at h
    obtain ⟨-, rfl⟩ := h
    obtain ⟨evs, he⟩ := this
    exact ⟨evs, he⟩
  · next e wa hio =>
    have := (Fr_ioClose).ext hio
    simp only [Prod.mk.injEq] at h
    obtain ⟨-, rfl⟩ := h
    obtain ⟨evs, he⟩ := this
    exact ⟨evs, he⟩

end Adb
