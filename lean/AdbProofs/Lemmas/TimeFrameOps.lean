import AdbProofs.Lemmas.TimeFrame
/-
  The time frame (`TF`, see TimeFrame.lean) for the AdbDevice stream layer: `_okay`, `_read_until`, `_clse`,
  `_open`, `_read_until_close`, `_streaming_command`, `_service`, `_streaming_service` and the shell-like API
  operations built on them.
-/
namespace Adb

variable {P : TP} {X : Int}

theorem TF_okay (t : Txn) (ht : TxnOf P t) (hX : 0 ≤ X) : TF P X (okay t) := by
  unfold okay
  tf

theorem TF_readUntil (ex : List Cmd) (t : Txn) (ht : TxnOf P t) (hX : P.W ≤ X) :
    TF P X (readUntil ex t) := by
  unfold readUntil
  tf [TF_okay]

theorem TF_clse (t : Txn) (ht : TxnOf P t) (hX : P.W ≤ X) : TF P X (clse t) := by
  unfold clse
  tf [TF_readUntil]

theorem openTxnBlock_spec {tt rt total : Timeout} {w w1 : World} {r : Except Err Txn}
    (h : openTxnBlock tt rt total w = (r, w1)) (hl : w.locks = []) :
    r = Txn.make (some (nextId w.localId)) none (if tt.isSome then tt else w.defaultTT) rt total ∧
    TQuiet0 w false w1 := by
  unfold openTxnBlock at h
  obtain ⟨w0, hb, rfl⟩ := withLock_any_inv h (by simp [hl])
  simp only [bind_run, M.modify_run, M.get_run, getTT, liftExcept_run, Prod.mk.injEq] at hb
  obtain ⟨rfl, rfl⟩ := hb
  refine ⟨rfl, ?_⟩
  exact TQuiet0.of_eq rfl rfl rfl rfl (by simp [hl]) rfl rfl rfl rfl

/-- the effective timeouts of a stream operation called with `(tt, rt, total)` on a device object whose default
    transport timeout is `P.dtt` are the numbers `P.R` (read) and `P.τ` (transport): what
    `_AdbTransactionInfo.__init__` stores (see `C11_txn_values`) -/
def EffT (P : TP) (tt rt total : Timeout) : Prop :=
  ∃ t0, Txn.make none none (if tt.isSome then tt else P.dtt) rt total = .ok t0 ∧ t0.rt = some P.R ∧ t0.tt = some P.τ

theorem Fr_openTxnBlock (tt rt total : Timeout) : Fr (openTxnBlock tt rt total) :=
  Pres_openTxnBlock Frame.wrel Frame.alloc tt rt total

theorem TF_openTxnBlock (tt rt total : Timeout) (hX : 0 ≤ X) : TF P X (openTxnBlock tt rt total) := by
  intro w r w' h
  refine ⟨(Fr_openTxnBlock tt rt total).ext h, fun hp hb => ?_⟩
  obtain ⟨hr, q⟩ := openTxnBlock_spec h hp.locks
  have hh : isHang r = false := by rw [hr]; exact isHang_false_iff.2 (Txn.make_not_hang _ _ _ _ _)
  have q' : TQuiet0 w (isHang r) w' := by rw [hh]; exact q
  exact (q'.tfat (P := P) hX).2 hp hb

theorem openTxnBlock_txn {tt rt total : Timeout} (heff : EffT P tt rt total) {w w1 : World} {t : Txn}
    (hp : TPre P w) (h : openTxnBlock tt rt total w = (.ok t, w1)) :
    TxnOf P t ∧ t.total = total := by
  obtain ⟨hr, -⟩ := openTxnBlock_spec h hp.locks
  obtain ⟨t0, h0, h1, h2⟩ := heff
  rw [hp.dtt] at hr
  obtain ⟨a, b, c⟩ := Txn.make_fields hr.symm h0
  exact ⟨⟨a.trans h1, b.trans h2⟩, c⟩

/-- `_open`: one send (the OPEN carries the destination, so two write waits) and one wait for the OKAY -/
theorem TF_openStream (dest : Bytes) (tt rt total : Timeout) (heff : EffT P tt rt total) (hX : P.W ≤ X) :
    TF P X (openStream dest tt rt total) := by
  rw [openStream_eq]
  refine TF_bind_val (Q := fun t => TxnOf P t ∧ t.total = total)
    (TF_openTxnBlock tt rt total (by tf_side)) (fun w t w1 hp h => openTxnBlock_txn heff hp h) (fun t => Pres_openRest Frame.wrel Frame.admits _ t) ?_
  intro t ⟨ht, _⟩
  unfold openRest
  tf

/-- the transaction `_open` returns carries the effective timeouts -/
theorem openStream_txn {dest : Bytes} {tt rt total : Timeout} (heff : EffT P tt rt total) {w w1 : World} {t : Txn}
    (hp : TPre P w) (h : openStream dest tt rt total w = (.ok t, w1)) :
    TxnOf P t ∧ t.total = total := by
  rw [openStream_eq] at h
  obtain ⟨t0, w0, h0, hrest⟩ := bind_ok_inv h
  have a := openTxnBlock_txn heff hp h0
  obtain ⟨_, w2, _, hrest⟩ := bind_ok_inv hrest
  obtain ⟨p, w3, _, hrest⟩ := bind_ok_inv hrest
  simp only [pure_run, Prod.mk.injEq, Except.ok.injEq] at hrest
  obtain ⟨rfl, _⟩ := hrest
  exact ⟨⟨a.1.rt, a.1.tt⟩, a.2⟩

/-- binding the rest of an operation to the transaction `_open` returned -/
theorem TF_openStream_bind {β} (dest : Bytes) (tt rt total : Timeout) (heff : EffT P tt rt total) (hX : P.W ≤ X)
    {f : Txn → M β} (hFr : ∀ t, Fr (f t))
    (hf : ∀ t, TxnOf P t → t.total = total → TF P X (f t)) :
    TF P X (openStream dest tt rt total >>= f) :=
  TF_bind_val (Q := fun t => TxnOf P t ∧ t.total = total)
    (TF_openStream dest tt rt total heff hX) (fun _ _ _ hp h => openStream_txn heff hp h) hFr
    (fun t ⟨a, b⟩ => hf t a b)


/-! ### `_read_until_close` -/

/-- `_read_until` that returns delivered one packet and its payload -/
theorem readUntil_rxTotal {ex : List Cmd} {t : Txn} {w w1 : World} {c : Cmd} {d : Bytes} (hl : w.locks = [])
    (h : readUntil ex t w = (.ok (c, d), w1)) : w.rxTotal + 1 + d.length = w1.rxTotal := by
  obtain ⟨p, hA, _, rfl, _, _⟩ := readUntil_dlv h (by simp [hl])
  obtain ⟨h1, _, h3⟩ := hA.counts
  have hr : rxs (Xfer.rx p :: ackOf t p) = [p] := by
    unfold ackOf; split <;> simp
  rw [hr] at h1 h3
  simp only [List.length_singleton, List.map_cons, List.map_nil, List.sum_cons, List.sum_nil] at h1 h3
  unfold World.rxTotal; omega

/-- a loop iteration that begins with `_read_until`: the delivered packet pays for one unit of loop fuel -/
theorem TFc_bind_readUntil {β} {n : Nat} (ex : List Cmd) (t : Txn) (ht : TxnOf P t)
    (hX : P.W ≤ X) {f : Cmd × Bytes → M β} (hf : ∀ v, TFc (Room n 0) P X (f v)) :
    TFc (Room (n + 1) 0) P X (readUntil ex t >>= f) :=
  TFc_bind_progress (b' := fun _ => 0) (TF_readUntil ex t ht hX)
    (fun w v w1 hp h => by have := readUntil_rxTotal (c := v.1) (d := v.2) hp.locks h; omega) hf

theorem TFc_readUntilCloseLoop (t : Txn) (ht : TxnOf P t) (hX : P.W ≤ X) (start : Int) :
    ∀ n acc, TFc (Room n 0) P X (readUntilCloseLoop t start n acc) := by
  intro n
  induction n with
  | zero => intro acc; exact TFc_room_zero
  | succ n ih =>
    intro acc
    unfold readUntilCloseLoop
    exact TFc_bind_readUntil _ t ht hX fun v => by tfc ih []

theorem TF_readUntilClose (t : Txn) (ht : TxnOf P t) (hX : P.W ≤ X) :
    TF P X (readUntilClose t) := by
  unfold readUntilClose
  exact TF_bind (by tf) fun start =>
    TF_get_world (by tf_side) fun wg => TFc_readUntilCloseLoop t ht hX start wg.fuel []

/-! ### `_streaming_command`, `_service`, `_streaming_service`, and the shell-like API operations -/

theorem TF_streamingCommand (svc cmd : Bytes) (tt rt total : Timeout) (heff : EffT P tt rt total) (hX : P.W ≤ X) :
    TF P X (streamingCommand svc cmd tt rt total) := by
  unfold streamingCommand
  refine TF_openStream_bind _ tt rt total heff hX (fun t => Fr_readUntilClose _) ?_
  intro t ht _
  tf [TF_readUntilClose]

theorem TF_service (svc cmd : Bytes) (tt rt total : Timeout) (dec : Bool) (heff : EffT P tt rt total) (hX : P.W ≤ X) :
    TF P X (service svc cmd tt rt total dec) := by
  unfold service
  tf [TF_streamingCommand]

theorem TF_streamingService (svc cmd : Bytes) (tt rt : Timeout) (dec : Bool) (heff : EffT P tt rt none) (hX : P.W ≤ X) :
    TF P X (streamingService svc cmd tt rt dec) := by
  unfold streamingService
  tf [TF_streamingCommand]

theorem TQ_runGuard (g : String) (p : Option Bytes) : TQ (runGuard g p) := by
  intro w
  unfold runGuard
  repeat' split
  all_goals exact .refl w rfl

theorem TQ_runGuards : ∀ gs p, TQ (runGuards gs p) := by
  intro gs
  induction gs with
  | nil => intro p; exact TQ_pure _
  | cons g gs ih => intro p; exact TQ_bind (TQ_runGuard g p) fun _ => ih p

theorem TF_devShellLike (op : String) (svc cmd : Bytes) (tt rt total : Timeout) (dec : Bool)
    (heff : EffT P tt rt total) (hX : P.W ≤ X) : TF P X (devShellLike op svc cmd tt rt total dec) := by
  unfold devShellLike
  tf [TQ_runGuards, TF_service]

theorem TF_devRoot (tt rt total : Timeout) (heff : EffT P tt rt total) (hX : P.W ≤ X) : TF P X (devRoot tt rt total) := by
  unfold devRoot
  tf [TQ_runGuards, TF_service]

theorem TF_devReboot (fb : Bool) (tt rt total : Timeout) (heff : EffT P tt rt total) (hX : P.W ≤ X) :
    TF P X (devReboot fb tt rt total) := by
  unfold devReboot
  tf [TQ_runGuards, TF_openStream]

theorem TF_devStreamingShell (cmd : Bytes) (tt rt : Timeout) (dec : Bool) (heff : EffT P tt rt none) (hX : P.W ≤ X) :
    TF P X (devStreamingShell cmd tt rt dec) := by
  unfold devStreamingShell
  tf [TQ_runGuards, TF_streamingService]

end Adb
