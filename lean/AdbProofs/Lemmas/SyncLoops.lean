import AdbProofs.Lemmas.SyncRead
import AdbProofs.Lemmas.PushDevice
import AdbProofs.Lemmas.WireLemmas
/-
  The loops built on `_filesync_read`: `_pull` (DATA records until DONE), `list` (DENT records until
  DONE) and the status read of `_push`, against the reference parser (C08, C09, C10).
-/
namespace Adb.SR
open Adb Adb.Push

/-- a `DATA` record of the pull format with payload `d` -/
def dataRec (d : Bytes) : SyncRec := ⟨.DATA, [], some d⟩

theorem id_of_mem_dataRecs {datas : List Bytes} {r : SyncRec} (h : r ∈ datas.map dataRec) : r.id = SyncId.DATA := by
  obtain ⟨d, -, rfl⟩ := List.mem_map.1 h
  rfl

/-- the `list` result entry of a `DENT` record -/
def entryOf (r : SyncRec) : Bytes × Nat × Nat × Nat :=
  (r.data.getD [], r.fields.getD 0 0, r.fields.getD 1 0, r.fields.getD 2 0)

theorem noProg_step {α} {x : M α} (hx : Tr QNoProg x) {w w1 : World} {r : Except Err α} (h : x w = (r, w1)) :
    ∃ e, w1.trace = e ++ w.trace ∧ progressCalls e = [] := by
  obtain ⟨e, he, hq⟩ := hx.step h
  exact ⟨e, he, QNoProg.progressCalls hq⟩

theorem noProg_of {α} {x : M α} (hx : Tr QNoProg x) {w w1 : World} {r : Except Err α} (h : x w = (r, w1))
    {evs : List TEv} (hev : w1.trace = evs ++ w.trace) : progressCalls evs = [] := by
  obtain ⟨e, he, hp⟩ := noProg_step hx h
  obtain rfl : evs = e := evs_unique (he ▸ hev)
  exact hp

theorem fsRead_step {ex : List SyncId} {t : Txn} {fi fi1 : FsInfo} {w w1 : World} {r : SyncRec}
    (h1 : fsRead ex t fi w = (.ok (r, fi1), w1)) :
    ∃ e1, w1.trace = e1 ++ w.trace ∧ progressCalls e1 = [] ∧
      parse fi.fmt (fi.recvBuf ++ deliveredWrteData e1) = .record r fi1.recvBuf ∧ r.id ∈ ex ∧
      fi1.fmt = fi.fmt ∧ fi1.maxdata = fi.maxdata ∧ fi1.sendBuf = [] ∧ w1.sink = w.sink := by
  obtain ⟨e1, he1, hpc⟩ := noProg_step (Tr_fsRead QNoProg.house QNoProg.deliv QNoProg.txAll ex t fi) h1
  obtain ⟨hp, hid, hf, hm, hs⟩ := fsRead_ok_parse h1 he1
  exact ⟨e1, he1, hpc, hp, hid, hf, hm, hs, (Sk_fsRead ex t fi).of_run h1⟩

theorem dwd_progress (cb : CbMode) (p : Bytes) (n tot : Nat) :
    deliveredWrteData (if cb = CbMode.none then [] else [TEv.cbProgress p n tot]) = [] := by
  split <;> rfl

theorem progressCalls_cb (cb : CbMode) (p : Bytes) (n tot : Nat) :
    progressCalls (if cb = CbMode.none then [] else [TEv.cbProgress p n tot]) =
      if cb = CbMode.none then [] else [(p, n, tot)] := by
  split <;> rfl

/-- a record of the pull format that is not `STAT` has no fields and carries data -/
theorem pull_rec_shape {bs rest : Bytes} {r : SyncRec} (h : parse .pull bs = .record r rest) (hid : r.id = SyncId.DATA) :
    ∃ d, r = dataRec d := by
  obtain ⟨-, h2⟩ := parse_shape h
  obtain ⟨hl, d, hd, -, -⟩ := h2 (by rw [hid]; decide)
  refine ⟨d, ?_⟩
  obtain ⟨id, fields, data⟩ := r
  simp only at hid hl hd
  have : fields = [] := List.eq_nil_of_length_eq_zero (by rw [hl]; decide)
  subst this hid hd
  rfl

/-- `_pull`, normal return: the reassembled stream is DATA records then one DONE; the destination
    received exactly the DATA payloads, in order; the callback saw exactly their lengths -/
theorem pullLoop_ok {devPath : Bytes} {cb : CbMode} {total : Nat} {t : Txn} :
    ∀ {fuel : Nat} {fi : FsInfo} {w w' : World} {evs : List TEv},
    pullLoop devPath cb total t fuel fi w = (.ok (), w') → w'.trace = evs ++ w.trace → fi.fmt = .pull →
    ∃ (datas : List Bytes) (done : SyncRec) (rest : Bytes),
      Recs .pull (fi.recvBuf ++ deliveredWrteData evs) (datas.map dataRec ++ [done]) rest ∧ done.id = SyncId.DONE ∧
      (∀ s, w.sink = some s → w'.sink = some (s ++ datas.flatten)) ∧
      progressCalls evs = (if cb = CbMode.none then [] else datas.map fun d => (devPath, d.length, total)) := by
  intro fuel
  induction fuel with
  | zero => intro fi w w' evs h; simp [pullLoop] at h
  | succ f ih =>
    intro fi w w' evs h hev hfmt
    unfold pullLoop at h
    obtain ⟨⟨r, fi1⟩, w1, h1, h2⟩ := bind_ok_inv h
    obtain ⟨e1, he1, hpc1, hp, hid, hf1, hm1, hs1, hsk1⟩ := fsRead_step h1
    rw [hfmt] at hp
    dsimp only at h2
    split at h2
    · next hdone =>
      simp only [pure_run, Prod.mk.injEq, true_and] at h2
      subst h2
      obtain rfl : evs = e1 := evs_unique (he1 ▸ hev)
      refine ⟨[], r, fi1.recvBuf, Recs.cons hp (Recs.nil _), hdone, ?_, ?_⟩
      · intro s hs; rw [hsk1, hs]; simp
      · rw [hpc1]; split <;> rfl
    · next hnd =>
      have hdata : r.id = SyncId.DATA := (mem_pair.1 hid).resolve_right hnd
      obtain ⟨d, rfl⟩ := pull_rec_shape hp hdata
      rw [bind_run_ok (M.modify_run _ _), bind_run_ok (callProgress_run _ _ _ _ _)] at h2
      obtain ⟨e3, he3⟩ := Fr.evs (Fr_pullLoop _ _ _ _ _ _) h2
      have hevs : evs = e3 ++ ((if cb = CbMode.none then [] else [TEv.cbProgress devPath d.length total]) ++ e1) :=
        evs_split (by simp only [he1, List.append_assoc, dataRec, Option.getD_some]) he3 hev
      obtain ⟨datas, done, rest, hrecs, hdone, hsink, hprog⟩ := ih h2 he3 (hf1.trans hfmt)
      subst hevs
      refine ⟨d :: datas, done, rest, ?_, hdone, ?_, ?_⟩
      · rw [deliveredWrteData_append, deliveredWrteData_append, dwd_progress, List.append_nil, ← List.append_assoc]
        exact Recs.cons (parse_rec_append _ hp) hrecs
      · intro s hs
        rw [hsink (s ++ d) (by simp only [dataRec, Option.getD_some, hsk1, hs])]
        simp [List.append_assoc]
      · rw [progressCalls_append, progressCalls_append, hpc1, hprog, progressCalls_cb]
        cases cb <;> simp

/-- a record of the list format that is not `STAT` has three fields and carries data -/
theorem list_rec_shape {bs rest : Bytes} {r : SyncRec} (h : parse .list bs = .record r rest) (hid : r.id ≠ SyncId.STAT) :
    ∃ mode size mtime name, r = ⟨r.id, [mode, size, mtime], some name⟩ := by
  obtain ⟨-, h2⟩ := parse_shape h
  obtain ⟨hl, d, hd, -, -⟩ := h2 hid
  obtain ⟨id, fields, data⟩ := r
  simp only at hl hd
  have h3 : fields.length = 3 := by rw [hl]; decide
  match fields, h3 with
  | [a, b, c], _ => exact ⟨a, b, c, d, by rw [hd]⟩

/-- `list`, normal return: the reassembled stream is DENT records then one DONE, and the result is
    one entry per DENT record, in order, after what was accumulated before -/
theorem listLoop_ok {t : Txn} :
    ∀ {fuel : Nat} {fi : FsInfo} {acc files : List (Bytes × Nat × Nat × Nat)} {w w' : World} {evs : List TEv},
    listLoop t fuel fi acc w = (.ok files, w') → w'.trace = evs ++ w.trace → fi.fmt = .list →
    ∃ (dents : List SyncRec) (done : SyncRec) (rest : Bytes),
      Recs .list (fi.recvBuf ++ deliveredWrteData evs) (dents ++ [done]) rest ∧ done.id = SyncId.DONE ∧
      (∀ r ∈ dents, r.id = SyncId.DENT ∧ ∃ mode size mtime name, r = ⟨.DENT, [mode, size, mtime], some name⟩) ∧
      files = acc.reverse ++ dents.map entryOf := by
  intro fuel
  induction fuel with
  | zero => intro fi acc files w w' evs h; simp [listLoop] at h
  | succ f ih =>
    intro fi acc files w w' evs h hev hfmt
    unfold listLoop at h
    obtain ⟨⟨r, fi1⟩, w1, h1, h2⟩ := bind_ok_inv h
    obtain ⟨e1, he1, -, hp, hid, hf1, -, -, -⟩ := fsRead_step h1
    rw [hfmt] at hp
    dsimp only at h2
    split at h2
    · next hdone =>
      cases h2
      obtain rfl : evs = e1 := evs_unique (he1 ▸ hev)
      exact ⟨[], r, fi1.recvBuf, Recs.cons hp (Recs.nil _), hdone, by simp, by simp⟩
    · next hnd =>
      have hdent : r.id = SyncId.DENT := (mem_pair.1 hid).resolve_right hnd
      obtain ⟨mode, size, mtime, name, hr⟩ := list_rec_shape hp (by rw [hdent]; decide)
      rw [hdent] at hr
      obtain ⟨e3, he3⟩ := Fr.evs (Fr_listLoop _ _ _ _) h2
      have hevs : evs = e3 ++ e1 := evs_split he1 he3 hev
      obtain ⟨dents, done, rest, hrecs, hdone, hall, hfiles⟩ := ih h2 he3 (hf1.trans hfmt)
      subst hevs
      refine ⟨r :: dents, done, rest, ?_, hdone, ?_, ?_⟩
      · rw [deliveredWrteData_append, ← List.append_assoc]
        exact Recs.cons (parse_rec_append _ hp) hrecs
      · intro x hx
        rcases List.mem_cons.1 hx with rfl | hx
        · exact ⟨hdent, mode, size, mtime, name, hr⟩
        · exact hall x hx
      · rw [hfiles]
        simp [entryOf]

/-! ### every outcome, against a stream whose next record is known -/

/-- what an outcome of `_filesync_read` is when the reassembled stream (possibly extended by later
    bytes `x`) is known to start with the record `r0` -/
def Against (ex : List SyncId) (t : Txn) (fi : FsInfo) (w : World) (evs : List TEv) (x : Bytes) (r0 : SyncRec) (rest0 : Bytes)
    (res : Except Err (SyncRec × FsInfo)) (w' : World) : Prop :=
  match res with
  | .ok (r, fi') => r = r0 ∧ rest0 = fi'.recvBuf ++ x ∧ r0.id ∈ ex
  | .error e => (∃ f m, e = .adbCommandFailure m ∧ r0 = ⟨.FAIL, f, some m⟩ ∧ SyncId.FAIL ∉ ex) ∨
      (e = .invalidResponse ∧ r0.id ∉ ex ∧ r0.id ≠ SyncId.FAIL) ∨ Aborted t fi w evs e w'

theorem ReadPost.against {ex : List SyncId} {t : Txn} {fi : FsInfo} {w w' : World} {evs : List TEv}
    {res : Except Err (SyncRec × FsInfo)} (hp : ReadPost ex t fi w evs res w') (x : Bytes) {r0 : SyncRec} {rest0 : Bytes}
    (h0 : parse fi.fmt (fi.recvBuf ++ deliveredWrteData evs ++ x) = .record r0 rest0) :
    Against ex t fi w evs x r0 rest0 res w' := by
  cases res with
  | ok v =>
    obtain ⟨r, fi'⟩ := v
    simp only [ReadPost] at hp
    simp only [Against]
    obtain ⟨h1, h2, -, -⟩ := hp
    rw [parse_rec_append x h1] at h0
    cases h0
    exact ⟨rfl, rfl, h2⟩
  | error e =>
    simp only [ReadPost] at hp
    simp only [Against]
    rcases hp with ⟨f, m, rest, rfl, hne, h1⟩ | ⟨r, rest, rfl, hne, hnf, h1⟩ | ⟨word, rfl, h1⟩ | hab
    · rw [parse_rec_append x h1] at h0
      cases h0
      exact Or.inl ⟨f, m, rfl, rfl, hne⟩
    · rw [parse_rec_append x h1] at h0
      cases h0
      exact Or.inr (Or.inl ⟨by first | rfl | trivial, hne, hnf⟩)
    · rw [parse_badId_append x h1] at h0
      cases h0
    · exact Or.inr (Or.inr hab)

/-- an exception raised below the parser somewhere in a loop of `_filesync_read` calls, or the loop
    budget of the model ran out -/
def LoopAborted (t : Txn) (e : Err) (w' : World) : Prop :=
  e = .hang ∨ ∃ fi0 w0 ev0, Aborted t fi0 w0 ev0 e w'

/-- one `_filesync_read(ex)` when the reassembled stream, continued by the later bytes `x`, is the records `rs`
    (expected ones) followed by a FAIL record that is not expected: it returns the first record of `rs` and the
    stream goes on with the others; or, `rs` being empty, it raises the device's message; or an exception was
    raised below the parser -/
theorem fsRead_against_fail {ex : List SyncId} {t : Txn} {fi : FsInfo} {w w1 : World} {res : Except Err (SyncRec × FsInfo)}
    {e1 : List TEv} {x mid rest : Bytes} {rs : List SyncRec} {f : List Nat} {m : Bytes}
    (h : fsRead ex t fi w = (res, w1)) (he1 : w1.trace = e1 ++ w.trace)
    (hrecs : Recs fi.fmt (fi.recvBuf ++ deliveredWrteData e1 ++ x) rs mid)
    (hfail : parse fi.fmt mid = .record ⟨.FAIL, f, some m⟩ rest) (hex : ∀ r ∈ rs, r.id ∈ ex) (hne : SyncId.FAIL ∉ ex) :
    match res with
    | .ok (r, fi1) => ∃ rs', rs = r :: rs' ∧ Recs fi.fmt (fi1.recvBuf ++ x) rs' mid ∧ fi1.fmt = fi.fmt
    | .error e => (rs = [] ∧ e = .adbCommandFailure m) ∨ Aborted t fi w e1 e w1 := by
  have hpost := fsRead_post h he1
  have hfmt : ∀ r fi1, res = .ok (r, fi1) → fi1.fmt = fi.fmt := by
    rintro r fi1 rfl
    exact hpost.2.2.1
  cases rs with
  | nil =>
    obtain rfl := Recs.nil_inv hrecs
    have hag := hpost.against x hfail
    rcases res with e | ⟨r, fi1⟩
    · rcases hag with ⟨f', m', rfl, hr, -⟩ | ⟨-, -, hnf⟩ | hab
      · cases hr; exact Or.inl ⟨rfl, rfl⟩
      · exact absurd rfl hnf
      · exact Or.inr hab
    · exact absurd hag.2.2 hne
  | cons r0 rs' =>
    obtain ⟨bs', hp0, hrest⟩ := Recs.cons_inv hrecs
    have hr0 := hex r0 (by simp)
    have hag := hpost.against x hp0
    rcases res with e | ⟨r, fi1⟩
    · rcases hag with ⟨f', m', -, hr, -⟩ | ⟨-, hni, -⟩ | hab
      · rw [hr] at hr0; exact absurd hr0 hne
      · exact absurd hr0 hni
      · exact Or.inr hab
    · obtain ⟨rfl, rfl, -⟩ := hag
      exact ⟨rs', rfl, hrest, hfmt _ _ rfl⟩

/-- `_pull` when the device's stream is DATA records followed by a FAIL record: the call raises
    `AdbCommandFailureException` with the device's message — it never returns normally — unless an
    exception was raised below the parser first -/
theorem pullLoop_fail {devPath : Bytes} {cb : CbMode} {total : Nat} {t : Txn} :
    ∀ {fuel : Nat} {fi : FsInfo} {w w' : World} {evs : List TEv} {res : Except Err Unit} {datas : List Bytes}
      {mid rest : Bytes} {f : List Nat} {m : Bytes},
    pullLoop devPath cb total t fuel fi w = (res, w') → w'.trace = evs ++ w.trace → fi.fmt = .pull →
    Recs .pull (fi.recvBuf ++ deliveredWrteData evs) (datas.map dataRec) mid →
    parse .pull mid = .record ⟨.FAIL, f, some m⟩ rest →
    res = .error (.adbCommandFailure m) ∨ ∃ e, res = .error e ∧ LoopAborted t e w' := by
  intro fuel
  induction fuel with
  | zero =>
    intro fi w w' evs res datas mid rest f m h _ _ _ _
    cases h
    exact Or.inr ⟨_, rfl, Or.inl rfl⟩
  | succ n ih =>
    intro fi w w' evs res datas mid rest f m h hev hfmt hrecs hfail
    unfold pullLoop at h
    have hex : ∀ r ∈ datas.map dataRec, r.id ∈ [SyncId.DATA, .DONE] := fun r hr => by simp [id_of_mem_dataRecs hr]
    rw [← hfmt] at hrecs hfail
    rcases bind_any_inv h with ⟨e, hx, rfl⟩ | ⟨⟨r, fi1⟩, w1, hx, h⟩
    · rcases fsRead_against_fail (x := []) hx hev (by simpa using hrecs) hfail hex (by simp) with ⟨-, rfl⟩ | hab
      · exact Or.inl rfl
      · exact Or.inr ⟨_, rfl, Or.inr ⟨_, _, _, hab⟩⟩
    · obtain ⟨e1, he1⟩ := Fr.evs (Fr_fsRead _ _ _) hx
      dsimp only at h
      split at h
      · next hdone =>
        cases h
        obtain ⟨rs', hrs, -⟩ := fsRead_against_fail (x := []) hx hev (by simpa using hrecs) hfail hex (by simp)
        rw [id_of_mem_dataRecs (hrs ▸ List.mem_cons_self : r ∈ datas.map dataRec)] at hdone
        cases hdone
      · rw [bind_run] at h
        simp only [M.modify_run] at h
        rw [bind_run, callProgress_run] at h
        simp only at h
        obtain ⟨e3, he3⟩ := Fr.evs (Fr_pullLoop _ _ _ _ _ _) h
        obtain rfl : evs = e3 ++ ((if cb = CbMode.none then [] else [TEv.cbProgress devPath (r.data.getD []).length total]) ++ e1) :=
          evs_split (by rw [he1, List.append_assoc]) he3 hev
        rw [deliveredWrteData_append, deliveredWrteData_append, dwd_progress, List.append_nil, ← List.append_assoc] at hrecs
        obtain ⟨rs', hrs, hrest, hf1⟩ := fsRead_against_fail hx he1 hrecs hfail hex (by simp)
        obtain ⟨d, ds, rfl, -, rfl⟩ := List.map_eq_cons_iff.1 hrs
        rw [hfmt] at hrest hfail
        exact ih h he3 (hf1.trans hfmt) hrest hfail

/-- `list` when the device's stream is DENT records followed by a FAIL record: the call raises
    `AdbCommandFailureException` with the device's message — it never returns a listing — unless an
    exception was raised below the parser first -/
theorem listLoop_fail {t : Txn} :
    ∀ {fuel : Nat} {fi : FsInfo} {acc : List (Bytes × Nat × Nat × Nat)} {w w' : World} {evs : List TEv}
      {res : Except Err (List (Bytes × Nat × Nat × Nat))} {dents : List SyncRec}
      {mid rest : Bytes} {f : List Nat} {m : Bytes},
    listLoop t fuel fi acc w = (res, w') → w'.trace = evs ++ w.trace → fi.fmt = .list →
    Recs .list (fi.recvBuf ++ deliveredWrteData evs) dents mid → (∀ r ∈ dents, r.id = SyncId.DENT) →
    parse .list mid = .record ⟨.FAIL, f, some m⟩ rest →
    res = .error (.adbCommandFailure m) ∨ ∃ e, res = .error e ∧ LoopAborted t e w' := by
  intro fuel
  induction fuel with
  | zero =>
    intro fi acc w w' evs res dents mid rest f m h _ _ _ _ _
    cases h
    exact Or.inr ⟨_, rfl, Or.inl rfl⟩
  | succ n ih =>
    intro fi acc w w' evs res dents mid rest f m h hev hfmt hrecs hdents hfail
    unfold listLoop at h
    have hex : ∀ r ∈ dents, r.id ∈ [SyncId.DENT, .DONE] := fun r hr => by simp [hdents r hr]
    rw [← hfmt] at hrecs hfail
    rcases bind_any_inv h with ⟨e, hx, rfl⟩ | ⟨⟨r, fi1⟩, w1, hx, h⟩
    · rcases fsRead_against_fail (x := []) hx hev (by simpa using hrecs) hfail hex (by simp) with ⟨-, rfl⟩ | hab
      · exact Or.inl rfl
      · exact Or.inr ⟨_, rfl, Or.inr ⟨_, _, _, hab⟩⟩
    · obtain ⟨e1, he1⟩ := Fr.evs (Fr_fsRead _ _ _) hx
      dsimp only at h
      split at h
      · next hdone =>
        cases h
        obtain ⟨rs', rfl, -⟩ := fsRead_against_fail (x := []) hx hev (by simpa using hrecs) hfail hex (by simp)
        rw [hdents r (by simp)] at hdone
        cases hdone
      · obtain ⟨e3, he3⟩ := Fr.evs (Fr_listLoop _ _ _ _) h
        obtain rfl : evs = e3 ++ e1 := evs_split he1 he3 hev
        rw [deliveredWrteData_append, ← List.append_assoc] at hrecs
        obtain ⟨rs', rfl, hrest, hf1⟩ := fsRead_against_fail hx he1 hrecs hfail hex (by simp)
        rw [hfmt] at hrest hfail
        exact ih h he3 (hf1.trans hfmt) hrest (fun x hx => hdents x (by simp [hx])) hfail

/-- the status read of `_push`, every outcome, in terms of the `_filesync_read([OKAY, FAIL])` it makes -/
theorem pushStatus_any {t : Txn} {fi : FsInfo} {w w' : World} {res : Except Err Unit}
    (h : pushStatus t fi w = (res, w')) :
    ∃ x, fsRead [.OKAY, .FAIL] t fi w = (x, w') ∧
      match x with
      | .ok (r, _) => (r.id = SyncId.OKAY ∧ res = .ok ()) ∨ (r.id = SyncId.FAIL ∧ res = .error (.pushFailed (r.data.getD [])))
      | .error e => res = .error e := by
  unfold pushStatus at h
  rcases bind_any_inv h with ⟨e, hx, rfl⟩ | ⟨⟨r, fi1⟩, w1, hx, h⟩
  · exact ⟨_, hx, rfl⟩
  obtain ⟨e1, he1, hpost, -⟩ := fsRead_any hx
  have hid : r.id ∈ [SyncId.OKAY, .FAIL] := hpost.2.1
  dsimp only at h
  split at h <;> cases h
  · next hok => exact ⟨_, hx, Or.inl ⟨hok, rfl⟩⟩
  · next hnok => exact ⟨_, hx, Or.inr ⟨(mem_pair.1 hid).resolve_left hnok, rfl⟩⟩

/-! ### trace classes of the device-level functions around the loops -/

section
variable {Q : TEv → Prop}

theorem Tr_runGuard (g : String) (p : Option Bytes) : Tr Q (runGuard g p) := by
  refine Tr_of_silent fun w tr => ?_
  unfold runGuard
  cases g == "path"
  · cases g == "avail"
    · rfl
    · cases h : w.available <;> simp [h]
  · by_cases h : p = some [] <;> simp [h]

theorem Tr_runGuards : ∀ gs p, Tr Q (runGuards gs p) := by
  intro gs
  induction gs with
  | nil => intro p; exact Tr_pure _
  | cons g gs ih => intro p; exact Tr_bind (Tr_runGuard g p) fun _ => ih p

theorem Tr_devStat (hQ : House Q) (hd : Deliv Q) (ht : TxAll Q) (p : Bytes) (tt rt : Timeout) : Tr Q (devStat p tt rt) := by
  unfold devStat
  refine Tr_bind (Tr_runGuards _ _) fun _ => Tr_bind (Tr_openStream hQ hd (fun m _ => ht m) _ _ _ _) fun t =>
    Tr_get_bind (fun w => ?_) (fun _ _ => rfl)
  exact Tr_bind (Tr_fsSend hQ hd ht _ _ _ _ _) fun fi => Tr_bind (Tr_fsRead hQ hd ht _ _ _) fun x =>
    Tr_bind (Tr_clse hQ hd ht.okay (fun m _ => ht m) t) fun _ => Tr_pure _

end

end Adb.SR
