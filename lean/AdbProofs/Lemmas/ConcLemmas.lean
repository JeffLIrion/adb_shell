import AdbProofs.Lemmas.StoreFind
import AdbModel.Conc
/-
  C06 helpers: the reachable-state invariant of the interleaving model `AdbModel/Conc.lean`,
  the case analysis of an atomic step (`step_enabled`) and the preservation of the invariant by it,
  the progress of a reader that runs alone, a decidable form of `WellFormed`, and the abstract
  lock-order model used by `C06_no_deadlock`.
-/
namespace Adb
namespace Conc

/-! ### Vocabulary of the C06 statements -/

/-- the packet is addressed to exactly reader `r`'s stream -/
def ownB (r : Reader) (p : Pkt) : Bool := p.arg1 == r.lid && p.arg0 == r.rid

theorem ownB_iff {r : Reader} {p : Pkt} : ownB r p = true ↔ p.arg1 = r.lid ∧ p.arg0 = r.rid := by
  simp [ownB]

theorem ownOf_eq (r : Reader) (ps : List Pkt) : ownOf r ps = ps.filter (ownB r) := rfl

/-- the packets parked in the store for reader `r`'s stream, oldest first -/
def parked (st : Store) (r : Reader) : List Pkt :=
  ((st.queue r.rid r.lid).getD []).map fun x => ⟨x.1, r.rid, r.lid, x.2⟩

/-- the packets of reader `r`'s stream that `put` discarded (K1) -/
def lostOf (s : Sys) (r : Reader) : List Pkt := s.lost.filter (ownB r)

/-- the part of a reader that never changes -/
def Reader.sig (r : Reader) : Nat × Nat × List Cmd := (r.lid, r.rid, r.expected)

/-- a reader that has not started yet -/
def Reader.Fresh (r : Reader) : Prop := r.given = [] ∧ r.dropped = [] ∧ r.done = false ∧ r.inLoop = false

instance (r : Reader) : Decidable r.Fresh := by unfold Reader.Fresh; infer_instance

/-- the initial systems of C06: well-formed, nothing parked, nothing lost, no reader has started -/
def Initial (sys : Sys) : Prop :=
  WellFormed sys ∧ sys.store = [] ∧ sys.lost = [] ∧ ∀ r ∈ sys.readers, r.Fresh

/-- reader `i` running alone: pre-check, then one loop iteration, `n` times over -/
def soloSched (i n : Nat) : List Choice := (List.replicate n [Choice.pre i, Choice.iter i]).flatten

/-! ### The concrete two-reader system used by the K1 witness and the non-vacuity examples -/

/-- K1 system: reader 0 owns stream (rid 11, lid 1), reader 1 owns stream (rid 12, lid 2); the device
    sends one WRTE and the CLSE on each stream. -/
def sysK1 : Sys :=
  { wire := [⟨.WRTE, 11, 1, [97]⟩, ⟨.CLSE, 11, 1, []⟩, ⟨.WRTE, 12, 2, [98]⟩, ⟨.CLSE, 12, 2, []⟩],
    readers := [{ lid := 1, rid := 11 }, { lid := 2, rid := 12 }] }

/-- reader 0 takes its WRTE itself, then reader 1 reads everything else off the transport -/
def schedK1 : List Choice :=
  [.pre 0, .iter 0, .pre 1, .iter 1, .iter 1, .pre 1, .iter 1, .pre 0, .iter 0, .pre 0, .iter 0]

/-- a schedule of the same system in which nothing is lost: reader 1 parks reader 0's WRTE first -/
def schedGood : List Choice :=
  [.pre 1, .iter 1, .iter 1, .iter 1, .pre 1, .iter 1, .pre 0, .pre 0]

/-! ### A decidable form of `WellFormed` -/

/-- every CLSE in the list is its last element -/
def clseLastB : List Pkt → Bool
  | [] => true
  | p :: rest => (p.cmd != Cmd.CLSE || rest.isEmpty) && clseLastB rest

theorem clseLastB_spec {l : List Pkt} (h : clseLastB l = true) :
    ∀ pre p post, l = pre ++ p :: post → p.cmd = Cmd.CLSE → post = [] := by
  induction l with
  | nil => intro pre p post he; simp at he
  | cons a rest ih =>
    intro pre p post he hc
    simp only [clseLastB, Bool.and_eq_true, Bool.or_eq_true] at h
    cases pre with
    | nil =>
      simp at he
      obtain ⟨ha, hr⟩ := he
      subst ha hr
      rcases h.1 with h1 | h1
      · simp [hc] at h1
      · simpa using h1
    | cons b pre' =>
      simp at he
      exact ih h.2 pre' p post he.2 hc

def WellFormedB (sys : Sys) : Bool :=
  decide (sys.readers.map (·.lid)).Nodup &&
  sys.readers.all (fun r => r.lid != 0 && r.rid != 0 && r.expected == [.CLSE, .WRTE]) &&
  sys.wire.all (fun p => p.arg0 != 0 && p.arg1 != 0 && (p.cmd == .WRTE || p.cmd == .CLSE) &&
    sys.readers.any (fun r => r.lid == p.arg1 && r.rid == p.arg0)) &&
  sys.readers.all (fun r => clseLastB (ownOf r sys.wire))

theorem wellFormed_of_B {sys : Sys} (h : WellFormedB sys = true) : WellFormed sys := by
  simp only [WellFormedB, Bool.and_eq_true, decide_eq_true_eq, List.all_eq_true, List.any_eq_true,
    Bool.or_eq_true, bne_iff_ne, beq_iff_eq, ne_eq] at h
  obtain ⟨⟨⟨h1, h2⟩, h3⟩, h4⟩ := h
  refine ⟨h1, ?_, ?_, ?_⟩
  · intro r hr
    obtain ⟨⟨a, b⟩, c⟩ := h2 r hr
    exact ⟨a, b, c⟩
  · intro p hp
    obtain ⟨⟨⟨a, b⟩, c⟩, r, hr, d, e⟩ := h3 p hp
    exact ⟨a, b, c, r, hr, d, e⟩
  · intro r hr
    exact clseLastB_spec (h4 r hr)

/-- representation invariant plus: every entry belongs to a stream with non-zero ids and holds
    only WRTE / CLSE packets -/
def StoreOK (st : Store) : Prop :=
  Store.Inv st ∧ ∀ a0 a1 q, st.queue a0 a1 = some q →
    a0 ≠ 0 ∧ a1 ≠ 0 ∧ ∀ x ∈ q, x.1 = Cmd.WRTE ∨ x.1 = Cmd.CLSE

theorem parked_congr {r r' : Reader} (h1 : r'.lid = r.lid) (h2 : r'.rid = r.rid) (st : Store) :
    parked st r' = parked st r := by
  simp [parked, h1, h2]

theorem parked_of_queue_eq {st st' : Store} {r : Reader} (h : st'.queue r.rid r.lid = st.queue r.rid r.lid) :
    parked st' r = parked st r := by
  simp [parked, h]

theorem parked_nil_of_queue {st : Store} {r : Reader}
    (h : st.queue r.rid r.lid = none ∨ st.queue r.rid r.lid = some []) : parked st r = [] := by
  rcases h with e | e <;> simp [parked, e]

theorem parked_of_queue_cons {st : Store} {r : Reader} {c : Cmd} {d : Bytes} {q : List QItem}
    (h : st.queue r.rid r.lid = some ((c, d) :: q)) :
    parked st r = ⟨c, r.rid, r.lid, d⟩ :: q.map (fun x => ⟨x.1, r.rid, r.lid, x.2⟩) := by
  simp [parked, h]

/-- `hk` excludes K1: `put` drops a CLSE for a stream without entry -/
theorem parked_put {st : Store} {p : Pkt} (hk : ¬ (p.cmd = Cmd.CLSE ∧ st.queue p.arg0 p.arg1 = none)) (ρ : Reader) :
    parked (st.put p.arg0 p.arg1 p.cmd p.data) ρ = if ownB ρ p = true then parked st ρ ++ [p] else parked st ρ := by
  obtain ⟨h1, h2⟩ := (Store.queue_put (s := st) p.arg0 p.arg1 p.cmd p.data).2 hk
  by_cases ho : ownB ρ p = true
  · rw [if_pos ho]
    obtain ⟨e1, e0⟩ := ownB_iff.1 ho
    unfold parked
    rw [← e1, ← e0, h1]
    simp
  · rw [if_neg ho]
    apply parked_of_queue_eq
    apply h2
    intro hb
    apply ho
    simp [ownB, hb.1, hb.2]

/-- the store after a reader took its own packet `p` off the transport: on a CLSE, `read` clears the stream's entry -/
def afterOwn (st : Store) (p : Pkt) : Store := if p.cmd = Cmd.CLSE then st.clear p.arg0 p.arg1 else st

theorem parked_clear {st : Store} (hI : Store.Inv st) (a0 a1 : Nat) (ρ : Reader) :
    parked (st.clear a0 a1) ρ = if ρ.rid = a0 ∧ ρ.lid = a1 then [] else parked st ρ := by
  unfold parked
  rw [Store.queue_clear hI]
  by_cases hb : ρ.rid = a0 ∧ ρ.lid = a1 <;> simp [hb]

theorem parked_afterOwn {st : Store} (hI : Store.Inv st) (p : Pkt) (ρ : Reader) :
    parked (afterOwn st p) ρ =
      if p.cmd = Cmd.CLSE ∧ ρ.rid = p.arg0 ∧ ρ.lid = p.arg1 then [] else parked st ρ := by
  unfold afterOwn
  by_cases hc : p.cmd = Cmd.CLSE
  · rw [if_pos hc, parked_clear hI]
    simp [hc]
  · rw [if_neg hc, if_neg fun e => hc e.1]

theorem storeOK_put {st : Store} (h : StoreOK st) {p : Pkt} (h0 : p.arg0 ≠ 0) (h1 : p.arg1 ≠ 0)
    (hc : p.cmd = .WRTE ∨ p.cmd = .CLSE) (hk : ¬ (p.cmd = Cmd.CLSE ∧ st.queue p.arg0 p.arg1 = none)) :
    StoreOK (st.put p.arg0 p.arg1 p.cmd p.data) := by
  refine ⟨Store.inv_put h.1 _ _ _ _, ?_⟩
  obtain ⟨e1, e2⟩ := (Store.queue_put (s := st) p.arg0 p.arg1 p.cmd p.data).2 hk
  intro a0 a1 q hq
  by_cases hb : a0 = p.arg0 ∧ a1 = p.arg1
  · obtain ⟨b0, b1⟩ := hb
    subst b0 b1
    rw [e1] at hq
    cases hq
    refine ⟨h0, h1, fun x hx => ?_⟩
    rcases List.mem_append.1 hx with hx | hx
    · cases hq0 : st.queue p.arg0 p.arg1 with
      | none => simp [hq0] at hx
      | some q0 =>
        simp [hq0] at hx
        exact (h.2 _ _ _ hq0).2.2 x hx
    · rw [List.mem_singleton.1 hx]; exact hc
  · rw [e2 a0 a1 hb] at hq
    exact h.2 a0 a1 q hq

theorem storeOK_clear {st : Store} (h : StoreOK st) (a0 a1 : Nat) : StoreOK (st.clear a0 a1) := by
  refine ⟨Store.inv_clear h.1 _ _, fun b0 b1 q hq => ?_⟩
  rw [Store.queue_clear h.1] at hq
  split at hq
  · cases hq
  · exact h.2 b0 b1 q hq

theorem storeOK_afterOwn {st : Store} (h : StoreOK st) (p : Pkt) : StoreOK (afterOwn st p) := by
  unfold afterOwn
  split
  · exact storeOK_clear h _ _
  · exact h

theorem keyMatchesZ_nonzero {rid lid k0 k1 : Nat} (h0 : k0 ≠ 0) (h1 : k1 ≠ 0)
    (h : Store.keyMatchesZ (some rid) (some lid) (k0, k1) = true) : k0 = rid ∧ k1 = lid := by
  simpa [Store.keyMatchesZ, Store.keyMatches, h0, h1] using h

theorem findAZ_some {st : Store} (h : StoreOK st) {rid lid : Nat} {k : Nat × Nat}
    (hf : st.findAllowZeros (some rid) (some lid) = some k) :
    k = (rid, lid) ∧ ∃ x q, st.queue rid lid = some (x :: q) := by
  obtain ⟨hk, hm⟩ := (Store.findAllowZeros_spec h.1 (some rid) (some lid)).1 k hf
  obtain ⟨k0, k1⟩ := k
  obtain ⟨q, hq, hne⟩ := (Store.mem_pendingKeys h.1 k0 k1).1 hk
  obtain ⟨h0, h1, _⟩ := h.2 k0 k1 q hq
  obtain ⟨e0, e1⟩ := keyMatchesZ_nonzero h0 h1 hm
  subst e0 e1
  refine ⟨rfl, ?_⟩
  cases q with
  | nil => exact absurd rfl hne
  | cons x q => exact ⟨x, q, hq⟩

theorem findAZ_none {st : Store} (h : StoreOK st) {r : Reader}
    (hf : st.findAllowZeros (some r.rid) (some r.lid) = none) : parked st r = [] := by
  have hn := (Store.findAllowZeros_spec h.1 (some r.rid) (some r.lid)).2 hf
  cases hq : st.queue r.rid r.lid with
  | none => exact parked_nil_of_queue (Or.inl hq)
  | some q =>
    cases q with
    | nil => exact parked_nil_of_queue (Or.inr hq)
    | cons x q =>
      have hm : (r.rid, r.lid) ∈ Store.pendingKeys st := (Store.mem_pendingKeys h.1 r.rid r.lid).2 ⟨_, hq, by simp⟩
      have := hn _ hm
      simp [Store.keyMatchesZ, Store.keyMatches] at this

/-- `st'` is `st` with the oldest packet `p` parked for `r`'s stream taken out; a CLSE takes the stream's entry with it -/
structure Took (st st' : Store) (r : Reader) (p : Pkt) (rest : List Pkt) : Prop where
  head : parked st r = p :: rest
  ok : StoreOK st'
  self : ∀ ρ : Reader, ρ.rid = r.rid → ρ.lid = r.lid → parked st' ρ = if p.cmd = Cmd.CLSE then [] else rest
  other : ∀ ρ : Reader, ¬ (ρ.rid = r.rid ∧ ρ.lid = r.lid) → parked st' ρ = parked st ρ

/-- Under `StoreOK` the drain loop runs at most one round (any fuel `n + 1` will do) and discards nothing. -/
theorem drain_spec {st : Store} (h : StoreOK st) (r : Reader) (hexp : r.expected = [.CLSE, .WRTE]) (n : Nat) :
    (∃ p rest st', Took st st' r p rest ∧ drain r (n + 1) st [] = (st', some p, []))
    ∨ (parked st r = [] ∧ drain r (n + 1) st [] = (st, none, [])) := by
  cases hf : st.findAllowZeros (some r.rid) (some r.lid) with
  | none =>
    exact Or.inr ⟨findAZ_none h hf, by simp [drain, hf]⟩
  | some k =>
    obtain ⟨hk, x, q, hq⟩ := findAZ_some h hf
    subst hk
    obtain ⟨c, d⟩ := x
    have hg := Store.get_concrete h.1 r.rid r.lid
    simp only [hq] at hg
    obtain ⟨st', hg, hI, hqq⟩ := hg
    obtain ⟨h0, h1, hx⟩ := h.2 _ _ _ hq
    refine Or.inl ⟨⟨c, r.rid, r.lid, d⟩, q.map fun x => ⟨x.1, r.rid, r.lid, x.2⟩, st',
      ⟨parked_of_queue_cons hq, ⟨hI, ?_⟩, ?_, ?_⟩, ?_⟩
    · intro a0 a1 q' hq'
      rw [hqq] at hq'
      split at hq'
      · rename_i hb
        split at hq'
        · cases hq'
        · cases hq'
          exact ⟨hb.1 ▸ h0, hb.2 ▸ h1, fun x hx' => hx x (List.mem_cons_of_mem _ hx')⟩
      · exact h.2 a0 a1 q' hq'
    · intro ρ e0 e1
      unfold parked
      rw [hqq, if_pos ⟨e0, e1⟩, e0, e1]
      by_cases hc : c = Cmd.CLSE <;> simp [hc]
    · intro ρ hb
      unfold parked
      rw [hqq, if_neg hb]
    · have hc : c = Cmd.WRTE ∨ c = Cmd.CLSE := hx (c, d) (by simp)
      rcases hc with hc | hc <;> simp [drain, hf, hg, hexp, hc]

/-! ### The reachable-state invariant -/

/-- where the packets of reader `r`'s stream currently are: given, parked, still on the wire, lost -/
def view (s : Sys) (r : Reader) : List Pkt := r.given ++ parked s.store r ++ ownOf r s.wire ++ lostOf s r

/-- reachable-state invariant relative to the initial system `sys₀` -/
structure Inv (sys₀ s : Sys) : Prop where
  store : StoreOK s.store
  static : s.readers.map Reader.sig = sys₀.readers.map Reader.sig
  wire : ∃ pre, sys₀.wire = pre ++ s.wire
  lostC : ∀ p ∈ s.lost, p.cmd = Cmd.CLSE
  cons : ∀ (i : Nat) (r : Reader), s.readers[i]? = some r →
    ownOf r sys₀.wire = view s r ∧ r.dropped = [] ∧ r.done = r.given.any (·.cmd == Cmd.CLSE)

theorem lt_of_getElem? {α : Type} {l : List α} {i : Nat} {a : α} (h : l[i]? = some a) : i < l.length :=
  (List.getElem?_eq_some_iff.1 h).1

theorem set_self {α : Type} {l : List α} {i : Nat} {a : α} (h : l[i]? = some a) : l.set i a = l := by
  obtain ⟨hlt, rfl⟩ := List.getElem?_eq_some_iff.1 h
  exact List.set_getElem_self hlt

theorem getElem?_set_self' {α : Type} {l : List α} {i : Nat} {a b : α} (h : l[i]? = some a) :
    (l.set i b)[i]? = some b := List.getElem?_set_self (lt_of_getElem? h)

theorem nodup_map_getElem?_inj {α β : Type} {f : α → β} {l : List α} (hn : (l.map f).Nodup)
    {i j : Nat} {a b : α} (hi : l[i]? = some a) (hj : l[j]? = some b) (hab : f a = f b) : i = j := by
  refine (List.getElem?_inj (by rw [List.length_map]; exact lt_of_getElem? hi) hn).1 ?_
  rw [List.getElem?_map, List.getElem?_map, hi, hj, Option.map_some, Option.map_some, hab]

theorem ownB_congr {r r' : Reader} (h1 : r'.lid = r.lid) (h2 : r'.rid = r.rid) : ownB r' = ownB r := by
  funext p; simp [ownB, h1, h2]

theorem ownOf_congr {r r' : Reader} (h1 : r'.lid = r.lid) (h2 : r'.rid = r.rid) (ps : List Pkt) :
    ownOf r' ps = ownOf r ps := by
  simp [ownOf, h1, h2]

section
variable {sys₀ s : Sys}

theorem sig_getElem? {l l' : List Reader} (hs : l.map Reader.sig = l'.map Reader.sig) {i : Nat} {r : Reader}
    (hr : l[i]? = some r) :
    ∃ r', l'[i]? = some r' ∧ r'.lid = r.lid ∧ r'.rid = r.rid ∧ r'.expected = r.expected := by
  have h1 : (l.map Reader.sig)[i]? = some r.sig := by rw [List.getElem?_map, hr]; rfl
  rw [hs, List.getElem?_map] at h1
  obtain ⟨r', h0, hsig⟩ := Option.map_eq_some_iff.1 h1
  simp only [Reader.sig, Prod.mk.injEq] at hsig
  exact ⟨r', h0, hsig⟩

theorem reader_facts (hwf : WellFormed sys₀) (hs : s.readers.map Reader.sig = sys₀.readers.map Reader.sig)
    {i : Nat} {r : Reader} (hr : s.readers[i]? = some r) :
    r.lid ≠ 0 ∧ r.rid ≠ 0 ∧ r.expected = [.CLSE, .WRTE] ∧
      ∃ r₀ ∈ sys₀.readers, sys₀.readers[i]? = some r₀ ∧ r₀.lid = r.lid ∧ r₀.rid = r.rid := by
  obtain ⟨r₀, h0, e1, e2, e3⟩ := sig_getElem? hs hr
  have hm : r₀ ∈ sys₀.readers := List.mem_of_getElem? h0
  obtain ⟨a, b, c⟩ := hwf.2.1 r₀ hm
  exact ⟨e1 ▸ a, e2 ▸ b, e3 ▸ c, r₀, hm, h0, e1, e2⟩

theorem lid_inj (hwf : WellFormed sys₀) (hs : s.readers.map Reader.sig = sys₀.readers.map Reader.sig)
    {i j : Nat} {r r' : Reader} (hr : s.readers[i]? = some r) (hr' : s.readers[j]? = some r')
    (hl : r.lid = r'.lid) : i = j := by
  have : s.readers.map (·.lid) = sys₀.readers.map (·.lid) := by
    have := congrArg (List.map Prod.fst) hs
    simpa [Reader.sig, Function.comp_def] using this
  exact nodup_map_getElem?_inj (f := fun r : Reader => r.lid) (this ▸ hwf.1) hr hr' hl

/-- conforming device: nothing follows a stream's CLSE -/
theorem clse_last (hwf : WellFormed sys₀) (hs : s.readers.map Reader.sig = sys₀.readers.map Reader.sig)
    {i : Nat} {r : Reader} (hr : s.readers[i]? = some r) {pre post : List Pkt} {p : Pkt}
    (he : ownOf r sys₀.wire = pre ++ p :: post) (hc : p.cmd = Cmd.CLSE) : post = [] := by
  obtain ⟨_, _, _, r₀, hm, _, e1, e2⟩ := reader_facts hwf hs hr
  rw [← ownOf_congr e1 e2] at he
  exact hwf.2.2.2 r₀ hm pre p post he hc

theorem wire_facts (hwf : WellFormed sys₀) (hw : ∃ pre, sys₀.wire = pre ++ s.wire) {p : Pkt} (hp : p ∈ s.wire) :
    p.arg0 ≠ 0 ∧ p.arg1 ≠ 0 ∧ (p.cmd = .WRTE ∨ p.cmd = .CLSE) := by
  obtain ⟨pre, hpre⟩ := hw
  obtain ⟨a, b, c, _⟩ := hwf.2.2.1 p (by rw [hpre]; simp [hp])
  exact ⟨a, b, c⟩

theorem owns_eq_ownB (r : Reader) {p : Pkt} (h0 : p.arg0 ≠ 0) (h1 : p.arg1 ≠ 0) : r.owns p = ownB r p := by
  have e0 : (p.arg0 == 0) = false := by simp [h0]
  have e1 : (p.arg1 == 0) = false := by simp [h1]
  simp [Reader.owns, ownB, e0, e1]

/-- generic preservation: one reader is replaced by one with the same identity, and every
    reader's `view` is unchanged -/
theorem inv_update {s' : Sys} (h : Inv sys₀ s) {i : Nat} {r r' : Reader}
    (hr : s.readers[i]? = some r) (hsig : r'.sig = r.sig)
    (hreaders : s'.readers = s.readers.set i r')
    (hstore : StoreOK s'.store) (hwire : ∃ pre, s.wire = pre ++ s'.wire)
    (hlost : ∀ p ∈ s'.lost, p.cmd = Cmd.CLSE)
    (hi : view s' r' = view s r ∧ r'.dropped = [] ∧ r'.done = r'.given.any (·.cmd == Cmd.CLSE))
    (hj : ∀ j rj, j ≠ i → s.readers[j]? = some rj → view s' rj = view s rj) : Inv sys₀ s' := by
  have hlt : i < s.readers.length := lt_of_getElem? hr
  refine ⟨hstore, ?_, ?_, hlost, ?_⟩
  · rw [hreaders, List.map_set, hsig, set_self (by rw [List.getElem?_map, hr]; rfl), h.static]
  · obtain ⟨pre, hpre⟩ := h.wire
    obtain ⟨pre', hpre'⟩ := hwire
    exact ⟨pre ++ pre', by rw [hpre, hpre']; simp⟩
  · intro j rj hrj
    rw [hreaders, List.getElem?_set] at hrj
    by_cases hji : i = j
    · subst hji
      simp [hlt] at hrj
      subst hrj
      simp only [Reader.sig, Prod.mk.injEq] at hsig
      rw [ownOf_congr hsig.1 hsig.2.1, (h.cons i r hr).1, hi.1]
      exact ⟨rfl, hi.2⟩
    · simp only [hji, if_false] at hrj
      obtain ⟨a, b⟩ := h.cons j rj hrj
      rw [a, hj j rj (Ne.symm hji) hrj]
      exact ⟨rfl, b⟩

end

/-! ### One atomic step preserves the invariant -/

theorem give_done (r : Reader) (p : Pkt) (hd : r.done = false)
    (hinv : r.done = r.given.any (·.cmd == Cmd.CLSE)) :
    (r.give p).done = (r.give p).given.any (·.cmd == Cmd.CLSE) := by
  rw [hd] at hinv
  simp [Reader.give, List.any_append, ← hinv]

section
variable {sys₀ s : Sys}

theorem inv_enter (h : Inv sys₀ s) {i : Nat} {r : Reader} (hr : s.readers[i]? = some r) :
    Inv sys₀ { s with readers := s.readers.set i { r with inLoop := true } } :=
  inv_update (r' := { r with inLoop := true }) h hr rfl rfl h.store ⟨[], rfl⟩ h.lostC
    ⟨rfl, (h.cons i r hr).2⟩ fun _ _ _ _ => rfl

theorem inv_give_store (hwf : WellFormed sys₀) (h : Inv sys₀ s) {i : Nat} {r : Reader}
    (hr : s.readers[i]? = some r) (hdone : r.done = false) {p : Pkt} {rest : List Pkt} {st' : Store}
    (ht : Took s.store st' r p rest) :
    Inv sys₀ { s with store := st', readers := s.readers.set i (r.give p) } := by
  obtain ⟨hE, hdrop, hdn⟩ := h.cons i r hr
  refine inv_update (r' := r.give p) h hr rfl rfl ht.ok ⟨[], rfl⟩ h.lostC
    ⟨?_, hdrop, give_done r _ hdone hdn⟩ ?_
  · show (r.given ++ [p]) ++ parked st' r ++ ownOf r s.wire ++ lostOf s r = view s r
    rw [view, ht.head] at hE ⊢
    rw [ht.self r rfl rfl]
    by_cases hc : p.cmd = Cmd.CLSE
    · -- a CLSE is the last packet of its stream: nothing else is parked, on the wire or lost
      have hpost := clse_last hwf h.static hr (pre := r.given)
        (post := rest ++ ownOf r s.wire ++ lostOf s r) (by rw [hE]; simp) hc
      simp only [List.append_eq_nil_iff] at hpost
      simp [hc, hpost.1.1]
    · simp [hc]
  · intro j rj hji hrj
    have hne : rj.lid ≠ r.lid := fun e => hji (lid_inj hwf h.static hrj hr e)
    show rj.given ++ parked st' rj ++ ownOf rj s.wire ++ lostOf s rj = view s rj
    rw [ht.other rj fun e => hne e.2, view]

/-- the reader takes its own packet directly off the wire (its parked queue is empty) -/
theorem inv_give_wire (hwf : WellFormed sys₀) (h : Inv sys₀ s) {i : Nat} {r : Reader}
    (hr : s.readers[i]? = some r) (hdone : r.done = false) (hpe : parked s.store r = [])
    {p : Pkt} {rest : List Pkt} (hw : s.wire = p :: rest) (hown : ownB r p = true) :
    Inv sys₀ { s with wire := rest, store := afterOwn s.store p, readers := s.readers.set i (r.give p) } := by
  obtain ⟨hE, hdrop, hdn⟩ := h.cons i r hr
  have hids := ownB_iff.1 hown
  refine inv_update (r' := r.give p) h hr rfl rfl (storeOK_afterOwn h.store p) ⟨[p], by simp [hw]⟩ h.lostC
    ⟨?_, hdrop, give_done r _ hdone hdn⟩ ?_
  · show (r.given ++ [p]) ++ parked (afterOwn s.store p) r ++ ownOf r rest ++ lostOf s r = view s r
    rw [parked_afterOwn h.store.1, hpe, ite_self]
    simp [view, hpe, hw, ownOf_eq, hown]
  · intro j rj hji hrj
    have hne : rj.lid ≠ r.lid := fun e => hji (lid_inj hwf h.static hrj hr e)
    have hnb : ownB rj p = false := by simp [ownB, hids.1, Ne.symm hne]
    show rj.given ++ parked (afterOwn s.store p) rj ++ ownOf rj rest ++ lostOf s rj = view s rj
    rw [parked_afterOwn h.store.1, if_neg fun e => hne (e.2.2.trans hids.1)]
    simp [view, hw, ownOf_eq, hnb]

theorem inv_park (hwf : WellFormed sys₀) (h : Inv sys₀ s) {i : Nat} {r : Reader} (hr : s.readers[i]? = some r)
    {p : Pkt} {rest : List Pkt} (hw : s.wire = p :: rest)
    (hk : ¬ (p.cmd = Cmd.CLSE ∧ s.store.queue p.arg0 p.arg1 = none)) :
    Inv sys₀ { s with wire := rest, store := s.store.put p.arg0 p.arg1 p.cmd p.data } := by
  obtain ⟨hp0, hp1, hpc⟩ := wire_facts hwf h.wire (p := p) (by simp [hw])
  -- in every reader's view the packet moves from the head of the wire part to the end of the parked part
  have key : ∀ rj : Reader, rj.given ++ parked (s.store.put p.arg0 p.arg1 p.cmd p.data) rj ++ ownOf rj rest ++
      lostOf s rj = view s rj := by
    intro rj
    rw [parked_put hk]
    simp only [view, hw, ownOf_eq]
    by_cases ho : ownB rj p = true
    · simp [ho]
    · simp [ho]
  exact inv_update h hr rfl (set_self hr).symm (storeOK_put h.store hp0 hp1 hpc hk) ⟨[p], by simp [hw]⟩ h.lostC
    ⟨key r, (h.cons i r hr).2⟩ fun j rj _ _ => key rj

theorem inv_discard (hwf : WellFormed sys₀) (h : Inv sys₀ s) {i : Nat} {r : Reader} (hr : s.readers[i]? = some r)
    {p : Pkt} {rest : List Pkt} (hw : s.wire = p :: rest) (hc : p.cmd = Cmd.CLSE) :
    Inv sys₀ { s with wire := rest, lost := s.lost ++ [p] } := by
  have key : ∀ (j : Nat) (rj : Reader), s.readers[j]? = some rj →
      rj.given ++ parked s.store rj ++ ownOf rj rest ++ (s.lost ++ [p]).filter (ownB rj) = view s rj := by
    intro j rj hrj
    by_cases ho : ownB rj p = true
    · -- a CLSE is the last packet of its stream: nothing else of it is on the wire or lost
      have hEj := (h.cons j rj hrj).1
      simp only [view, hw, ownOf_eq, List.filter_cons, ho, if_true, lostOf] at hEj
      have hpost := clse_last hwf h.static hrj (pre := rj.given ++ parked s.store rj) (p := p)
        (post := List.filter (ownB rj) rest ++ List.filter (ownB rj) s.lost) (by rw [ownOf_eq, hEj]; simp) hc
      simp only [List.append_eq_nil_iff] at hpost
      simp [view, hw, ownOf_eq, ho, lostOf, hpost.1, hpost.2]
    · simp [view, hw, ownOf_eq, ho, lostOf]
  refine inv_update h hr rfl (set_self hr).symm h.store ⟨[p], by simp [hw]⟩ ?_
    ⟨key i r hr, (h.cons i r hr).2⟩ fun j rj _ hrj => key j rj hrj
  intro x hx
  rcases List.mem_append.1 hx with hx | hx
  · exact h.lostC x hx
  · rw [List.mem_singleton.1 hx]; exact hc

end

section
variable {sys₀ s : Sys}

/-- reader `i` can take step `c`: it is not done and `c` is the phase it is in -/
def Enabled (c : Choice) (i : Nat) (r : Reader) : Prop :=
  r.done = false ∧ (c = .pre i ∧ r.inLoop = false ∨ c = .iter i ∧ r.inLoop = true)

/-- a step that no reader can take changes nothing -/
theorem step_disabled (c : Choice)
    (hdis : ∀ i r, s.readers[i]? = some r → ¬ Enabled c i r) : step s c = s := by
  cases c with
  | pre i =>
    cases hr : s.readers[i]? with
    | none => simp only [step, hr]
    | some r =>
      have hflag : (r.done || r.inLoop) = true := by
        cases hd : r.done
        · cases hl : r.inLoop
          · exact absurd ⟨hd, Or.inl ⟨rfl, hl⟩⟩ (hdis i r hr)
          · rfl
        · rfl
      simp only [step, hr, hflag, if_true]
  | iter i =>
    cases hr : s.readers[i]? with
    | none => simp only [step, hr]
    | some r =>
      have hflag : (r.done || !r.inLoop) = true := by
        cases hd : r.done
        · cases hl : r.inLoop
          · rfl
          · exact absurd ⟨hd, Or.inr ⟨rfl, hl⟩⟩ (hdis i r hr)
        · rfl
      simp only [step, hr, hflag, if_true]

theorem enabled_or_not (s : Sys) (c : Choice) :
    (∃ i r, s.readers[i]? = some r ∧ Enabled c i r) ∨ (∀ i r, s.readers[i]? = some r → ¬ Enabled c i r) :=
  (Classical.em _).imp_right fun h i r hr he => h ⟨i, r, hr, he⟩

/-- The exact effect of a step that reader `i` can take, in a state satisfying the invariant:
    (1) it is handed the oldest packet parked for it (`Took`); otherwise nothing is parked for it and
    (2) the pre-check enters the loop, (3) the transport is empty and nothing changes, (4) it takes
    its own packet off the transport, (5) it takes a foreign packet off the transport and parks it for
    its owner — or (6) `put` discards it: a CLSE for a stream without store entry (K1). -/
theorem step_enabled (hwf : WellFormed sys₀) (h : Inv sys₀ s) {i : Nat} {r : Reader} {c : Choice}
    (hr : s.readers[i]? = some r) (hen : Enabled c i r) :
    (∃ p rest st', Took s.store st' r p rest ∧
        step s c = { s with store := st', readers := s.readers.set i (r.give p) })
    ∨ (parked s.store r = [] ∧
        ( (c = .pre i ∧ step s c = { s with readers := s.readers.set i { r with inLoop := true } })
        ∨ (c = .iter i ∧ s.wire = [] ∧ step s c = s)
        ∨ (c = .iter i ∧ ∃ p rest, s.wire = p :: rest ∧ ownB r p = true ∧
            step s c = { s with wire := rest, store := afterOwn s.store p, readers := s.readers.set i (r.give p) })
        ∨ (c = .iter i ∧ ∃ p rest, s.wire = p :: rest ∧ ownB r p = false ∧
            ¬ (p.cmd = Cmd.CLSE ∧ s.store.queue p.arg0 p.arg1 = none) ∧
            step s c = { s with wire := rest, store := s.store.put p.arg0 p.arg1 p.cmd p.data })
        ∨ (c = .iter i ∧ ∃ p rest, s.wire = p :: rest ∧ ownB r p = false ∧
            p.cmd = Cmd.CLSE ∧ s.store.queue p.arg0 p.arg1 = none ∧
            step s c = { s with wire := rest, lost := s.lost ++ [p] }))) := by
  obtain ⟨hdone, hc⟩ := hen
  obtain ⟨_, _, hexp, _⟩ := reader_facts hwf h.static hr
  have hdr := drain_spec h.store r hexp (storeSize s.store)
  rcases hc with ⟨rfl, hl⟩ | ⟨rfl, hl⟩
  · have hflag : (r.done || r.inLoop) = false := by simp [hdone, hl]
    rcases hdr with ⟨p, rest, st', ht, hd⟩ | ⟨hpe, hd⟩
    · exact Or.inl ⟨p, rest, st', ht,
        by simp only [step, hr, hflag, Bool.false_eq_true, if_false, hd, List.append_nil, setReader]⟩
    · exact Or.inr ⟨hpe, Or.inl ⟨rfl,
        by simp only [step, hr, hflag, Bool.false_eq_true, if_false, hd, List.append_nil, setReader]⟩⟩
  · have hflag : (r.done || !r.inLoop) = false := by simp [hdone, hl]
    rcases hdr with ⟨p, rest, st', ht, hd⟩ | ⟨hpe, hd⟩
    · exact Or.inl ⟨p, rest, st', ht,
        by simp only [step, hr, hflag, Bool.false_eq_true, if_false, hd, List.append_nil, setReader]⟩
    · refine Or.inr ⟨hpe, Or.inr ?_⟩
      generalize hs : step s (.iter i) = s2
      simp only [step, hr, hflag, Bool.false_eq_true, if_false, hd, List.append_nil, setReader] at hs
      split at hs
      · next hw =>
        rw [set_self hr] at hs
        exact Or.inl ⟨rfl, hw, hs.symm⟩
      · next p rest hw =>
        obtain ⟨hp0, hp1, hpc⟩ := wire_facts hwf h.wire (p := p) (by simp [hw])
        have hown_eq : Reader.owns { r with dropped := r.dropped } p = ownB r p := owns_eq_ownB r hp0 hp1
        rw [hown_eq] at hs
        have hcont : r.expected.contains p.cmd = true := by
          rcases hpc with e | e <;> simp [hexp, e]
        by_cases hown : ownB r p = true
        · simp only [hown, if_true, hcont] at hs
          exact Or.inr (Or.inl ⟨rfl, p, rest, hw, hown, hs.symm⟩)
        · simp only [hown, Bool.false_eq_true, if_false, set_self hr] at hs
          have hown' : ownB r p = false := by simpa using hown
          by_cases hk : p.cmd = Cmd.CLSE ∧ s.store.queue p.arg0 p.arg1 = none
          · rw [if_pos hk, (Store.queue_put _ _ _ _).1 hk] at hs
            exact Or.inr (Or.inr (Or.inr ⟨rfl, p, rest, hw, hown', hk.1, hk.2, hs.symm⟩))
          · rw [if_neg hk] at hs
            exact Or.inr (Or.inr (Or.inl ⟨rfl, p, rest, hw, hown', hk, hs.symm⟩))

/-- every atomic step preserves the invariant -/
theorem step_inv (hwf : WellFormed sys₀) (h : Inv sys₀ s) (c : Choice) : Inv sys₀ (step s c) := by
  rcases enabled_or_not s c with ⟨i, r, hr, hen⟩ | hdis
  · rcases step_enabled hwf h hr hen with ⟨p, rest, st', ht, he⟩ |
      ⟨hq, ⟨_, he⟩ | ⟨_, _, he⟩ | ⟨_, p, rest, hw, hown, he⟩ | ⟨_, p, rest, hw, _, hk, he⟩ |
        ⟨_, p, rest, hw, _, hc, _, he⟩⟩
    · rw [he]; exact inv_give_store hwf h hr hen.1 ht
    · rw [he]; exact inv_enter h hr
    · rw [he]; exact h
    · rw [he]; exact inv_give_wire hwf h hr hen.1 hq hw hown
    · rw [he]; exact inv_park hwf h hr hw hk
    · rw [he]; exact inv_discard hwf h hr hw hc
  · rw [step_disabled c hdis]; exact h

/-- The `lost` list grows only in the K1 situation: the stepping reader takes a foreign CLSE off the
    transport while the store has no entry for that CLSE's stream. -/
theorem step_lost (hwf : WellFormed sys₀) (h : Inv sys₀ s) (c : Choice) :
    (step s c).lost = s.lost ∨
    ∃ j rj p rest, c = .iter j ∧ s.readers[j]? = some rj ∧ ownB rj p = false ∧ s.wire = p :: rest ∧
      p.cmd = Cmd.CLSE ∧ s.store.queue p.arg0 p.arg1 = none ∧ (step s c).lost = s.lost ++ [p] := by
  rcases enabled_or_not s c with ⟨i, r, hr, hen⟩ | hdis
  · rcases step_enabled hwf h hr hen with ⟨p, rest, st', _, he⟩ |
      ⟨_, ⟨_, he⟩ | ⟨_, _, he⟩ | ⟨_, p, rest, _, _, he⟩ | ⟨_, p, rest, _, _, _, he⟩ |
        ⟨hc, p, rest, hw, hown, hk1, hk2, he⟩⟩
    · rw [he]; exact Or.inl rfl
    · rw [he]; exact Or.inl rfl
    · rw [he]; exact Or.inl rfl
    · rw [he]; exact Or.inl rfl
    · rw [he]; exact Or.inl rfl
    · exact Or.inr ⟨i, r, p, rest, hc, hr, hown, hw, hk1, hk2, by rw [he]⟩
  · rw [step_disabled c hdis]; exact Or.inl rfl

theorem run_induction (hwf : WellFormed sys₀) {P : Sys → Prop}
    (hstep : ∀ t, Inv sys₀ t → P t → ∀ c, P (step t c)) :
    ∀ (sched : List Choice) (t : Sys), Inv sys₀ t → P t → P (run t sched)
  | [], _, _, hp => hp
  | c :: rest, t, ht, hp => run_induction hwf hstep rest (step t c) (step_inv hwf ht c) (hstep t ht hp c)

theorem run_inv (hwf : WellFormed sys₀) (h : Inv sys₀ s) (sched : List Choice) : Inv sys₀ (run s sched) :=
  run_induction hwf (fun _ ht _ c => step_inv hwf ht c) sched s h h

theorem run_append (s : Sys) (a b : List Choice) : run s (a ++ b) = run (run s a) b := by
  simp [run, List.foldl_append]

theorem inv_initial (hi : Initial sys₀) : Inv sys₀ sys₀ := by
  obtain ⟨hwf, hst, hl, hf⟩ := hi
  refine ⟨?_, rfl, ⟨[], rfl⟩, by simp [hl], ?_⟩
  · rw [hst]; exact ⟨Store.inv_empty, by simp [Store.queue]⟩
  · intro i r hr
    obtain ⟨g, d, dn, _⟩ := hf r (List.mem_of_getElem? hr)
    refine ⟨?_, d, by simp [dn, g]⟩
    simp [view, g, parked, hst, Store.queue, lostOf, hl]

/-- every state reachable from an initial system satisfies the invariant -/
theorem reach_inv (hi : Initial sys₀) (sched : List Choice) : Inv sys₀ (run sys₀ sched) :=
  run_inv hi.1 (inv_initial hi) sched

end

/-! ### Consequences of the invariant, phrased with the initial reader `r₀` -/

theorem take_findIdx_clse {l : List Pkt}
    (h : ∀ pre p post, l = pre ++ p :: post → p.cmd = Cmd.CLSE → post = []) :
    (match l.findIdx? (·.cmd == Cmd.CLSE) with
      | some k => l.take (k + 1)
      | none => l) = l := by
  cases hf : l.findIdx? (·.cmd == Cmd.CLSE) with
  | none => rfl
  | some k =>
    -- nothing follows the first CLSE, at index `k`
    obtain ⟨hk, hc, _⟩ := List.findIdx?_eq_some_iff_getElem.1 hf
    have := h (l.take k) l[k] (l.drop (k + 1))
      (by rw [List.getElem_cons_drop, List.take_append_drop]) (by simpa using hc)
    exact List.take_of_length_le (List.drop_eq_nil_iff.1 this)

/-- a conforming device sends nothing after a stream's CLSE, so a reader alone on the transport is
    given everything the device sent on its stream -/
theorem aloneGiven_eq_ownOf {sys : Sys} (hwf : WellFormed sys) {r : Reader} (hr : r ∈ sys.readers) :
    aloneGiven r sys.wire = ownOf r sys.wire := by
  unfold aloneGiven
  exact take_findIdx_clse (hwf.2.2.2 r hr)

section
variable {sys₀ s : Sys}

theorem inv_reader (h : Inv sys₀ s) {i : Nat} {r₀ : Reader} (hr₀ : sys₀.readers[i]? = some r₀) :
    ∃ r, s.readers[i]? = some r ∧ r.lid = r₀.lid ∧ r.rid = r₀.rid := by
  obtain ⟨r, hr, e1, e2, _⟩ := sig_getElem? h.static.symm hr₀
  exact ⟨r, hr, e1, e2⟩

theorem inv_reader_ids (h : Inv sys₀ s) {i : Nat} {r₀ r : Reader} (hr₀ : sys₀.readers[i]? = some r₀)
    (hr : s.readers[i]? = some r) : r.lid = r₀.lid ∧ r.rid = r₀.rid := by
  obtain ⟨r', hr', e⟩ := inv_reader h hr₀
  rw [hr] at hr'
  cases hr'
  exact e

/-- the conservation equation of reader `i`, written with the initial reader `r₀` -/
theorem inv_cons₀ (h : Inv sys₀ s) {i : Nat} {r₀ r : Reader} (hr₀ : sys₀.readers[i]? = some r₀)
    (hr : s.readers[i]? = some r) :
    ownOf r₀ sys₀.wire = r.given ++ parked s.store r₀ ++ ownOf r₀ s.wire ++ lostOf s r₀ := by
  obtain ⟨e1, e2⟩ := inv_reader_ids h hr₀ hr
  have := (h.cons i r hr).1
  rw [view, ownOf_congr e1 e2, ownOf_congr e1 e2, parked_congr e1 e2, lostOf, ownB_congr e1 e2] at this
  exact this

/-- a lost packet is the last packet the device sent on its stream -/
theorem lost_is_last (hwf : WellFormed sys₀) (h : Inv sys₀ s) {i : Nat} {r₀ : Reader}
    (hr₀ : sys₀.readers[i]? = some r₀) {p : Pkt} (hp : p ∈ lostOf s r₀) :
    (ownOf r₀ sys₀.wire).getLast? = some p := by
  obtain ⟨r, hr, _⟩ := inv_reader h hr₀
  have hE := inv_cons₀ h hr₀ hr
  obtain ⟨a, b, hab⟩ := List.append_of_mem hp
  have hc : p.cmd = Cmd.CLSE := h.lostC p (List.mem_filter.1 hp).1
  rw [hab] at hE
  have hb : b = [] := hwf.2.2.2 r₀ (List.mem_of_getElem? hr₀)
    (r.given ++ parked s.store r₀ ++ ownOf r₀ s.wire ++ a) p b (by rw [hE]; simp) hc
  rw [hE, hb]
  simp

theorem done_rest (hwf : WellFormed sys₀) (h : Inv sys₀ s) {i : Nat} {r₀ r : Reader}
    (hr₀ : sys₀.readers[i]? = some r₀) (hr : s.readers[i]? = some r) (hd : r.done = true) :
    parked s.store r₀ = [] ∧ ownOf r₀ s.wire = [] ∧ lostOf s r₀ = [] := by
  have hE := inv_cons₀ h hr₀ hr
  rw [(h.cons i r hr).2.2, List.any_eq_true] at hd
  obtain ⟨p, hp, hc⟩ := hd
  obtain ⟨a, b, hab⟩ := List.append_of_mem hp
  have hpost := hwf.2.2.2 r₀ (List.mem_of_getElem? hr₀) a p
    (b ++ parked s.store r₀ ++ ownOf r₀ s.wire ++ lostOf s r₀) (by rw [hE, hab]; simp) (by simpa using hc)
  simp only [List.append_eq_nil_iff] at hpost
  exact ⟨hpost.1.1.2, hpost.1.2, hpost.2⟩

theorem given_all (hwf : WellFormed sys₀) (h : Inv sys₀ s) {i : Nat} {r₀ r : Reader}
    (hr₀ : sys₀.readers[i]? = some r₀) (hr : s.readers[i]? = some r)
    (hp : parked s.store r₀ = []) (hw : ownOf r₀ s.wire = []) (hl : lostOf s r₀ = []) :
    r.given = aloneGiven r₀ sys₀.wire := by
  rw [aloneGiven_eq_ownOf hwf (List.mem_of_getElem? hr₀), inv_cons₀ h hr₀ hr, hp, hw, hl]
  simp

/-- reader `r` has nothing left to obtain -/
def Sat (s : Sys) (r : Reader) : Prop := r.done = true ∨ (s.wire = [] ∧ parked s.store r = [])

/-- the second disjunct is K1: the reader's CLSE was lost -/
theorem sat_result (hwf : WellFormed sys₀) (h : Inv sys₀ s) {i : Nat} {r₀ r : Reader}
    (hr₀ : sys₀.readers[i]? = some r₀) (hr : s.readers[i]? = some r) (hs : Sat s r) :
    (r.given = aloneGiven r₀ sys₀.wire ∧ r.done = (aloneGiven r₀ sys₀.wire).any (·.cmd == Cmd.CLSE))
      ∨ lostOf s r₀ ≠ [] := by
  by_cases hl : lostOf s r₀ = []
  · have hg : r.given = aloneGiven r₀ sys₀.wire := by
      rcases hs with hd | ⟨hw, hp⟩
      · obtain ⟨a, b, c⟩ := done_rest hwf h hr₀ hr hd
        exact given_all hwf h hr₀ hr a b c
      · obtain ⟨e1, e2⟩ := inv_reader_ids h hr₀ hr
        exact given_all hwf h hr₀ hr (by rw [← parked_congr e1 e2]; exact hp) (by rw [hw]; rfl) hl
    exact Or.inl ⟨hg, by rw [← hg]; exact (h.cons i r hr).2.2⟩
  · exact Or.inr hl

end

/-! ### Progress of a reader that runs alone from a reachable state -/

/-- what reader `ρ` can still obtain without waiting: packets on the transport plus its parked packets -/
def mu (s : Sys) (ρ : Reader) : Nat := s.wire.length + (parked s.store ρ).length

section
variable {sys₀ s : Sys} {i : Nat} {r₀ r : Reader}

/-- an enabled step of reader `i` either consumes something (`mu` decreases), or is the pre-check
    entering the loop, or finds nothing at all (`mu = 0`) and changes nothing -/
theorem step_enabled_mu (hwf : WellFormed sys₀) (h : Inv sys₀ s) (hr₀ : sys₀.readers[i]? = some r₀)
    (hr : s.readers[i]? = some r) {c : Choice} (hen : Enabled c i r) :
    mu (step s c) r₀ + 1 ≤ mu s r₀
    ∨ (c = .pre i ∧ step s c = { s with readers := s.readers.set i { r with inLoop := true } })
    ∨ (mu s r₀ = 0 ∧ step s c = s) := by
  obtain ⟨e1, e2⟩ := inv_reader_ids h hr₀ hr
  have hpar : ∀ st, parked st r₀ = parked st r := fun st => (parked_congr e1 e2 st).symm
  rcases step_enabled hwf h hr hen with ⟨p, rest, st', ht, he⟩ |
    ⟨hpe, ⟨hc, he⟩ | ⟨_, hw, he⟩ | ⟨_, p, rest, hw, hown, he⟩ | ⟨_, p, rest, hw, hown, hk, he⟩ |
      ⟨_, p, rest, hw, _, _, _, he⟩⟩
  · left
    rw [he]
    simp only [mu, hpar]
    rw [ht.self r rfl rfl, ht.head, List.length_cons]
    have : (if p.cmd = Cmd.CLSE then [] else rest).length ≤ rest.length := by split <;> simp
    omega
  · exact Or.inr (Or.inl ⟨hc, he⟩)
  · exact Or.inr (Or.inr ⟨by simp [mu, hpar, hw, hpe], he⟩)
  · left
    rw [he]
    simp only [mu, hpar]
    rw [parked_afterOwn h.store.1, hpe, ite_self, hw]
    exact Nat.le_refl _
  · left
    rw [he]
    simp only [mu, hpar]
    rw [parked_put hk, hown, if_neg Bool.false_ne_true, hw, List.length_cons]
    omega
  · left
    rw [he]
    simp only [mu, hw, List.length_cons]
    omega

theorem not_enabled_all {c : Choice} (hr : s.readers[i]? = some r)
    (hc : c = .pre i ∨ c = .iter i) (hne : ¬ Enabled c i r) :
    ∀ j rj, s.readers[j]? = some rj → ¬ Enabled c j rj := by
  intro j rj hrj hen
  have hji : j = i := by
    rcases hc with hc | hc <;> rcases hen.2 with ⟨e, _⟩ | ⟨e, _⟩ <;> rw [hc] at e <;> cases e <;> rfl
  subst hji
  rw [hr] at hrj
  cases hrj
  exact hne hen

theorem step_of_done {c : Choice} (hr : s.readers[i]? = some r) (hd : r.done = true)
    (hc : c = .pre i ∨ c = .iter i) : step s c = s :=
  step_disabled c (not_enabled_all hr hc fun hen => by rw [hen.1] at hd; cases hd)

theorem step_mu_le (hwf : WellFormed sys₀) (h : Inv sys₀ s) (hr₀ : sys₀.readers[i]? = some r₀)
    (hr : s.readers[i]? = some r) {c : Choice} (hc : c = .pre i ∨ c = .iter i) :
    mu (step s c) r₀ ≤ mu s r₀ := by
  by_cases hen : Enabled c i r
  · rcases step_enabled_mu hwf h hr₀ hr hen with h1 | ⟨_, he⟩ | ⟨_, he⟩
    · omega
    · rw [he]; exact Nat.le_refl _
    · rw [he]; exact Nat.le_refl _
  · rw [step_disabled c (not_enabled_all hr hc hen)]
    exact Nat.le_refl _

theorem pair_mu (hwf : WellFormed sys₀) (h : Inv sys₀ s) (hr₀ : sys₀.readers[i]? = some r₀)
    (hr : s.readers[i]? = some r) (hd : r.done = false) :
    mu (step (step s (.pre i)) (.iter i)) r₀ + 1 ≤ mu s r₀ ∨ mu (step (step s (.pre i)) (.iter i)) r₀ = 0 := by
  have iter : ∀ {t : Sys} {rt : Reader}, Inv sys₀ t → t.readers[i]? = some rt → rt.done = false →
      rt.inLoop = true → mu (step t (.iter i)) r₀ + 1 ≤ mu t r₀ ∨ mu (step t (.iter i)) r₀ = 0 := by
    intro t rt ht hrt hdt hl
    rcases step_enabled_mu hwf ht hr₀ hrt ⟨hdt, Or.inr ⟨rfl, hl⟩⟩ with ha | ⟨hx, _⟩ | ⟨h0, he⟩
    · exact Or.inl ha
    · cases hx
    · rw [he]; exact Or.inr h0
  cases hl : r.inLoop with
  | true =>
    have hne : ¬ Enabled (.pre i) i r := by
      rintro ⟨_, ⟨_, e⟩ | ⟨e, _⟩⟩
      · rw [hl] at e; cases e
      · cases e
    rw [step_disabled _ (not_enabled_all hr (Or.inl rfl) hne)]
    exact iter h hr hd hl
  | false =>
    have h1 := step_inv hwf h (.pre i)
    rcases step_enabled_mu hwf h hr₀ hr ⟨hd, Or.inl ⟨rfl, hl⟩⟩ with ha | ⟨_, he⟩ | ⟨h0, he⟩
    · obtain ⟨r1, hr1, _⟩ := inv_reader h1 hr₀
      have := step_mu_le hwf h1 hr₀ hr1 (c := .iter i) (Or.inr rfl)
      omega
    · rw [he] at h1 ⊢
      exact iter h1 (getElem?_set_self' hr) hd rfl
    · rw [he]
      have := step_mu_le hwf h hr₀ hr (c := .iter i) (Or.inr rfl)
      omega

theorem soloSched_succ (i n : Nat) : soloSched i (n + 1) = [Choice.pre i, Choice.iter i] ++ soloSched i n := by
  simp [soloSched, List.replicate_succ]

theorem run_solo_done (hr : s.readers[i]? = some r) (hd : r.done = true) (n : Nat) :
    run s (soloSched i n) = s := by
  induction n with
  | zero => rfl
  | succ n ih =>
    rw [soloSched_succ, run_append]
    show run (step (step s (.pre i)) (.iter i)) (soloSched i n) = s
    rw [step_of_done hr hd (Or.inl rfl), step_of_done hr hd (Or.inr rfl), ih]

theorem solo_progress (hwf : WellFormed sys₀) (hr₀ : sys₀.readers[i]? = some r₀) : ∀ (n : Nat) (s : Sys),
    Inv sys₀ s → mu s r₀ ≤ n →
    ∃ r', (run s (soloSched i n)).readers[i]? = some r' ∧ Sat (run s (soloSched i n)) r' := by
  intro n
  induction n with
  | zero =>
    intro s h hmu
    obtain ⟨r, hr, e1, e2⟩ := inv_reader h hr₀
    refine ⟨r, hr, Or.inr ?_⟩
    show s.wire = [] ∧ parked s.store r = []
    rw [parked_congr e1 e2]
    simpa [mu] using hmu
  | succ n ih =>
    intro s h hmu
    obtain ⟨r, hr, _⟩ := inv_reader h hr₀
    rw [soloSched_succ, run_append]
    show ∃ r', (run (step (step s (.pre i)) (.iter i)) (soloSched i n)).readers[i]? = some r' ∧
      Sat (run (step (step s (.pre i)) (.iter i)) (soloSched i n)) r'
    cases hd : r.done with
    | true =>
      rw [step_of_done hr hd (Or.inl rfl), step_of_done hr hd (Or.inr rfl), run_solo_done hr hd]
      exact ⟨r, hr, Or.inl hd⟩
    | false =>
      have := pair_mu hwf h hr₀ hr hd
      exact ih _ (step_inv hwf (step_inv hwf h _) _) (by omega)

end

/-! ### The abstract lock-order model -/

/-- a thread: the locks it holds and the lock it is waiting for (`none`: it can run) -/
structure Thr where
  holding : List Nat
  wants : Option Nat
  deriving Repr, DecidableEq

/-- nested sections respect the rank order: a thread only requests a lock of rank greater than every lock it holds -/
def Thr.Ordered (t : Thr) : Prop := ∀ l, t.wants = some l → ∀ h ∈ t.holding, h < l

/-- thread `i` waits for a lock that another thread holds -/
def Blocked (cfg : List Thr) (i : Nat) : Prop :=
  ∃ t l, cfg[i]? = some t ∧ t.wants = some l ∧ ∃ j u, j ≠ i ∧ cfg[j]? = some u ∧ l ∈ u.holding

theorem exists_max {α : Type} (f : α → Nat) : ∀ l : List α, l ≠ [] → ∃ a ∈ l, ∀ b ∈ l, f b ≤ f a
  | [], h => absurd rfl h
  | [a], _ => ⟨a, List.mem_singleton_self a, fun b hb => List.mem_singleton.1 hb ▸ Nat.le_refl _⟩
  | a :: b :: t, _ => by
    obtain ⟨m, hm, hmax⟩ := exists_max f (b :: t) (List.cons_ne_nil _ _)
    by_cases h : f m ≤ f a
    · refine ⟨a, List.mem_cons_self, fun x hx => ?_⟩
      rcases List.mem_cons.1 hx with e | e
      · exact e ▸ Nat.le_refl _
      · exact Nat.le_trans (hmax x e) h
    · refine ⟨m, List.mem_cons_of_mem _ hm, fun x hx => ?_⟩
      rcases List.mem_cons.1 hx with e | e
      · subst e; omega
      · exact hmax x e

end Conc
end Adb
