import AdbProofs.Lemmas.WireLemmas
import AdbProofs.Lemmas.Deliver
import AdbProofs.Properties.C02
/-
  The peer-side frame discipline for C02 at API level.  `Pw s x` says, for every run of `x`:
  the trace only grows, and what the peer received (on all connections, `World.peerAll`) grows by
  exactly the encodings of the messages handed to `_send` during the run (`transmitted` of the new
  events) — all of them packable and complete — except that when `x` RAISED the last transmitted
  message may have reached the peer only as a proper prefix of its encoding (nothing at all when it
  was not packable).  `s = true` ("strict") adds: the list of closed connections did not change.
  With `s = false` the run may have closed the transport, but only on a path that raised.
  Proved once per model function (PeerFrameOps.lean) from the combinators below; `sendRaw` is the
  only function that writes (C15), everything else appends nothing.
-/
namespace Adb

/-- bytes the peer has received on all connections so far, oldest connection first -/
def World.peerAll (w : World) : Bytes := (w.past.reverse).flatten ++ w.peerGot

namespace PeerF

/-- concatenated encodings -/
def flat (ms : List Msg) : Bytes := (ms.map Msg.encode).flatten

@[simp] theorem flat_nil : flat [] = [] := rfl
@[simp] theorem flat_append (a b : List Msg) : flat (a ++ b) = flat a ++ flat b := by simp [flat]
@[simp] theorem flat_singleton (m : Msg) : flat [m] = m.encode := by simp [flat]

/-- the call raised -/
def Failed {α} (r : Except Err α) : Prop := ∃ e, r = .error e

theorem not_failed_ok {α} (a : α) : ¬ Failed (.ok a : Except Err α) := by
  rintro ⟨e, h⟩; cases h
theorem failed_error {α} (e : Err) : Failed (.error e : Except Err α) := ⟨e, rfl⟩

/-- `bs` is whole packable messages, optionally followed by a proper prefix of one more -/
def WellFormedStream (bs : Bytes) : Prop :=
  ∃ ms tail, (∀ m ∈ ms, m.Packable) ∧ bs = flat ms ++ tail ∧
    (tail = [] ∨ ∃ (m : Msg) (k : Nat), m.Packable ∧ k < m.encode.length ∧ tail = m.encode.take k)

/-- Going from received bytes `a` to `b` while handing the messages `T` to `_send`:
    either every message is packable and arrived whole, or (only when `err`) all but the last did and
    the last arrived as a proper prefix (empty if it was not packable). -/
inductive Out (err : Prop) (T : List Msg) (a b : Bytes) : Prop
  | whole (hp : ∀ m ∈ T, m.Packable) (hb : b = a ++ flat T)
  | broken (ms : List Msg) (m : Msg) (k : Nat) (he : err) (hT : T = ms ++ [m]) (hp : ∀ x ∈ ms, x.Packable)
      (hk : k < m.encode.length) (hu : ¬ m.Packable → k = 0) (hb : b = a ++ flat ms ++ m.encode.take k)

theorem Out.nil {err : Prop} (a : Bytes) : Out err [] a a := .whole (by simp) (by simp)

theorem Out.mono {e1 e2 : Prop} {T a b} (h : Out e1 T a b) (he : e1 → e2) : Out e2 T a b := by
  cases h with
  | whole hp hb => exact .whole hp hb
  | broken ms m k h1 hT hp hk hu hb => exact .broken ms m k (he h1) hT hp hk hu hb

/-- a part that did not raise followed by any part -/
theorem Out.trans {err : Prop} {T1 T2 a b c} (h1 : Out False T1 a b) (h2 : Out err T2 b c) :
    Out err (T1 ++ T2) a c := by
  cases h1 with
  | broken _ _ _ he => exact he.elim
  | whole hp1 hb1 =>
    cases h2 with
    | whole hp2 hb2 =>
      exact .whole (List.forall_mem_append.2 ⟨hp1, hp2⟩) (by rw [hb2, hb1, flat_append, List.append_assoc])
    | broken ms m k he hT hp hk hu hb =>
      exact .broken (T1 ++ ms) m k he (by rw [hT, List.append_assoc]) (List.forall_mem_append.2 ⟨hp1, hp⟩) hk hu
        (by rw [hb, hb1, flat_append]; simp only [List.append_assoc])

/-- the bytes added are a well-formed stream -/
theorem Out.wellFormed {err : Prop} {T a b} (h : Out err T a b) : ∃ bs, b = a ++ bs ∧ WellFormedStream bs := by
  cases h with
  | whole hp hb => exact ⟨flat T, hb, T, [], hp, by simp, Or.inl rfl⟩
  | broken ms m k he hT hp hk hu hb =>
    refine ⟨flat ms ++ m.encode.take k, by rw [hb, List.append_assoc], ms, m.encode.take k, hp, rfl, ?_⟩
    by_cases hm : m.Packable
    · exact Or.inr ⟨m, k, hm, hk, rfl⟩
    · left; rw [hu hm]; rfl

/-- no exception: everything arrived whole -/
theorem Out.of_ok {T a b} (h : Out False T a b) : (∀ m ∈ T, m.Packable) ∧ b = a ++ flat T := by
  cases h with
  | whole hp hb => exact ⟨hp, hb⟩
  | broken _ _ _ he => exact he.elim

/-- The per-function predicate (see the header comment). -/
def Pw (s : Bool) {α : Type} (x : M α) : Prop :=
  ∀ w r w', x w = (r, w') →
    ∃ evs, w'.trace = evs ++ w.trace ∧ Out (Failed r) (transmitted evs) w.peerAll w'.peerAll ∧
      (w'.past = w.past ∨ (s = false ∧ Failed r))

theorem peerAll_congr {w w' : World} (h1 : w'.cur = w.cur) (h2 : w'.past = w.past) : w'.peerAll = w.peerAll := by
  simp [World.peerAll, World.peerGot, h1, h2]

/-- `x` changes neither the trace nor the connection nor the list of closed connections -/
theorem Pw_of_same {s α} {x : M α}
    (h : ∀ w, (x w).2.trace = w.trace ∧ (x w).2.cur = w.cur ∧ (x w).2.past = w.past) : Pw s x := by
  intro w r w' hx
  obtain ⟨h1, h2, h3⟩ := h w
  rw [hx] at h1 h2 h3
  refine ⟨[], by simpa using h1, ?_, Or.inl h3⟩
  rw [peerAll_congr h2 h3]
  exact Out.nil _

theorem Pw_pure {s α} (a : α) : Pw s (pure a : M α) := Pw_of_same fun _ => ⟨rfl, rfl, rfl⟩
theorem Pw_Mpure {s α} (a : α) : Pw s (M.pure a : M α) := Pw_of_same fun _ => ⟨rfl, rfl, rfl⟩
theorem Pw_throw {s α} (e : Err) : Pw s (M.throw e : M α) := Pw_of_same fun _ => ⟨rfl, rfl, rfl⟩
theorem Pw_get {s} : Pw s M.get := Pw_of_same fun _ => ⟨rfl, rfl, rfl⟩
theorem Pw_now {s} : Pw s now := Pw_of_same fun _ => ⟨rfl, rfl, rfl⟩
theorem Pw_liftExcept {s α} {x : Except Err α} : Pw s (liftExcept x) := Pw_of_same fun _ => ⟨rfl, rfl, rfl⟩
theorem Pw_elapsedGt {s st l} : Pw s (elapsedGt st l) :=
  Pw_of_same fun w => by unfold elapsedGt; cases l <;> exact ⟨rfl, rfl, rfl⟩
theorem Pw_modify {s} {f : World → World}
    (hf : ∀ w, (f w).trace = w.trace ∧ (f w).cur = w.cur ∧ (f w).past = w.past) : Pw s (M.modify f) :=
  Pw_of_same hf

/-- recording an event that is not a transmission -/
theorem Pw_emit {s e} (he : transmitted [e] = []) : Pw s (emit e) := by
  intro w r w' hx
  simp only [emit_run, Prod.mk.injEq] at hx
  obtain ⟨-, rfl⟩ := hx
  refine ⟨[e], rfl, ?_, Or.inl rfl⟩
  rw [he]
  exact Out.nil _

theorem Pw_bind {s α β} {x : M α} {f : α → M β} (hx : Pw s x) (hf : ∀ a, Pw s (f a)) : Pw s (x >>= f) := by
  intro w r w' h
  rcases bind_any_inv h with ⟨e, he, rfl⟩ | ⟨a, w1, he, hrest⟩
  · obtain ⟨evs, ht, ho, hp⟩ := hx w _ _ he
    exact ⟨evs, ht, ho.mono (fun _ => failed_error e), hp.imp_right fun h => ⟨h.1, failed_error e⟩⟩
  · obtain ⟨e1, ht1, ho1, hp1⟩ := hx w _ _ he
    obtain ⟨e2, ht2, ho2, hp2⟩ := hf a w1 _ _ hrest
    have hp1' : w1.past = w.past := hp1.resolve_right fun h => not_failed_ok a h.2
    refine ⟨e2 ++ e1, by rw [ht2, ht1, List.append_assoc], ?_, hp2.imp_left (·.trans hp1')⟩
    rw [transmitted_append]
    exact Out.trans (ho1.mono (not_failed_ok a)) ho2

theorem Pw_ite {s α} {c : Prop} [Decidable c] {a b : M α} (ha : Pw s a) (hb : Pw s b) :
    Pw s (if c then a else b) := by
  split <;> assumption

theorem Pw_withLock {s α l} {body : M α} (hb : Pw s body) : Pw s (withLock l body) := by
  intro w r w' h
  by_cases hl : l ∈ w.locks
  · rw [withLock_run, if_pos hl] at h
    simp only [Prod.mk.injEq] at h
    obtain ⟨-, rfl⟩ := h
    exact ⟨[], rfl, Out.nil _, Or.inl rfl⟩
  · obtain ⟨w1, hb1, rfl⟩ := withLock_any_inv h hl
    obtain ⟨evs, ht, ho, hp⟩ := hb _ _ _ hb1
    exact ⟨evs, ht, ho, hp⟩

/-! ### the transport and `_send` -/

theorem SameDevice.past_eq {w w' : World} (h : SameDevice w w') : w'.past = w.past := by
  unfold SameDevice at h
  exact h.2.2.2.2.2.2.2.2.2.1

theorem peerAll_of {w w' : World} (hp : w'.past = w.past) : w'.peerAll = (w.past.reverse).flatten ++ w'.peerGot := by
  simp [World.peerAll, hp]

theorem Pw_waitTimeout {s α} (tt : Timeout) : Pw s (waitTimeout tt : M α) :=
  Pw_of_same fun w => by unfold waitTimeout; cases tt <;> exact ⟨rfl, rfl, rfl⟩

/-- a read appends nothing to what the peer has (C03) -/
theorem Pw_bulkRead {s n tt} : Pw s (bulkRead n tt) := by
  intro w r w' h
  obtain ⟨sd, hpg, htr, -, -⟩ := bulkRead_spec n tt w r w' h
  refine ⟨[], by simpa using htr, ?_, Or.inl (SameDevice.past_eq sd)⟩
  have : w'.peerAll = w.peerAll := by rw [peerAll_of (SameDevice.past_eq sd), hpg]; rfl
  rw [this]
  exact Out.nil _

/-- `_write_all` of non-empty data that raises left a PROPER prefix with the peer -/
theorem writeAllLoop_err_strict (t : Txn) (start : Int) (fuel : Nat) (data : Bytes) (w : World)
    (e : Err) (w' : World) (hd : data ≠ []) (h : writeAllLoop t start fuel data w = (.error e, w')) :
    ∃ k, k < data.length ∧ w'.peerGot = w.peerGot ++ data.take k := by
  induction fuel generalizing data w with
  | zero =>
    have hpos : 0 < data.length := List.length_pos_iff.2 hd
    simp only [writeAllLoop, M.throw_run, Prod.mk.injEq] at h
    obtain ⟨-, rfl⟩ := h
    exact ⟨0, hpos, by simp⟩
  | succ fuel ih =>
    have hpos : 0 < data.length := List.length_pos_iff.2 hd
    rw [writeAllLoop, bind_run] at h
    rcases hb : bulkWrite data t.tt w with ⟨r1, w1⟩
    obtain ⟨-, -, -, hsome, -, herr⟩ := bulkWrite_spec _ _ _ _ _ hb
    rw [hb] at h
    cases r1 with
    | error e1 =>
      simp only [Prod.mk.injEq] at h; obtain ⟨-, rfl⟩ := h
      exact ⟨0, hpos, by simp [herr e1 rfl]⟩
    | ok nw =>
      cases nw with
      | none => simp [pure_run] at h
      | some k =>
        obtain ⟨hk, hpg⟩ := hsome k rfl
        simp only at h
        split at h
        · simp [pure_run] at h
        · next hlt =>
          have hlt' : k < data.length := by omega
          rw [timeoutCheck_run] at h
          split at h
          · simp only [Prod.mk.injEq] at h; obtain ⟨-, rfl⟩ := h
            exact ⟨k, hlt', hpg⟩
          · split at h
            · simp only [Prod.mk.injEq] at h; obtain ⟨-, rfl⟩ := h
              exact ⟨k, hlt', hpg⟩
            · have hne : data.drop k ≠ [] := by
                intro h0
                have := congrArg List.length h0
                simp at this; omega
              obtain ⟨k2, hk2, hpg2⟩ := ih _ _ hne h
              simp only [List.length_drop] at hk2
              refine ⟨k + k2, by omega, ?_⟩
              rw [hpg2, hpg, List.append_assoc, List.take_add]

theorem writeAll_err_strict (data : Bytes) (t : Txn) (w : World) (e : Err) (w' : World) (hd : data ≠ [])
    (h : writeAll data t w = (.error e, w')) :
    ∃ k, k < data.length ∧ w'.peerGot = w.peerGot ++ data.take k := by
  simp only [writeAll, bind_run, now_run, M.get_run] at h
  exact writeAllLoop_err_strict _ _ _ _ _ _ _ hd h

/-- `_send` that raises left a PROPER prefix of the encoding with the peer; nothing if not packable -/
theorem sendRaw_err_strict (m : Msg) (t : Txn) (w : World) (e : Err) (w' : World)
    (h : sendRaw m t w = (.error e, w')) :
    ∃ k, k < m.encode.length ∧ (¬ m.Packable → k = 0) ∧ w'.peerGot = w.peerGot ++ m.encode.take k := by
  have hlen : m.packHdr.length = 24 := by simp [Msg.packHdr]
  have henc : m.encode.length = 24 + m.data.length := by simp [Msg.encode, hlen]
  by_cases hp : m.Packable
  · simp only [sendRaw, bind_run, emit_run] at h
    have hpg0 : ({ w with trace := .tx m :: w.trace } : World).peerGot = w.peerGot := rfl
    generalize ({ w with trace := .tx m :: w.trace } : World) = w0 at h hpg0
    unfold Msg.pack? at h
    simp only [hp, if_true] at h
    rcases h1 : writeAll m.packHdr t w0 with ⟨r1, w1⟩
    rw [bind_run, h1] at h
    cases r1 with
    | error e1 =>
      simp only [Prod.mk.injEq] at h; obtain ⟨-, rfl⟩ := h
      have hne : m.packHdr ≠ [] := by intro h0; rw [h0] at hlen; simp at hlen
      obtain ⟨k1, hk1, hpg1⟩ := writeAll_err_strict _ _ _ _ _ hne h1
      refine ⟨k1, by omega, fun hn => (hn hp).elim, ?_⟩
      rw [hpg1, hpg0, Msg.encode, List.take_append_of_le_length (by omega)]
    | ok u =>
      have hpg1 := (writeAll_spec _ _ _ _ _ h1).2.2.2.2 rfl
      simp only at h
      by_cases hd : m.data.isEmpty
      · simp [hd, pure_run] at h
      · simp only [hd, Bool.not_false, if_true] at h
        have hne : m.data ≠ [] := by simpa using hd
        obtain ⟨k2, hk2, hpg2⟩ := writeAll_err_strict _ _ _ _ _ hne h
        refine ⟨24 + k2, by omega, fun hn => (hn hp).elim, ?_⟩
        rw [hpg2, hpg1, hpg0, Msg.encode, List.append_assoc, ← hlen, List.take_length_add_append]
  · rw [C15_unpackable m t w hp] at h
    simp only [Prod.mk.injEq] at h
    obtain ⟨-, rfl⟩ := h
    exact ⟨0, by omega, fun _ => rfl, by simp; rfl⟩
where
  C15_unpackable (m : Msg) (t : Txn) (w : World) (hp : ¬ m.Packable) :
      sendRaw m t w = (.error .pyStructError, { w with trace := .tx m :: w.trace }) := by
    simp [sendRaw, bind_run, Msg.pack?, hp]

/-- `_send` is the one function that writes: the whole encoding of a packable message on a normal
    return, a proper prefix of it when it raises (C15) -/
theorem Pw_sendRaw {s m t} : Pw s (sendRaw m t) := by
  intro w r w' h
  obtain ⟨sd, -, htr, -, hok⟩ := sendRaw_spec m t w r w' h
  have hpast := SameDevice.past_eq sd
  refine ⟨[.tx m], by simp [htr], ?_, Or.inl hpast⟩
  have hT : transmitted [TEv.tx m] = [m] := rfl
  rw [hT, peerAll_of hpast]
  cases r with
  | ok u =>
    obtain ⟨hp, hpg⟩ := hok rfl
    refine .whole (by simpa using hp) ?_
    rw [hpg, flat_singleton, World.peerAll, List.append_assoc]
  | error e =>
    obtain ⟨k, hk, hu, hpg⟩ := sendRaw_err_strict m t w e w' h
    refine .broken [] m k (failed_error e) rfl (by simp) hk hu ?_
    rw [hpg, World.peerAll]
    simp [List.append_assoc]

end PeerF
end Adb
