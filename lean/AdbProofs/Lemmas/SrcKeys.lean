import AdbProofs.Lemmas.SrcEnc
import AdbModel.Generated.Src
import AdbProofs.Lemmas.KeysLemmas
import Mathlib.Data.Int.GCD
/-
  Lemmas behind C17Src (tie of auth/keygen.py's `_to_bytes` / arithmetic of `encode_pubkey` to the model `Adb.Keys`, by proof):
  the big-integer helpers of `AdbModel/Py.lean` evaluated on naturals, `Py.leBytesN = Keys.leBytes`, `Py.xgcdAux = Nat.xgcdAux`
  (hence `rsa._modinv(a, 2**32) = Keys.inv32 a` for odd `a`, by uniqueness of the inverse), and `struct.pack` of the public-key format.
  Generated definitions are only unfolded by name.
-/
set_option linter.unusedSimpArgs false
namespace Adb
open Py Keys

/-! ### `to_bytes` -/

theorem Py.leBytesN_eq : ∀ (len n : Nat), Py.leBytesN len n = leBytes len n
  | 0, _ => rfl
  | len + 1, n => by simp only [Py.leBytesN, leBytes, Py.leBytesN_eq len]

theorem Py.natOf_nat (v : Nat) : Py.natOf (.int (v : Int)) = .ok v := by
  simp [Py.natOf, Py.asInt, bind, Except.bind, pure, Except.pure]

theorem Py.intToBytes_little (v len : Nat) :
    Py.intToBytes (.int v) (.int len) (.str "little")
      = if v < 256 ^ len then .ok (.bytes (leBytes len v)) else .error .overflowError := by
  simp only [Py.intToBytes, Py.natOf_nat, pysimp, Py.leBytesN_eq]
  by_cases h : v < 256 ^ len <;> simp [h]

theorem Py.intToBytes_big (v len : Nat) :
    Py.intToBytes (.int v) (.int len) (.str "big")
      = if v < 256 ^ len then .ok (.bytes (i2osp len v)) else .error .overflowError := by
  simp only [Py.intToBytes, Py.natOf_nat, pysimp, Py.leBytesN_eq, i2osp]
  by_cases h : v < 256 ^ len <;> simp [h]

theorem Src.keygen_to_bytes_little (v len : Nat) :
    Src.keygen_to_bytes (.int v) (.int len) (.str "little")
      = if v < 256 ^ len then .ok (.bytes (leBytes len v)) else .error .overflowError := by
  simp only [Src.keygen_to_bytes, Py.hasToBytes, pysimp, Py.intToBytes_little]

theorem Src.keygen_to_bytes_big (v len : Nat) :
    Src.keygen_to_bytes (.int v) (.int len) (.str "big")
      = if v < 256 ^ len then .ok (.bytes (i2osp len v)) else .error .overflowError := by
  simp only [Src.keygen_to_bytes, Py.hasToBytes, pysimp, Py.intToBytes_big]

/-! ### extended Euclid -/

theorem Py.xgcdAux_eq (r : Nat) : ∀ (s t : Int) (r' : Nat) (s' t' : Int),
    Py.xgcdAux r s t r' s' t' = Nat.xgcdAux r s t r' s' t' := by
  induction r using Nat.strong_induction_on with
  | _ r ih =>
    intro s t r' s' t'
    cases r with
    | zero => rw [Py.xgcdAux, Nat.xgcd_zero_left]
    | succ k =>
      rw [Py.xgcdAux, Nat.xgcdAux_rec (Nat.succ_pos k)]
      rw [ih _ (Nat.mod_lt _ (Nat.succ_pos k))]
      simp only [Int.natCast_ediv, Nat.succ_eq_add_one]

theorem Py.gcdA_eq (a b : Nat) : Py.gcdA a b = Nat.gcdA a b := by
  simp only [Py.gcdA, Nat.gcdA, Nat.xgcd, Py.xgcdAux_eq]

/-- the reduced Bezout coefficient is an inverse -/
theorem Py.gcdA_emod_inverse (a m : Nat) (hm : 0 < m) (hg : Nat.gcd a m = 1) :
    ∃ x : Nat, Int.emod (Py.gcdA a m) (m : Int) = (x : Int) ∧ x < m ∧ a * x % m = 1 % m := by
  have hb := Nat.gcd_eq_gcd_ab a m
  rw [hg, ← Py.gcdA_eq] at hb
  generalize Py.gcdA a m = g at hb
  generalize Nat.gcdB a m = B at hb
  have hm' : (0 : Int) < (m : Int) := by exact_mod_cast hm
  have h0 : 0 ≤ g % (m : Int) := Int.emod_nonneg _ (by omega)
  have h1 : g % (m : Int) < m := Int.emod_lt_of_pos _ hm'
  refine ⟨(g % (m : Int)).toNat, ?_, ?_, ?_⟩
  · show g % (m : Int) = _
    omega
  · omega
  · have e : ((a * (g % (m : Int)).toNat : Nat) : Int) % (m : Int) = ((1 : Nat) : Int) % (m : Int) := by
      rw [Nat.cast_mul, Int.toNat_of_nonneg h0, Int.mul_emod, Int.emod_emod_of_dvd _ (dvd_refl _), ← Int.mul_emod]
      have : (a : Int) * g = 1 - m * B := by rw [Nat.cast_one] at hb; omega
      rw [this, Nat.cast_one, Int.sub_mul_emod_self_left]
    exact_mod_cast e

/-! ### arithmetic on naturals -/

theorem Py.mul_int (a b : Int) : Py.mul (.int a) (.int b) = .ok (.int (a * b)) := by
  simp [Py.mul, Py.asInt, bind, Except.bind, pure, Except.pure]

theorem Py.mod_nat (a b : Nat) (hb : b ≠ 0) : Py.mod (.int a) (.int b) = .ok (.int ((a % b : Nat) : Int)) := by
  have hb' : ¬ (b : Int) = 0 := by omega
  simp only [Py.mod, Py.asInt, pysimp, hb', if_false]
  rw [Int.fmod_eq_emod_of_nonneg _ (by omega)]
  rfl

theorem Py.shl_nat (a b : Nat) : Py.shl (.int a) (.int b) = .ok (.int ((a <<< b : Nat) : Int)) := by
  simp only [Py.shl, Py.natOf_nat, pysimp]

theorem Py.shl_one_nat (b : Nat) : Py.shl (.int 1) (.int b) = .ok (.int ((2 ^ b : Nat) : Int)) := by
  have h := Py.shl_nat 1 b
  rw [Nat.one_shiftLeft] at h
  exact h

theorem Py.pow_nat (a b : Nat) : Py.pow (.int a) (.int b) = .ok (.int ((a ^ b : Nat) : Int)) := by
  simp only [Py.pow, Py.natOf_nat, pysimp]

theorem Py.modinv_nat (a b : Nat) (hb : b ≠ 0) :
    Py.modinv (.int a) (.int b) = .ok (.int (Int.emod (Py.gcdA a b) (b : Int))) := by
  simp only [Py.modinv, Py.natOf_nat, pysimp, hb, if_false]

/-- for odd `a`, `rsa._modinv(a, 2**32)` is the model's `inv32 a` -/
theorem Py.modinv_odd32 (a : Nat) (ha : a % 2 = 1) :
    Py.modinv (.int a) (.int 4294967296) = .ok (.int ((inv32 a : Nat) : Int)) := by
  have hc2 : Nat.Coprime 2 a := (Nat.Prime.coprime_iff_not_dvd Nat.prime_two).2 (by omega)
  have hc : Nat.gcd a (2 ^ 32) = 1 := (Nat.Coprime.pow_left 32 hc2).symm
  obtain ⟨x, hx, hlt, hinv⟩ := Py.gcdA_emod_inverse a (2 ^ 32) (by norm_num) hc
  have hi := inv32_spec ha
  have hil := inv32_lt a
  have heq : a * x ≡ a * inv32 a [MOD 2 ^ 32] := by
    unfold Nat.ModEq; rw [hinv, hi]; norm_num
  have hxe : x = inv32 a := by
    have := Nat.ModEq.cancel_left_of_coprime (by rw [Nat.gcd_comm]; exact hc) heq
    unfold Nat.ModEq at this
    rwa [Nat.mod_eq_of_lt hlt, Nat.mod_eq_of_lt hil] at this
  have := Py.modinv_nat a (2 ^ 32) (by norm_num)
  rw [hx, hxe] at this
  exact this

theorem Py.mul_nat (a b : Nat) : Py.mul (.int a) (.int b) = .ok (.int ((a * b : Nat) : Int)) := by
  rw [Py.mul_int, Nat.cast_mul]

/-! ### `struct.pack` of the public-key format -/

theorem Py.packItems_nil : Py.packItems [] [] = .ok [] := by
  simp only [Py.packItems, pysimp]

theorem Py.packItems_u32 (x : Nat) (hx : x < 2 ^ 32) (is : List Py.FmtItem) (vs : List Py.Val) (r : Bytes)
    (h : Py.packItems is vs = .ok r) :
    Py.packItems (.u32 :: is) (.int (x : Int) :: vs) = .ok (le32 x ++ r) := by
  have h1 : (0 : Int) ≤ (x : Int) ∧ (x : Int) < 4294967296 := by omega
  simp only [Py.packItems, h1, h, pysimp, and_self, if_true, Int.toNat_natCast]

theorem Py.packItems_bytesN (k : Nat) (b : Bytes) (hb : b.length = k) (is : List Py.FmtItem) (vs : List Py.Val) (r : Bytes)
    (h : Py.packItems is vs = .ok r) :
    Py.packItems (.bytesN k :: is) (.bytes b :: vs) = .ok (b ++ r) := by
  subst hb
  simp only [Py.packItems, h, pysimp, List.take_length, Nat.sub_self, List.replicate_zero, List.append_nil]

theorem Src.pubkey_struct_items :
    ∃ fb, Py.fmtBytes Src.const_ANDROID_RSAPUBLICKEY_STRUCT = .ok fb
      ∧ Py.parseFmtG fb = some [.u32, .u32, .bytesN modSize, .bytesN modSize, .u32] :=
  ⟨_, rfl, by decide⟩

theorem Src.structPackG_pubkey (w i e : Nat) (a b : Bytes) (hw : w < 2 ^ 32) (hi : i < 2 ^ 32) (he : e < 2 ^ 32)
    (ha : a.length = modSize) (hb : b.length = modSize) :
    Py.structPackG Src.const_ANDROID_RSAPUBLICKEY_STRUCT [.int w, .int i, .bytes a, .bytes b, .int e]
      = .ok (.bytes (le32 w ++ le32 i ++ a ++ b ++ le32 e)) := by
  have hk := Py.packItems_u32 w hw _ _ _ (Py.packItems_u32 i hi _ _ _ (Py.packItems_bytesN modSize a ha _ _ _
    (Py.packItems_bytesN modSize b hb _ _ _ (Py.packItems_u32 e he _ _ _ Py.packItems_nil))))
  obtain ⟨fb, hf, hp⟩ := Src.pubkey_struct_items
  simp only [Py.structPackG, hf, hp, hk, pysimp, List.append_assoc, List.append_nil]

end Adb
