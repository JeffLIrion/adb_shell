import AdbProofs.Lemmas.DeviceRuns
/-
  Noninterference for C12.  `Agree m s w₁ w₂`: the two worlds are equal except for `past` and
  `trace` (ghost fields nobody reads) and — when the flag `m` resp. `s` is `false` — `maxdata` resp.
  `sink`.  `Ins m s x` ("x is insensitive"): started in two agreeing worlds, `x` returns the same
  result, ends in agreeing worlds and prepends the SAME events to both traces.  Proved once per
  model function, bottom-up.  A primitive that touches none of the four fields is insensitive by
  `Ins_of_silent`; a `do` block by composition, and its proof follows the block: one `Ins_bind` per
  statement, one `Ins_ite` per `if`, a case distinction per `match`.  (`if c then M.throw e` followed
  by more statements elaborates to `if c then M.throw e >>= rest else rest ()`, and `M.throw e >>= rest`
  is `M.throw e` by computation.)

  * wire / stream / FileSync record layer: `Ins m s` for every `m s` (they read neither `maxdata` nor `sink`);
  * functions that read `maxdata` (`devList`, `devStat`, `pushOne`, `pushFile`, …): `Ins true s`;
  * functions that read `sink` (`pullLoop`, `pullInner`): `Ins true true`; `devPull` first sets
    `sink := some []`, so it is `Ins true s` again.
-/
namespace Adb.Reset
open Adb

structure Agree (m s : Bool) (w₁ w₂ : World) : Prop where
  conns : w₁.conns = w₂.conns
  cur : w₁.cur = w₂.cur
  now : w₁.now = w₂.now
  fuel : w₁.fuel = w₂.fuel
  store : w₁.store = w₂.store
  available : w₁.available = w₂.available
  localId : w₁.localId = w₂.localId
  banner : w₁.banner = w₂.banner
  defaultTT : w₁.defaultTT = w₂.defaultTT
  locks : w₁.locks = w₂.locks
  files : w₁.files = w₂.files
  dirs : w₁.dirs = w₂.dirs
  maxdata : m = true → w₁.maxdata = w₂.maxdata
  sink : s = true → w₁.sink = w₂.sink

theorem Agree.refl (m s : Bool) (w : World) : Agree m s w w :=
  ⟨rfl, rfl, rfl, rfl, rfl, rfl, rfl, rfl, rfl, rfl, rfl, rfl, fun _ => rfl, fun _ => rfl⟩

/-- fewer obligations -/
theorem Agree.weaken {m s : Bool} {w₁ w₂ : World} (h : Agree true true w₁ w₂) : Agree m s w₁ w₂ :=
  { h with maxdata := fun _ => h.maxdata rfl, sink := fun _ => h.sink rfl }

/-- the second world is the first one with other values in the four free fields -/
theorem Agree.eq {m s : Bool} {w₁ w₂ : World} (h : Agree m s w₁ w₂) :
    w₂ = { w₁ with past := w₂.past, trace := w₂.trace, maxdata := w₂.maxdata, sink := w₂.sink } := by
  obtain ⟨h1, h2, h3, h4, h5, h6, h7, h8, h9, h10, h11, h12, -, -⟩ := h
  cases w₁; cases w₂
  simp only at h1 h2 h3 h4 h5 h6 h7 h8 h9 h10 h11 h12
  subst h1 h2 h3 h4 h5 h6 h7 h8 h9 h10 h11 h12
  rfl

/-- the same events were prepended to both traces -/
def SameNew (w₁ w₂ w₁' w₂' : World) : Prop := ∃ evs, w₁'.trace = evs ++ w₁.trace ∧ w₂'.trace = evs ++ w₂.trace

theorem SameNew.refl (w₁ w₂ : World) : SameNew w₁ w₂ w₁ w₂ := ⟨[], rfl, rfl⟩

theorem SameNew.trans {a₁ a₂ b₁ b₂ c₁ c₂ : World} (h1 : SameNew a₁ a₂ b₁ b₂) (h2 : SameNew b₁ b₂ c₁ c₂) :
    SameNew a₁ a₂ c₁ c₂ := by
  obtain ⟨e1, p1, q1⟩ := h1
  obtain ⟨e2, p2, q2⟩ := h2
  exact ⟨e2 ++ e1, by rw [p2, p1, List.append_assoc], by rw [q2, q1, List.append_assoc]⟩

/-- `x₁` and `x₂` behave alike on agreeing worlds -/
def Ins2 (m s : Bool) {α : Type} (x₁ x₂ : M α) : Prop :=
  ∀ w₁ w₂, Agree m s w₁ w₂ →
    (x₁ w₁).1 = (x₂ w₂).1 ∧ Agree m s (x₁ w₁).2 (x₂ w₂).2 ∧ SameNew w₁ w₂ (x₁ w₁).2 (x₂ w₂).2

/-- `x` is insensitive to the free fields -/
def Ins (m s : Bool) {α : Type} (x : M α) : Prop := Ins2 m s x x

section
variable {m s : Bool}

/-- `x` neither reads nor writes any of the four free fields -/
theorem Ins_of_silent {α} {x : M α}
    (h : ∀ w p tr md sk, x { w with past := p, trace := tr, maxdata := md, sink := sk } =
      Prod.map id (fun v => { v with past := p, trace := tr, maxdata := md, sink := sk }) (x w)) : Ins m s x := by
  intro w₁ w₂ ha
  have hw := congrArg Prod.snd (h w₁ w₁.past w₁.trace w₁.maxdata w₁.sink)
  rw [ha.eq, h w₁ w₂.past w₂.trace w₂.maxdata w₂.sink]
  exact ⟨rfl, { Agree.refl m s (x w₁).2 with
      maxdata := fun hm => (congrArg World.maxdata hw :).trans (ha.maxdata hm)
      sink := fun hs => (congrArg World.sink hw :).trans (ha.sink hs) },
    [], (congrArg World.trace hw :), rfl⟩

theorem Ins_pure {α} (a : α) : Ins m s (pure a : M α) := Ins_of_silent fun _ _ _ _ _ => rfl
theorem Ins_Mpure {α} (a : α) : Ins m s (M.pure a : M α) := Ins_of_silent fun _ _ _ _ _ => rfl
theorem Ins_throw {α} (e : Err) : Ins m s (M.throw e : M α) := Ins_of_silent fun _ _ _ _ _ => rfl
theorem Ins_now : Ins m s now := Ins_of_silent fun _ _ _ _ _ => rfl
theorem Ins_liftExcept {α} (x : Except Err α) : Ins m s (liftExcept x) := Ins_of_silent fun _ _ _ _ _ => rfl
theorem Ins_elapsedGt (st : Int) (l : Timeout) : Ins m s (elapsedGt st l) :=
  Ins_of_silent fun _ _ _ _ _ => by cases l <;> rfl

theorem Ins_emit (e : TEv) : Ins m s (emit e) :=
  fun _ _ h => ⟨rfl, { h with }, [e], rfl, rfl⟩

/-- the two runs, named: same result `r`, agreeing final worlds `v₁`, `v₂` -/
theorem Ins.run {α} {x : M α} (hx : Ins m s x) {w₁ w₂ : World} (h : Agree m s w₁ w₂) :
    ∃ r v₁ v₂, x w₁ = (r, v₁) ∧ x w₂ = (r, v₂) ∧ Agree m s v₁ v₂ ∧ SameNew w₁ w₂ v₁ v₂ := by
  obtain ⟨h1, h2, h3⟩ := hx w₁ w₂ h
  exact ⟨_, _, _, rfl, by rw [h1], h2, h3⟩

theorem Ins_bind {α β} {x : M α} {f : α → M β} (hx : Ins m s x) (hf : ∀ a, Ins m s (f a)) : Ins m s (x >>= f) := by
  intro w₁ w₂ h
  obtain ⟨r, v₁, v₂, e₁, e₂, h2, h3⟩ := hx.run h
  rw [bind_run, bind_run, e₁, e₂]
  cases r with
  | error e => exact ⟨rfl, h2, h3⟩
  | ok a =>
    obtain ⟨g1, g2, g3⟩ := hf a v₁ v₂ h2
    exact ⟨g1, g2, h3.trans g3⟩

theorem Ins_get_bind_of {β} {f : World → M β} (hf : ∀ w, Ins m s (f w))
    (he : ∀ w₁ w₂, Agree m s w₁ w₂ → f w₂ = f w₁) : Ins m s (M.get >>= f) := by
  intro w₁ w₂ h
  simp only [bind_run, M.get_run]
  rw [he w₁ w₂ h]
  exact hf w₁ w₁ w₂ h

/-- `let w ← get; f w` where `f` does not look at the free fields of `w` -/
theorem Ins_get_bind {β} {f : World → M β} (hf : ∀ w, Ins m s (f w))
    (hi : ∀ w p tr md sk, f { w with past := p, trace := tr, maxdata := md, sink := sk } = f w) :
    Ins m s (M.get >>= f) :=
  Ins_get_bind_of hf fun w₁ w₂ h => by rw [h.eq]; exact hi w₁ _ _ _ _

/-- `let w ← get; f w` where `f` may look at `maxdata` (so `maxdata` must agree) -/
theorem Ins_get_bind_m {β} {f : World → M β} (hf : ∀ w, Ins true s (f w))
    (hi : ∀ w p tr sk, f { w with past := p, trace := tr, sink := sk } = f w) :
    Ins true s (M.get >>= f) :=
  Ins_get_bind_of hf fun w₁ w₂ h => by rw [h.eq, ← h.maxdata rfl]; exact hi w₁ _ _ _

theorem Ins_ite {α} {c : Prop} [Decidable c] {a b : M α} (ha : Ins m s a) (hb : Ins m s b) :
    Ins m s (if c then a else b) := by
  split <;> assumption

/-- `let a ← if c then x else y; jp a`, as `do` elaborates it: both branches continue with the same join point -/
theorem Ins_ite_bind {α β} {c : Prop} [Decidable c] {x y : M α} {jp : α → M β} (hx : Ins m s x) (hy : Ins m s y)
    (hj : ∀ a, Ins m s (jp a)) : Ins m s (if c then x >>= jp else y >>= jp) :=
  Ins_ite (Ins_bind hx hj) (Ins_bind hy hj)

/-- `if c then x; rest`, as `do` elaborates it -/
theorem Ins_ite_jp {β} {c : Prop} [Decidable c] {x : M Unit} {jp : Unit → M β} (hx : Ins m s x) (hj : Ins m s (jp ())) :
    Ins m s (if c then x >>= jp else jp ()) :=
  Ins_ite (Ins_bind hx fun _ => hj) hj

theorem Ins_withLock {α} (l : Nat) {body : M α} (hb : Ins m s body) : Ins m s (withLock l body) := by
  intro w₁ w₂ h
  rw [withLock_run, withLock_run, ← h.locks]
  split
  · exact ⟨rfl, h, SameNew.refl _ _⟩
  · obtain ⟨g1, g2, g3⟩ := hb { w₁ with locks := l :: w₁.locks } { w₂ with locks := l :: w₁.locks } { h with locks := rfl }
    exact ⟨g1, { g2 with locks := congrArg (List.erase · l) g2.locks }, g3⟩

theorem Ins_swallow {x : M Unit} (hx : Ins m s x) : Ins m s (M.swallow x) := by
  intro w₁ w₂ h
  obtain ⟨-, g2, g3⟩ := hx w₁ w₂ h
  exact ⟨rfl, g2, g3⟩

theorem Ins_tryFinally {α} {x : M α} {fin : M Unit} (hx : Ins m s x) (hf : Ins m s fin) :
    Ins m s (M.tryFinally x fin) := by
  intro w₁ w₂ h
  obtain ⟨r, v₁, v₂, e₁, e₂, h2, h3⟩ := hx.run h
  obtain ⟨q, u₁, u₂, f₁, f₂, g2, g3⟩ := hf.run h2
  rw [tryFinally_run, tryFinally_run, e₁, e₂, f₁, f₂]
  exact ⟨rfl, g2, h3.trans g3⟩

/-- a state update that keeps agreement and does not touch the trace -/
theorem Ins_modify {f : World → World} (hf : ∀ w₁ w₂, Agree m s w₁ w₂ → Agree m s (f w₁) (f w₂))
    (ht : ∀ w, (f w).trace = w.trace) : Ins m s (M.modify f) := by
  intro w₁ w₂ h
  exact ⟨rfl, hf w₁ w₂ h, [], by simp [ht], by simp [ht]⟩

/-! ### the transport -/

theorem Ins_waitTimeout {α} (tt : Timeout) : Ins m s (waitTimeout tt : M α) :=
  Ins_of_silent fun _ _ _ _ _ => by cases tt <;> rfl

/-- a computation that only reads and writes the open connection and the clock -/
theorem Ins_of_local {α} {x : M α} (h : Local x) : Ins m s x :=
  Ins_of_silent fun w p tr md sk => by
    obtain ⟨r, c', now', h⟩ := h w.cur w.now
    exact (h { w with past := p, trace := tr, maxdata := md, sink := sk }).trans (by rw [h w]; rfl)

theorem Ins_bulkRead (n : Nat) (tt : Timeout) : Ins m s (bulkRead n tt) := Ins_of_local (bulkRead_local n tt)
theorem Ins_bulkWrite (d : Bytes) (tt : Timeout) : Ins m s (bulkWrite d tt) := Ins_of_local (bulkWrite_local d tt)

/-- `transport.close()` is the one place where `past` grows — a free field -/
theorem Ins_tClose : Ins m s tClose := by
  intro w₁ w₂ h
  rw [tClose_run, tClose_run]
  exact ⟨rfl, { h with cur := rfl }, [.tclose], rfl, rfl⟩

theorem Ins_tConnect (tt : Timeout) : Ins m s (tConnect tt) := by
  intro w₁ w₂ h
  rw [tConnect_run, tConnect_run, ← h.conns, ← h.cur]
  exact ⟨rfl, { h with conns := rfl, cur := rfl }, [.tconnect], rfl, rfl⟩

/-! ### `_AdbIOManager` -/

theorem Ins_readBytesLoop (t : Txn) (start : Int) : ∀ fuel rem acc, Ins m s (readBytesLoop t start fuel rem acc)
  | 0, _, _ => Ins_throw _
  | fuel + 1, _, _ =>
    Ins_ite (Ins_pure _) <| Ins_bind (Ins_emit _) fun _ => Ins_bind (Ins_bulkRead _ _) fun _ =>
      Ins_ite (Ins_pure _) <| Ins_bind (Ins_elapsedGt _ _) fun _ =>
        Ins_ite (Ins_throw _) (Ins_readBytesLoop t start fuel _ _)

theorem Ins_readBytes (n : Nat) (t : Txn) : Ins m s (readBytes n t) :=
  Ins_bind Ins_now fun start => Ins_get_bind (fun w => Ins_readBytesLoop t start w.fuel n []) fun _ _ _ _ _ => rfl

theorem Ins_readPacket (t : Txn) : Ins m s (readPacket t) := by
  refine Ins_bind (Ins_readBytes _ t) fun msg => ?_
  split
  · exact Ins_throw _
  split
  · exact Ins_throw _
  exact Ins_ite (Ins_pure _) <| Ins_bind (Ins_readBytes _ t) fun _ => Ins_ite (Ins_throw _) (Ins_pure _)

theorem Ins_writeAllLoop (t : Txn) (start : Int) : ∀ fuel data, Ins m s (writeAllLoop t start fuel data)
  | 0, _ => Ins_throw _
  | fuel + 1, _ => Ins_bind (Ins_bulkWrite _ _) fun
    | none => Ins_pure _
    | some _ => Ins_ite (Ins_pure _) <| Ins_bind (Ins_elapsedGt _ _) fun _ =>
        Ins_ite (Ins_throw _) (Ins_writeAllLoop t start fuel _)

theorem Ins_writeAll (d : Bytes) (t : Txn) : Ins m s (writeAll d t) :=
  Ins_bind Ins_now fun start => Ins_get_bind (fun w => Ins_writeAllLoop t start w.fuel d) fun _ _ _ _ _ => rfl

theorem Ins_sendRaw (msg : Msg) (t : Txn) : Ins m s (sendRaw msg t) :=
  Ins_bind (Ins_emit _) fun _ =>
    match msg.pack? with
    | none => Ins_throw _
    | some hdr => Ins_bind (Ins_writeAll hdr t) fun _ => Ins_ite (Ins_writeAll _ t) (Ins_pure _)

theorem Ins_ioSend (msg : Msg) (t : Txn) : Ins m s (ioSend msg t) := Ins_withLock _ (Ins_sendRaw msg t)

theorem Ins_expectLoop (ex : List Cmd) (t : Txn) (start : Int) : ∀ fuel, Ins m s (expectLoop ex t start fuel)
  | 0 => Ins_throw _
  | fuel + 1 => Ins_bind (Ins_readPacket t) fun _ =>
    Ins_ite (Ins_bind (Ins_emit _) fun _ => Ins_pure _) <| Ins_bind (Ins_emit _) fun _ =>
      Ins_bind (Ins_elapsedGt _ _) fun _ => Ins_ite (Ins_throw _) (Ins_expectLoop ex t start fuel)

theorem Ins_expectPacket (ex : List Cmd) (t : Txn) : Ins m s (expectPacket ex t) :=
  Ins_bind Ins_now fun start => Ins_get_bind (fun w => Ins_expectLoop ex t start w.fuel) fun _ _ _ _ _ => rfl

theorem Ins_storeFind (t : Txn) (az : Bool) : Ins m s (storeFind t az) := Ins_of_silent fun _ _ _ _ _ => rfl

theorem Ins_storeGet (k : Nat × Nat) : Ins m s (storeGet k) := by
  refine Ins_of_silent fun w p tr md sk => ?_
  unfold storeGet
  dsimp only
  split <;> rfl

/-- `put` records `park` or `lost` depending on the store — which agrees -/
theorem Ins_storePut (p : Pkt) : Ins m s (storePut p) := by
  intro w₁ w₂ h
  unfold storePut
  dsimp only
  rw [← h.store]
  exact ⟨rfl, { h with store := rfl }, [_], rfl, rfl⟩

theorem Ins_storeClear (a0 a1 : Nat) : Ins m s (storeClear a0 a1) := Ins_of_silent fun _ _ _ _ _ => rfl

theorem Ins_storeClearAll : Ins m s storeClearAll := Ins_of_silent fun _ _ _ _ _ => rfl

theorem Ins_drainLoop (ex : List Cmd) (t : Txn) (az : Bool) : ∀ fuel, Ins m s (drainLoop ex t az fuel)
  | 0 => Ins_throw _
  | fuel + 1 => Ins_bind (Ins_storeFind t az) fun
    | none => Ins_pure _
    | some _ => Ins_bind (Ins_storeGet _) fun _ =>
      Ins_ite (Ins_bind (Ins_emit _) fun _ => Ins_pure _) (Ins_bind (Ins_emit _) fun _ => Ins_drainLoop ex t az fuel)

theorem Ins_readIter (ex : List Cmd) (t : Txn) (az : Bool) : Ins m s (readIter ex t az) :=
  Ins_withLock _ <| Ins_get_bind (fun w => Ins_bind (Ins_withLock _ (Ins_drainLoop ex t az w.fuel)) fun
    | some _ => Ins_pure _
    | none => Ins_bind (Ins_readPacket t) fun p =>
      Ins_ite (Ins_bind (Ins_withLock _ (Ins_storePut p)) fun _ => Ins_pure _) <|
        Ins_ite_jp (Ins_withLock _ (Ins_storeClear _ _)) <|
          Ins_ite (Ins_bind (Ins_emit _) fun _ => Ins_pure _) (Ins_bind (Ins_emit _) fun _ => Ins_pure _))
    fun _ _ _ _ _ => rfl

theorem Ins_readLoop (ex : List Cmd) (t : Txn) (az : Bool) (start : Int) : ∀ fuel, Ins m s (readLoop ex t az start fuel)
  | 0 => Ins_throw _
  | fuel + 1 => Ins_bind (Ins_readIter ex t az) fun
    | some _ => Ins_pure _
    | none => Ins_bind (Ins_elapsedGt _ _) fun _ => Ins_ite (Ins_throw _) (Ins_readLoop ex t az start fuel)

theorem Ins_ioRead (ex : List Cmd) (t : Txn) (az : Bool) : Ins m s (ioRead ex t az) :=
  Ins_get_bind (fun w => Ins_bind (Ins_withLock _ (Ins_drainLoop ex t az w.fuel)) fun
    | some _ => Ins_pure _
    | none => Ins_bind Ins_now fun start => Ins_readLoop ex t az start w.fuel)
    fun _ _ _ _ _ => rfl

theorem Ins_ioClose : Ins m s ioClose :=
  Ins_withLock _ <| Ins_bind Ins_tClose fun _ => Ins_withLock _ Ins_storeClearAll

theorem Ins_authLoop (t : Txn) : ∀ keys last, Ins m s (authLoop t keys last)
  | [], _ => Ins_pure _
  | _ :: ks, _ => Ins_ite (Ins_bind Ins_tClose fun _ => Ins_throw _) <| Ins_bind (Ins_sendRaw _ t) fun _ =>
    Ins_bind (Ins_expectPacket _ t) fun p => Ins_ite (Ins_pure _) (Ins_authLoop t ks p)

theorem Ins_pubkeyStep (keys : List Nat) (authT : Timeout) (cb : Bool) (t : Txn) : Ins m s (pubkeyStep keys authT cb t) :=
  Ins_ite_jp (Ins_emit _) <| Ins_bind (Ins_sendRaw _ t) fun _ => Ins_bind (Ins_expectPacket _ _) fun _ => Ins_pure _

theorem Ins_connTail (banner : Bytes) (keys : List Nat) (authT : Timeout) (cb : Bool) (t : Txn) :
    Ins m s (connTail banner keys authT cb t) :=
  Ins_bind (Ins_sendRaw _ t) fun _ => Ins_bind (Ins_expectPacket _ t) fun p =>
    Ins_ite (Ins_pure _) <| Ins_ite (Ins_bind Ins_tClose fun _ => Ins_throw _) <|
      Ins_bind (Ins_authLoop t keys p) fun
      | (some _, _) => Ins_pure _
      | (none, _) => Ins_pubkeyStep keys authT cb t

theorem Ins_ioConnect (banner : Bytes) (keys : List Nat) (authT : Timeout) (cb : Bool) (t : Txn) :
    Ins m s (ioConnect banner keys authT cb t) :=
  Ins_withLock _ <| Ins_bind Ins_tClose fun _ => Ins_bind (Ins_withLock _ Ins_storeClearAll) fun _ =>
    Ins_bind (Ins_tConnect _) fun _ => Ins_connTail banner keys authT cb t

/-! ### stream layer -/

theorem Ins_getTT (tt : Timeout) : Ins m s (getTT tt) := Ins_of_silent fun _ _ _ _ _ => rfl

theorem Ins_openStream (dest : Bytes) (tt rt total : Timeout) : Ins m s (openStream dest tt rt total) :=
  Ins_bind
    (Ins_withLock _ <| Ins_bind (Ins_of_silent fun _ _ _ _ _ => rfl) fun _ =>
      Ins_get_bind (fun _ => Ins_bind (Ins_getTT tt) fun _ => Ins_liftExcept _) fun _ _ _ _ _ => rfl)
    fun t => Ins_bind (Ins_ioSend _ t) fun _ => Ins_bind (Ins_ioRead _ t _) fun _ => Ins_pure _

theorem Ins_okay (t : Txn) : Ins m s (okay t) := Ins_ioSend _ t

theorem Ins_readUntil (ex : List Cmd) (t : Txn) : Ins m s (readUntil ex t) :=
  Ins_bind (Ins_ioRead ex t true) fun _ => Ins_ite_jp (Ins_okay t) (Ins_pure _)

theorem Ins_clse (t : Txn) : Ins m s (clse t) :=
  Ins_bind (Ins_ioSend _ t) fun _ => Ins_bind (Ins_readUntil _ t) fun _ => Ins_pure _

theorem Ins_readUntilCloseLoop (t : Txn) (start : Int) : ∀ fuel acc, Ins m s (readUntilCloseLoop t start fuel acc)
  | 0, _ => Ins_throw _
  | fuel + 1, _ => Ins_bind (Ins_readUntil _ t) fun (_, _) =>
    Ins_ite (Ins_bind (Ins_ioSend _ t) fun _ => Ins_pure _) <| Ins_bind (Ins_emit _) fun _ =>
      match t.total with
      | none => Ins_readUntilCloseLoop t start fuel _
      | some _ => Ins_bind (Ins_elapsedGt _ _) fun _ => Ins_ite (Ins_throw _) (Ins_readUntilCloseLoop t start fuel _)

theorem Ins_readUntilClose (t : Txn) : Ins m s (readUntilClose t) :=
  Ins_bind Ins_now fun start => Ins_get_bind (fun w => Ins_readUntilCloseLoop t start w.fuel []) fun _ _ _ _ _ => rfl

theorem Ins_streamingCommand (svc cmd : Bytes) (tt rt total : Timeout) : Ins m s (streamingCommand svc cmd tt rt total) :=
  Ins_bind (Ins_openStream _ tt rt total) Ins_readUntilClose

theorem Ins_service (svc cmd : Bytes) (tt rt total : Timeout) (dec : Bool) : Ins m s (service svc cmd tt rt total dec) :=
  Ins_bind (Ins_streamingCommand svc cmd tt rt total) fun _ => Ins_pure _

theorem Ins_streamingService (svc cmd : Bytes) (tt rt : Timeout) (dec : Bool) :
    Ins m s (streamingService svc cmd tt rt dec) :=
  Ins_bind (Ins_streamingCommand svc cmd tt rt none) fun _ => Ins_pure _

/-! ### FileSync layer -/

theorem Ins_fsFlushLoop (t : Txn) : ∀ fuel fi, Ins m s (fsFlushLoop t fuel fi)
  | 0, _ => Ins_throw _
  | fuel + 1, _ => Ins_bind (Ins_readUntil _ t) fun (_, _) => Ins_ite (Ins_pure _) (Ins_fsFlushLoop t fuel _)

theorem Ins_fsFlush (t : Txn) (fi : FsInfo) : Ins m s (fsFlush t fi) :=
  Ins_bind (Ins_ioSend _ t) fun _ => Ins_get_bind (fun w => Ins_fsFlushLoop t w.fuel fi) fun _ _ _ _ _ => rfl

theorem Ins_fsSend (id : SyncId) (t : Txn) (fi : FsInfo) (data : Bytes) (size : Option Nat) :
    Ins m s (fsSend id t fi data size) :=
  Ins_ite_bind (Ins_fsFlush t fi) (Ins_pure fi) fun _ => Ins_ite (Ins_throw _) (Ins_pure _)

theorem Ins_fsReadBufferedLoop (size : Nat) (t : Txn) : ∀ fuel fi, Ins m s (fsReadBufferedLoop size t fuel fi)
  | 0, _ => Ins_throw _
  | fuel + 1, _ =>
    Ins_ite (Ins_bind (Ins_readUntil _ t) fun (_, _) => Ins_fsReadBufferedLoop size t fuel _) (Ins_pure _)

theorem Ins_fsReadBuffered (size : Nat) (t : Txn) (fi : FsInfo) : Ins m s (fsReadBuffered size t fi) :=
  Ins_get_bind (fun w => Ins_fsReadBufferedLoop size t w.fuel fi) fun _ _ _ _ _ => rfl

theorem Ins_fsRead (ex : List SyncId) (t : Txn) (fi : FsInfo) : Ins m s (fsRead ex t fi) :=
  Ins_ite_bind (Ins_fsFlush t fi) (Ins_pure fi) fun fi => Ins_bind (Ins_fsReadBuffered _ t fi) fun (_, fi) => by
    dsimp only
    split
    · exact Ins_throw _
    · exact Ins_ite_bind (Ins_fsReadBuffered _ t fi) (Ins_pure _) fun (_, _) =>
        Ins_ite (Ins_ite (Ins_throw _) (Ins_throw _)) (Ins_ite (Ins_pure _) (Ins_pure _))

theorem Ins_lookupFile (id : Nat) : Ins m s (lookupFile id) := by
  refine Ins_of_silent fun w p tr md sk => ?_
  unfold lookupFile
  dsimp only
  split <;> rfl

theorem Ins_callProgress (cb : CbMode) (path : Bytes) (n total : Nat) : Ins m s (callProgress cb path n total) := by
  unfold callProgress
  split
  · exact Ins_pure _
  · exact Ins_swallow <| Ins_bind (Ins_emit _) fun _ => Ins_ite (Ins_throw _) (Ins_pure _)

theorem Ins_pushDataLoop (devPath : Bytes) (cb : CbMode) (total chunk : Nat) (t : Txn) :
    ∀ fuel content fi, Ins m s (pushDataLoop devPath cb total chunk t fuel content fi)
  | 0, _, _ => Ins_throw _
  | fuel + 1, _, fi => Ins_ite (Ins_pure _) <| Ins_bind (Ins_fsSend _ t fi _ _) fun _ =>
    Ins_bind (Ins_callProgress cb devPath _ total) fun _ => Ins_pushDataLoop devPath cb total chunk t fuel _ _

theorem Ins_pushStatus (t : Txn) (fi : FsInfo) : Ins m s (pushStatus t fi) :=
  Ins_bind (Ins_fsRead _ t fi) fun (_, _) => Ins_ite (Ins_pure _) (Ins_throw _)

/-- reads `maxdata` (chunk size): needs agreeing `maxdata` -/
theorem Ins_pushOne (content devPath : Bytes) (mode mtime : Nat) (cb : CbMode) (t : Txn) (fi : FsInfo) :
    Ins true s (pushOne content devPath mode mtime cb t fi) :=
  Ins_bind (Ins_fsSend _ t fi _ _) fun fi => Ins_get_bind_m
    (fun w => Ins_bind (Ins_pushDataLoop devPath cb _ _ t w.fuel content fi) fun fi => Ins_get_bind
      (fun _ => Ins_bind (Ins_fsSend _ t fi _ _) (Ins_pushStatus t)) fun _ _ _ _ _ => rfl)
    fun _ _ _ _ => rfl

/-! ### device layer -/

theorem Ins_runGuard (g : String) (p : Option Bytes) : Ins m s (runGuard g p) := by
  refine Ins_of_silent fun w q tr md sk => ?_
  unfold runGuard
  simp only [apply_ite (Prod.map id _)]
  rfl

theorem Ins_runGuards : ∀ gs p, Ins m s (runGuards gs p)
  | [], _ => Ins_pure _
  | g :: gs, p => Ins_bind (Ins_runGuard g p) fun _ => Ins_runGuards gs p

/-- `connect()` as a whole: it WRITES `maxdata`, with the same value in both runs -/
theorem Ins_devConnect (keys : List Nat) (tt authT rt : Timeout) (cb : Bool) : Ins m s (devConnect keys tt authT rt cb) :=
  Ins_bind (Ins_getTT tt) fun _ => Ins_bind (Ins_liftExcept _) fun t =>
    Ins_bind (Ins_of_silent fun _ _ _ _ _ => rfl) fun _ => Ins_get_bind
      (fun w => Ins_bind (Ins_ioConnect w.banner keys authT cb t) fun _ =>
        Ins_bind (Ins_modify (fun _ _ h => { h with available := rfl, maxdata := fun _ => rfl }) fun _ => rfl) fun _ =>
          Ins_pure _)
      fun _ _ _ _ _ => rfl

theorem Ins_devClose : Ins m s devClose :=
  Ins_bind (Ins_of_silent fun _ _ _ _ _ => rfl) fun _ => Ins_bind Ins_ioClose fun _ => Ins_pure _

theorem Ins_devShellLike (op : String) (svc cmd : Bytes) (tt rt total : Timeout) (dec : Bool) :
    Ins m s (devShellLike op svc cmd tt rt total dec) :=
  Ins_bind (Ins_runGuards _ _) fun _ => Ins_service svc cmd tt rt total dec

theorem Ins_devRoot (tt rt total : Timeout) : Ins m s (devRoot tt rt total) :=
  Ins_bind (Ins_runGuards _ _) fun _ => Ins_bind (Ins_service _ _ tt rt total _) fun _ => Ins_pure _

theorem Ins_devReboot (fb : Bool) (tt rt total : Timeout) : Ins m s (devReboot fb tt rt total) :=
  Ins_bind (Ins_runGuards _ _) fun _ => Ins_bind (Ins_openStream _ tt rt total) fun _ => Ins_pure _

theorem Ins_devStreamingShell (cmd : Bytes) (tt rt : Timeout) (dec : Bool) : Ins m s (devStreamingShell cmd tt rt dec) :=
  Ins_bind (Ins_runGuards _ _) fun _ => Ins_streamingService _ cmd tt rt dec

theorem Ins_listLoop (t : Txn) : ∀ fuel fi acc, Ins m s (listLoop t fuel fi acc)
  | 0, _, _ => Ins_throw _
  | fuel + 1, fi, _ => Ins_bind (Ins_fsRead _ t fi) fun (_, _) => Ins_ite (Ins_pure _) (Ins_listLoop t fuel _ _)

theorem Ins_devList (p : Bytes) (tt rt : Timeout) : Ins true s (devList p tt rt) :=
  Ins_bind (Ins_runGuards _ _) fun _ => Ins_bind (Ins_openStream _ tt rt none) fun t => Ins_get_bind_m
    (fun w => Ins_bind (Ins_fsSend _ t _ p _) fun fi => Ins_bind (Ins_listLoop t w.fuel fi []) fun _ =>
      Ins_bind (Ins_clse t) fun _ => Ins_pure _)
    fun _ _ _ _ => rfl

theorem Ins_devStat (p : Bytes) (tt rt : Timeout) : Ins true s (devStat p tt rt) :=
  Ins_bind (Ins_runGuards _ _) fun _ => Ins_bind (Ins_openStream _ tt rt none) fun t => Ins_get_bind_m
    (fun _ => Ins_bind (Ins_fsSend _ t _ p _) fun fi => Ins_bind (Ins_fsRead _ t fi) fun (_, _) =>
      Ins_bind (Ins_clse t) fun _ => Ins_pure _)
    fun _ _ _ _ => rfl

/-- appends to `sink`: needs agreeing `sink` -/
theorem Ins_pullLoop (devPath : Bytes) (cb : CbMode) (total : Nat) (t : Txn) :
    ∀ fuel fi, Ins true true (pullLoop devPath cb total t fuel fi)
  | 0, _ => Ins_throw _
  | fuel + 1, fi => Ins_bind (Ins_fsRead _ t fi) fun (_, fi) => Ins_ite (Ins_pure _) <|
    Ins_bind (Ins_modify (fun _ _ h => { h with sink := fun _ => by rw [h.sink rfl] }) fun _ => rfl) fun _ =>
      Ins_bind (Ins_callProgress cb devPath _ total) fun _ => Ins_pullLoop devPath cb total t fuel fi

theorem Ins_pullInner (devPath : Bytes) (cb : CbMode) (t : Txn) (fi : FsInfo) :
    Ins true true (pullInner devPath cb t fi) := by
  rw [pullInner_eq]
  refine Ins_bind (Ins_ite (Ins_bind (Ins_devStat devPath _ _) fun v => ?_) (Ins_pure _)) fun total =>
    Ins_bind (Ins_fsSend _ t fi _ _) fun fi =>
      Ins_get_bind (fun w => Ins_pullLoop devPath cb total t w.fuel fi) fun _ _ _ _ _ => rfl
  split <;> exact Ins_pure _

/-- `sink := some []; rest` — whatever the sinks were, they agree afterwards -/
theorem Ins_setSink_bind {β} {f : Unit → M β} (hf : Ins true true (f ())) :
    Ins true s (M.modify (fun w => { w with sink := some [] }) >>= f) := by
  intro w₁ w₂ h
  obtain ⟨g1, g2, g3⟩ := hf { w₁ with sink := some [] } { w₂ with sink := some [] }
    { h with sink := fun _ => rfl }
  exact ⟨g1, g2.weaken, g3⟩

/-- `pull` creates/truncates the destination first, so the old `sink` does not matter -/
theorem Ins_devPull (devPath : Bytes) (cb : CbMode) (tt rt : Timeout) : Ins true s (devPull devPath cb tt rt) :=
  Ins_bind (Ins_runGuards _ _) fun _ => Ins_setSink_bind <| Ins_bind (Ins_openStream _ tt rt none) fun t =>
    Ins_get_bind_m
      (fun _ => Ins_bind (Ins_tryFinally (Ins_pullInner devPath cb t _) (Ins_clse t)) fun _ => Ins_pure _)
      fun _ _ _ _ => rfl

theorem Ins_pushFile (fid : Nat) (devPath : Bytes) (mode mtime : Nat) (cb : CbMode) (tt rt : Timeout) :
    Ins true s (pushFile fid devPath mode mtime cb tt rt) :=
  Ins_bind (Ins_lookupFile fid) fun content => Ins_bind (Ins_openStream _ tt rt none) fun t => Ins_get_bind_m
    (fun _ => Ins_bind (Ins_pushOne content devPath mode mtime cb t _) fun _ => Ins_clse t)
    fun _ _ _ _ => rfl

theorem Ins_pushFiles (devPath : Bytes) (mode mtime : Nat) (cb : CbMode) (tt rt : Timeout) :
    ∀ es, Ins true s (pushFiles devPath mode mtime cb tt rt es)
  | [] => Ins_pure _
  | (_, fid) :: es => Ins_bind (Ins_pushFile fid _ mode mtime cb tt rt) fun _ =>
    Ins_pushFiles devPath mode mtime cb tt rt es

theorem Ins_devPush (src : LocalRef) (devPath : Bytes) (mode mtime : Nat) (cb : CbMode) (tt rt : Timeout) :
    Ins true s (devPush src devPath mode mtime cb tt rt) := by
  refine Ins_bind (Ins_runGuards _ _) fun _ => ?_
  have file : ∀ id, Ins true s (do pushFile id devPath mode mtime cb tt rt; pure Val.none) :=
    fun id => Ins_bind (Ins_pushFile id devPath mode mtime cb tt rt) fun _ => Ins_pure _
  cases src with
  | bytesio id => exact file id
  | file id => exact file id
  | dir id =>
    refine Ins_get_bind (fun w => ?_) fun _ _ _ _ _ => rfl
    split
    · exact Ins_throw _
    · exact Ins_bind (Ins_devShellLike _ _ _ tt rt none true) fun _ =>
        Ins_bind (Ins_pushFiles devPath mode mtime cb tt rt _) fun _ => Ins_pure _

/-- every public operation is insensitive to `past`, `trace` and (given agreeing `maxdata`) to `sink` -/
theorem Ins_apiOp : ∀ op : ApiOp, Ins true s op.run
  | .connect keys tt authT rt cb => Ins_devConnect keys tt authT rt cb
  | .close => Ins_devClose
  | .shell cmd tt rt total dec => Ins_devShellLike _ _ cmd tt rt total dec
  | .execOut cmd tt rt total dec => Ins_devShellLike _ _ cmd tt rt total dec
  | .root tt rt total => Ins_devRoot tt rt total
  | .reboot fb tt rt total => Ins_devReboot fb tt rt total
  | .streamingShell cmd tt rt dec => Ins_devStreamingShell cmd tt rt dec
  | .list p tt rt => Ins_devList p tt rt
  | .stat p tt rt => Ins_devStat p tt rt
  | .pull p cb tt rt => Ins_devPull p cb tt rt
  | .push src p mode mtime cb tt rt => Ins_devPush src p mode mtime cb tt rt

end

end Adb.Reset

/-! ### the session relations of C12 -/
namespace Adb
open Adb.Reset

/-- two worlds that may differ ONLY in leftovers of an earlier session and in ghost fields:
    free to differ are `store`, `available`, `maxdata`, `cur`, `past`, `sink`, `trace` -/
def SessionEq (w₁ w₂ : World) : Prop :=
  w₁.conns = w₂.conns ∧ w₁.now = w₂.now ∧ w₁.fuel = w₂.fuel ∧ w₁.localId = w₂.localId ∧ w₁.banner = w₂.banner ∧
  w₁.defaultTT = w₂.defaultTT ∧ w₁.locks = w₂.locks ∧ w₁.files = w₂.files ∧ w₁.dirs = w₂.dirs

theorem SessionEq.banner {w₁ w₂ : World} (h : SessionEq w₁ w₂) : w₁.banner = w₂.banner := h.2.2.2.2.1
theorem SessionEq.defaultTT {w₁ w₂ : World} (h : SessionEq w₁ w₂) : w₁.defaultTT = w₂.defaultTT := h.2.2.2.2.2.1
theorem SessionEq.locks {w₁ w₂ : World} (h : SessionEq w₁ w₂) : w₁.locks = w₂.locks := h.2.2.2.2.2.2.1

/-- after the reset the worlds agree on everything a later operation can observe (except `maxdata`,
    which only a successful `connect()` sets, and the pull destination `sink`) -/
def SameSession (w₁ w₂ : World) : Prop :=
  SessionEq w₁ w₂ ∧ w₁.store = w₂.store ∧ w₁.cur = w₂.cur ∧ w₁.available = w₂.available

namespace Reset

variable {w₁ w₂ : World}

theorem Agree.sameSession {m s : Bool} (h : Agree m s w₁ w₂) : SameSession w₁ w₂ :=
  ⟨⟨h.conns, h.now, h.fuel, h.localId, h.banner, h.defaultTT, h.locks, h.files, h.dirs⟩, h.store, h.cur, h.available⟩

theorem SameSession.agree {m s : Bool} (h : SameSession w₁ w₂) (hm : m = true → w₁.maxdata = w₂.maxdata)
    (hs : s = true → w₁.sink = w₂.sink) : Agree m s w₁ w₂ := by
  obtain ⟨⟨h1, h2, h3, h4, h5, h6, h7, h8, h9⟩, h10, h11, h12⟩ := h
  exact ⟨h1, h11, h2, h3, h10, h12, h4, h5, h6, h7, h8, h9, hm, hs⟩

/-- closing and clearing identifies any two `SessionEq` worlds up to the free fields -/
theorem closed_agree (h : SessionEq w₁ w₂) (ha : w₁.available = w₂.available) (l : List Nat) :
    Agree false false (closed { w₁ with locks := l }) (closed { w₂ with locks := l }) := by
  obtain ⟨h1, h2, h3, h4, h5, h6, -, h8, h9⟩ := h
  exact ⟨h1, rfl, h2, h3, rfl, ha, h4, h5, h6, rfl, h8, h9, nofun, nofun⟩

/-- `_AdbIOManager.connect` from two worlds that differ in session leftovers: same result, agreeing worlds,
    same events -/
theorem ioConnect_resets (banner : Bytes) (keys : List Nat) (authT : Timeout) (cb : Bool) (t : Txn) (w₁ w₂ : World)
    (h : SessionEq w₁ w₂) (ha : w₁.available = w₂.available) (hl : w₁.locks = []) :
    ∃ r v₁ v₂, ioConnect banner keys authT cb t w₁ = (r, v₁) ∧ ioConnect banner keys authT cb t w₂ = (r, v₂) ∧
      Agree false false v₁ v₂ ∧ SameNew w₁ w₂ v₁ v₂ := by
  obtain ⟨r, v₁, v₂, e₁, e₂, g2, evs, g3, g4⟩ :=
    (Ins_bind (Ins_tConnect _) fun _ => Ins_connTail banner keys authT cb t).run (closed_agree h ha [lockTransport])
  refine ⟨r, { v₁ with locks := v₁.locks.erase lockTransport }, { v₂ with locks := v₂.locks.erase lockTransport },
    ?_, ?_, { g2 with locks := congrArg (List.erase · lockTransport) g2.locks },
    evs ++ [.tclose], g3.trans (List.append_cons ..), g4.trans (List.append_cons ..)⟩
  · rw [ioConnect_run banner keys authT cb t w₁ hl, e₁]; rfl
  · rw [ioConnect_run banner keys authT cb t w₂ (h.locks ▸ hl), e₂]; rfl

/-! ### non-vacuity material: a device that answers CNXN at once -/

def exCnxn : Pkt := ⟨.CNXN, 0x01000000, 4096, ascii "device::x"⟩
def exConn : Conn := { segs := [⟨0, exCnxn.encode⟩] }
/-- a fresh object -/
def exFresh : World := { conns := [exConn] }
/-- the same object after a broken session: a parked packet, still `available`, a half-read connection
    that met a reset, an earlier closed connection, another `maxdata`, a half-written pull destination,
    an old trace -/
def exJunk : World :=
  { conns := [exConn],
    store := Store.empty.put 7 3 .WRTE [1, 2, 3],
    available := true,
    cur := some { segs := [⟨0, [9, 9, 9]⟩], inOff := 29, outOff := 48, isReset := true, peerChunks := [[1, 2], [3]] },
    past := [[5, 5]],
    maxdata := 1234,
    sink := some [8],
    trace := [.tconnect] }
theorem exJunk_sessionEq : SessionEq exJunk exFresh := ⟨rfl, rfl, rfl, rfl, rfl, rfl, rfl, rfl, rfl⟩

/-- the same pair with no device to connect to -/
def exFreshDead : World := { exFresh with conns := [] }
def exJunkDead : World := { exJunk with conns := [] }

def isOkTrue : Except Err Val → Bool
  | .ok (.bool true) => true
  | _ => false
def isErr (e : Err) : Except Err Val → Bool
  | .error e' => e == e'
  | _ => false

end Reset
end Adb
