import AdbModel.Keys
import AdbProofs.Lemmas.Bytes
import Mathlib.FieldTheory.Finite.Basic
import Mathlib.Data.Nat.ChineseRemainder
import Mathlib.Data.Nat.Totient
import Mathlib.Tactic.Ring
import Mathlib.Tactic.NormNum.Prime
/-
  Lemmas behind property C17 (key material): modular exponentiation, RSA round trip (Fermat + CRT),
  byte-string/integer conversions, EMSA-PKCS1-v1_5 layout, the Android public key blob, base64.
-/
namespace Adb
namespace Keys

/-! ### powMod -/

theorem powModAux_eq (m : Nat) : ∀ (fuel b e acc : Nat), e < 2 ^ fuel → acc % m = acc →
    powModAux m fuel b e acc = acc * b ^ e % m := by
  intro fuel
  induction fuel with
  | zero =>
    intro b e acc he hacc
    have : e = 0 := by simpa using he
    subst this
    simp [powModAux, hacc]
  | succ fuel ih =>
    intro b e acc he hacc
    by_cases h0 : e = 0
    · subst h0; simp [powModAux, hacc]
    · have he2 : e / 2 < 2 ^ fuel := by
        rw [pow_succ] at he; omega
      simp only [powModAux, h0, if_false]
      by_cases h1 : e % 2 = 1
      · simp only [h1, if_true]
        rw [ih _ _ _ he2 (Nat.mod_mod _ _)]
        have hm : acc * b % m * (b * b % m) ^ (e / 2) ≡ acc * b * (b * b) ^ (e / 2) [MOD m] :=
          Nat.ModEq.mul (Nat.mod_modEq _ _) ((Nat.mod_modEq _ _).pow _)
        have hb : acc * b * (b * b) ^ (e / 2) = acc * b ^ e := by
          conv_rhs => rw [← Nat.div_add_mod e 2, h1]
          rw [pow_succ, pow_mul]; ring
        rw [← hb]; exact hm
      · have h1' : e % 2 = 0 := by omega
        simp only [h1', show (0 : Nat) ≠ 1 by decide, if_false]
        rw [ih _ _ _ he2 hacc]
        have hm : acc * (b * b % m) ^ (e / 2) ≡ acc * (b * b) ^ (e / 2) [MOD m] :=
          Nat.ModEq.mul rfl ((Nat.mod_modEq _ _).pow _)
        have hb : acc * (b * b) ^ (e / 2) = acc * b ^ e := by
          conv_rhs => rw [← Nat.div_add_mod e 2, h1']
          rw [Nat.add_zero, pow_mul]; ring
        rw [← hb]; exact hm

theorem powMod_eq (b e m : Nat) : powMod b e m = b ^ e % m := by
  unfold powMod
  rw [powModAux_eq m _ _ _ _ Nat.lt_log2_self (Nat.mod_mod _ _)]
  have : 1 % m * (b % m) ^ e ≡ 1 * b ^ e [MOD m] :=
    Nat.ModEq.mul (Nat.mod_modEq _ _) ((Nat.mod_modEq _ _).pow _)
  rw [one_mul] at this
  exact this

/-! ### RSA: Fermat + CRT -/

/-- Fermat in the form RSA needs: exponents `≡ 1 (mod p-1)` act as the identity modulo `p`,
    also on multiples of `p`. -/
theorem fermat_exp {p : Nat} (hp : p.Prime) (k x : Nat) : x ^ (1 + k * (p - 1)) ≡ x [MOD p] := by
  by_cases hdvd : p ∣ x
  · have hx : x ≡ 0 [MOD p] := (Nat.modEq_zero_iff_dvd).2 hdvd
    have : x ^ (1 + k * (p - 1)) ≡ 0 [MOD p] := by
      rw [pow_add, pow_one]
      have := hx.mul_right (x ^ (k * (p - 1)))
      rwa [zero_mul] at this
    exact this.trans hx.symm
  · have hc : x.Coprime p := ((Nat.Prime.coprime_iff_not_dvd hp).2 hdvd).symm
    have h1 : x ^ (p - 1) ≡ 1 [MOD p] := by
      have := Nat.ModEq.pow_totient hc
      rwa [Nat.totient_prime hp] at this
    have h2 : (x ^ (p - 1)) ^ k ≡ 1 [MOD p] := by
      have := h1.pow k
      rwa [one_pow] at this
    have h3 : x ^ (1 + k * (p - 1)) = x * (x ^ (p - 1)) ^ k := by
      rw [pow_add, pow_one, ← pow_mul, Nat.mul_comm k]
    rw [h3]
    have := h2.mul_left x
    rwa [mul_one] at this

theorem rsa_exp {p q : Nat} (hp : p.Prime) (hq : q.Prime) (hpq : p ≠ q) {t : Nat}
    (ht : ∃ kp kq, t = 1 + kp * (p - 1) ∧ t = 1 + kq * (q - 1)) (x : Nat) :
    x ^ t ≡ x [MOD p * q] := by
  obtain ⟨kp, kq, h1, h2⟩ := ht
  have hc : p.Coprime q := (Nat.coprime_primes hp hq).2 hpq
  refine (Nat.modEq_and_modEq_iff_modEq_mul hc).1 ⟨?_, ?_⟩
  · rw [h1]; exact fermat_exp hp kp x
  · rw [h2]; exact fermat_exp hq kq x

/-! ### Byte strings and integers -/

@[simp] theorem leBytes_length : ∀ (len n : Nat), (leBytes len n).length = len
  | 0, _ => rfl
  | len + 1, n => by simp [leBytes, leBytes_length len]

@[simp] theorem i2osp_length (len n : Nat) : (i2osp len n).length = len := by simp [i2osp]

theorem leNat_lt : ∀ bs : Bytes, leNat bs < 256 ^ bs.length
  | [] => by simp [leNat]
  | b :: bs => by
    have := leNat_lt bs
    have hb := UInt8.toNat_lt b
    simp only [leNat, List.length_cons, pow_succ]
    omega

theorem leNat_leBytes_mod : ∀ (len n : Nat), leNat (leBytes len n) = n % 256 ^ len
  | 0, n => by simp [leBytes, leNat, Nat.mod_one]
  | len + 1, n => by
    simp only [leBytes, leNat, leNat_leBytes_mod len, UInt8.toNat_ofNat']
    rw [show (2 : Nat) ^ 8 = 256 from rfl, pow_succ, Nat.mul_comm (256 ^ len) 256, Nat.mod_mul]

theorem leNat_leBytes {len n : Nat} (h : n < 256 ^ len) : leNat (leBytes len n) = n := by
  rw [leNat_leBytes_mod, Nat.mod_eq_of_lt h]

theorem ofNat_toNat_add (b : UInt8) (k : Nat) : UInt8.ofNat (b.toNat + 256 * k) = b := by
  apply UInt8.toNat_inj.1
  rw [UInt8.toNat_ofNat']
  have := UInt8.toNat_lt b
  omega

theorem leBytes_leNat : ∀ bs : Bytes, leBytes bs.length (leNat bs) = bs
  | [] => rfl
  | b :: bs => by
    have hb := UInt8.toNat_lt b
    simp only [List.length_cons, leBytes, leNat, ofNat_toNat_add]
    have : (b.toNat + 256 * leNat bs) / 256 = leNat bs := by omega
    rw [this, leBytes_leNat bs]

theorem leNat_append : ∀ a b : Bytes, leNat (a ++ b) = leNat a + 256 ^ a.length * leNat b
  | [], b => by simp [leNat]
  | x :: a, b => by
    simp only [List.cons_append, leNat, leNat_append a b, List.length_cons, pow_succ]
    ring

theorem os2ip_lt (bs : Bytes) : os2ip bs < 256 ^ bs.length := by
  have := leNat_lt bs.reverse
  simpa [os2ip] using this

theorem os2ip_i2osp {len n : Nat} (h : n < 256 ^ len) : os2ip (i2osp len n) = n := by
  simp [os2ip, i2osp, leNat_leBytes h]

theorem i2osp_os2ip {len : Nat} {bs : Bytes} (h : bs.length = len) : i2osp len (os2ip bs) = bs := by
  subst h
  have := leBytes_leNat bs.reverse
  simp only [List.length_reverse] at this
  simp [os2ip, i2osp, this]

/-- Big-endian reading of `a ++ b`. -/
theorem os2ip_append (a b : Bytes) : os2ip (a ++ b) = os2ip a * 256 ^ b.length + os2ip b := by
  simp only [os2ip, List.reverse_append, leNat_append, List.length_reverse]
  ring

/-! ### EMSA-PKCS1-v1_5 -/

theorem modSize_eq : modSize = 256 := rfl
theorem modWords_eq : modWords = 64 := rfl
theorem encSize_eq : encSize = 524 := rfl

theorem sha1Prefix_length : sha1Prefix.length = 15 := rfl

/-- Layout of the encoded message for a 20-byte token. -/
theorem emsa_layout {token : Bytes} (h : token.length = 20) :
    emsa token 256 = [0, 1] ++ (List.replicate 218 0xFF ++ [0] ++ sha1Prefix ++ token) := by
  have e : 256 - 3 - (sha1Prefix.length + token.length) = 218 := by rw [h, sha1Prefix_length]
  unfold emsa
  rw [e]
  simp only [List.append_assoc]

theorem emsa_tail_length {token : Bytes} (h : token.length = 20) :
    (List.replicate 218 (0xFF : UInt8) ++ [0] ++ sha1Prefix ++ token).length = 254 := by
  simp only [List.length_append, List.length_replicate, List.length_cons, List.length_nil, h,
    sha1Prefix_length]

theorem emsa_length {token : Bytes} (h : token.length = 20) : (emsa token 256).length = 256 := by
  rw [emsa_layout h, List.length_append, emsa_tail_length h]
  rfl

theorem two_pow_2033 : (2 : Nat) ^ 2033 = 2 * 256 ^ 254 := by
  rw [show (256 : Nat) = 2 ^ 8 from rfl, ← pow_mul, ← pow_succ']

theorem emsa_lt {token : Bytes} (h : token.length = 20) : os2ip (emsa token 256) < 2 ^ 2033 := by
  rw [emsa_layout h, os2ip_append]
  have hr := os2ip_lt (List.replicate 218 0xFF ++ [0] ++ sha1Prefix ++ token)
  rw [emsa_tail_length h] at hr ⊢
  have h1 : os2ip [0, 1] = 1 := by simp [os2ip, leNat]
  rw [h1, two_pow_2033]
  omega

/-! ### Valid keys, signing and verifying -/

/-- A 2048-bit RSA key as `keygen` generates it (the key generator is trusted for primality):
    `n = p*q` with distinct primes, `n` of exactly 2048 bits, and `e*d ≡ 1` modulo `p-1` and `q-1`
    (this covers both `d = e⁻¹ mod φ(n)` and `d = e⁻¹ mod lcm(p-1, q-1)`). -/
structure ValidKey (n e d p q : Nat) : Prop where
  hp : p.Prime
  hq : q.Prime
  hpq : p ≠ q
  hn : n = p * q
  lo : 2 ^ 2047 ≤ n
  hi : n < 2 ^ 2048
  hd : ∃ kp kq, e * d = 1 + kp * (p - 1) ∧ e * d = 1 + kq * (q - 1)

set_option exponentiation.threshold 4200 in
theorem two_pow_2048 : (2 : Nat) ^ 2048 = 256 ^ 256 := by norm_num

set_option exponentiation.threshold 4200 in
theorem two_pow_2033_le : (2 : Nat) ^ 2033 ≤ 2 ^ 2047 := by norm_num

theorem ValidKey.pow_de {n e d p q : Nat} (k : ValidKey n e d p q) (x : Nat) :
    (x ^ d) ^ e % n = x % n := by
  rw [k.hn, ← pow_mul, Nat.mul_comm d e]
  exact rsa_exp k.hp k.hq k.hpq k.hd x

theorem ValidKey.pow_ed {n e d p q : Nat} (k : ValidKey n e d p q) (x : Nat) :
    (x ^ e) ^ d % n = x % n := by
  rw [k.hn, ← pow_mul]
  exact rsa_exp k.hp k.hq k.hpq k.hd x

theorem sign_verifies {n e d p q : Nat} (k : ValidKey n e d p q) {token : Bytes}
    (ht : token.length = 20) : verify n e token (sign n d token) = true := by
  have hn0 : 0 < n := lt_of_lt_of_le (by positivity) k.lo
  have hn256 : n ≤ 256 ^ 256 := by rw [← two_pow_2048]; exact k.hi.le
  have hm : os2ip (emsa token 256) < n :=
    lt_of_lt_of_le (emsa_lt ht) (le_trans two_pow_2033_le k.lo)
  simp only [verify, sign, modSize_eq, powMod_eq, beq_iff_eq]
  rw [os2ip_i2osp (lt_of_lt_of_le (Nat.mod_lt _ hn0) hn256), ← Nat.pow_mod, k.pow_de,
    Nat.mod_eq_of_lt hm, i2osp_os2ip (emsa_length ht)]

theorem signature_unique {n e d p q : Nat} (k : ValidKey n e d p q) {token s : Bytes}
    (hv : verify n e token s = true) (hl : s.length = 256) (hs : os2ip s < n) :
    s = sign n d token := by
  have hn0 : 0 < n := lt_of_lt_of_le (by positivity) k.lo
  have hn256 : n ≤ 256 ^ 256 := by rw [← two_pow_2048]; exact k.hi.le
  simp only [verify, modSize_eq, powMod_eq, beq_iff_eq] at hv
  have h1 : os2ip s ^ e % n = os2ip (emsa token 256) := by
    have := congrArg os2ip hv
    rwa [os2ip_i2osp (lt_of_lt_of_le (Nat.mod_lt _ hn0) hn256)] at this
  have h2 : os2ip s = os2ip (emsa token 256) ^ d % n := by
    rw [← h1, ← Nat.pow_mod, k.pow_ed, Nat.mod_eq_of_lt hs]
  simp only [sign, modSize_eq, powMod_eq]
  rw [← h2, i2osp_os2ip hl]

/-! ### Montgomery parameters and the public key blob -/

theorem totient_two_pow_32 : Nat.totient (2 ^ 32) = 2 ^ 31 := by
  rw [Nat.totient_prime_pow Nat.prime_two (by norm_num : 0 < 32)]
  norm_num

theorem pow_pred_inverse {x m t : Nat} (ht : 0 < t) (h : x ^ t ≡ 1 [MOD m]) :
    x * (x ^ (t - 1) % m) % m = 1 % m := by
  have h2 : x * (x ^ (t - 1) % m) ≡ x * x ^ (t - 1) [MOD m] :=
    Nat.ModEq.mul_left x (Nat.mod_modEq _ _)
  have h3 : x * x ^ (t - 1) = x ^ t := by
    rw [← pow_succ', Nat.sub_add_cancel ht]
  rw [h3] at h2
  exact h2.trans h

theorem inv32_lt (x : Nat) : inv32 x < 2 ^ 32 := by
  rw [inv32, powMod_eq]; exact Nat.mod_lt _ (by norm_num)

/-- `inv32 x` is the inverse of an odd `x` modulo `2^32` (Euler: the unit group has order `2^31`). -/
theorem inv32_spec {x : Nat} (hx : x % 2 = 1) : x * inv32 x % 2 ^ 32 = 1 := by
  have hc2 : Nat.Coprime 2 x := (Nat.Prime.coprime_iff_not_dvd Nat.prime_two).2 (by omega)
  have hc : x.Coprime (2 ^ 32) := (Nat.Coprime.pow_left 32 hc2).symm
  have h := Nat.ModEq.pow_totient hc
  rw [totient_two_pow_32] at h
  rw [inv32, powMod_eq, pow_pred_inverse (t := 2 ^ 31) (by positivity) h]
  norm_num

theorem odd_mod_two_pow_32 {n : Nat} (hn : n % 2 = 1) : n % 2 ^ 32 % 2 = 1 := by
  rw [Nat.mod_mod_of_dvd n (by decide : 2 ∣ 2 ^ 32), hn]

theorem n0inv_bounds {n : Nat} (hn : n % 2 = 1) : 0 < n0inv n ∧ n0inv n < 2 ^ 32 := by
  have h1 := inv32_lt (n % 2 ^ 32)
  have h2 := inv32_spec (odd_mod_two_pow_32 hn)
  have h3 : inv32 (n % 2 ^ 32) ≠ 0 := by
    intro h0; rw [h0] at h2; simp at h2
  unfold n0inv
  omega

/-- `n0inv = -1/n mod 2^32`. -/
theorem n0inv_spec {n : Nat} (hn : n % 2 = 1) : n0inv n * n % 2 ^ 32 = 2 ^ 32 - 1 := by
  have h1 := inv32_lt (n % 2 ^ 32)
  have h2 := inv32_spec (odd_mod_two_pow_32 hn)
  generalize hi : inv32 (n % 2 ^ 32) = i at h1 h2
  have hB : i * n % 2 ^ 32 = 1 := by
    have e : i * n ≡ i * (n % 2 ^ 32) [MOD 2 ^ 32] :=
      Nat.ModEq.mul_left i (Nat.mod_modEq n _).symm
    rw [Nat.mul_comm i (n % 2 ^ 32)] at e
    rw [show i * n % 2 ^ 32 = n % 2 ^ 32 * i % 2 ^ 32 from e, h2]
  have hS : ((2 ^ 32 - i) * n + i * n) % 2 ^ 32 = 0 := by
    rw [← Nat.add_mul, Nat.sub_add_cancel h1.le, Nat.mul_mod_right]
  have hA : (2 ^ 32 - i) * n % 2 ^ 32 < 2 ^ 32 := Nat.mod_lt _ (by norm_num)
  rw [Nat.add_mod, hB] at hS
  unfold n0inv
  rw [hi]
  omega

/-- Uniqueness: any 32-bit `y` with `y * n ≡ -1 (mod 2^32)` is `n0inv n`. -/
theorem n0inv_unique {n y : Nat} (hn : n % 2 = 1) (hy : y < 2 ^ 32)
    (h : y * n % 2 ^ 32 = 2 ^ 32 - 1) : y = n0inv n := by
  have hc2 : Nat.Coprime 2 n := (Nat.Prime.coprime_iff_not_dvd Nat.prime_two).2 (by omega)
  have hc : Nat.gcd (2 ^ 32) n = 1 := Nat.Coprime.pow_left 32 hc2
  have heq : y * n ≡ n0inv n * n [MOD 2 ^ 32] := by
    unfold Nat.ModEq; rw [h, n0inv_spec hn]
  have := Nat.ModEq.cancel_right_of_coprime hc heq
  unfold Nat.ModEq at this
  rwa [Nat.mod_eq_of_lt hy, Nat.mod_eq_of_lt (n0inv_bounds hn).2] at this

set_option exponentiation.threshold 4200 in
theorem rr_eq (n : Nat) : rr n = 2 ^ 4096 % n := by
  unfold rr
  rw [modSize_eq, ← Nat.pow_mul, show 256 * 8 * 2 = 4096 from rfl]

theorem rr_lt {n : Nat} (hn : 0 < n) : rr n < n := by
  rw [rr_eq]; exact Nat.mod_lt _ hn

theorem blob_length (n e : Nat) : (blob n e).length = 524 := by
  simp [blob, modSize_eq]

theorem decodeBlob_blob {n e : Nat} (hodd : n % 2 = 1) (hn : n < 2 ^ 2048) (he : e < 2 ^ 32) :
    decodeBlob (blob n e) = some (64, n0inv n, n, rr n, e) := by
  have hlen : ¬ (blob n e).length ≠ encSize := by simp [blob_length, encSize_eq]
  have hn0 : 0 < n := by omega
  have hn' : n < 256 ^ 256 := lt_of_lt_of_eq hn two_pow_2048
  have hrr : rr n < 256 ^ 256 := lt_trans (rr_lt hn0) hn'
  unfold decodeBlob
  rw [if_neg hlen]
  have hb : blob n e = le32 64 ++ (le32 (n0inv n) ++ (leBytes 256 n ++ (leBytes 256 (rr n) ++
      (le32 e ++ [])))) := by
    simp only [blob, modWords_eq, modSize_eq, List.append_assoc, List.append_nil]
  rw [hb]
  simp only [rd32_le32 64 (by norm_num), modWords_eq, modSize_eq, ne_eq, not_true_eq_false,
    if_false, rd32_le32 (n0inv n) (n0inv_bounds hodd).2,
    List.drop_left' (leBytes_length 256 n), List.take_left' (leBytes_length 256 n),
    List.drop_left' (leBytes_length 256 (rr n)), List.take_left' (leBytes_length 256 (rr n)),
    rd32_le32 e he, leNat_leBytes hn', leNat_leBytes hrr]

/-! ### Base64 -/

theorem dec6_enc6 : ∀ v, v < 64 → b64dec6 (b64enc6 v) = some v := by decide +kernel

theorem enc6_ne_pad : ∀ v, v < 64 → b64enc6 v ≠ 61 := by decide +kernel

theorem ofNat_of_eq (b : UInt8) {x : Nat} (h : x % 256 = b.toNat) : UInt8.ofNat x = b := by
  apply UInt8.toNat_inj.1
  rw [UInt8.toNat_ofNat', show (2 : Nat) ^ 8 = 256 from rfl, h]

theorem sextet_lt {v : Nat} (hv : v < 2 ^ 24) : v / 262144 < 64 := Nat.div_lt_of_lt_mul hv

/-! The decoder on the encoding of one 24-bit group `v`: the four 6-bit digits of `v` give back its
    three bytes; with one or two pad characters, its upper two bytes or its top byte. -/

theorem b64decode_group {v : Nat} (hv : v < 2 ^ 24) (rest : Bytes) :
    b64decode (b64enc6 (v / 262144) :: b64enc6 (v / 4096 % 64) :: b64enc6 (v / 64 % 64) ::
        b64enc6 (v % 64) :: rest) =
      (b64decode rest).map fun tl =>
        UInt8.ofNat (v / 65536) :: UInt8.ofNat (v / 256) :: UInt8.ofNat v :: tl := by
  rw [b64decode, if_neg (fun h => enc6_ne_pad _ (mod64_lt v) h.2), dec6_enc6 _ (sextet_lt hv),
    dec6_enc6 _ (mod64_lt _), dec6_enc6 _ (mod64_lt _), dec6_enc6 _ (mod64_lt v)]
  cases b64decode rest
  · rfl
  · simp only [sextets v]; rfl

theorem b64decode_pad1 {v : Nat} (hv : v < 2 ^ 24) :
    b64decode [b64enc6 (v / 262144), b64enc6 (v / 4096 % 64), b64enc6 (v / 64 % 64), 61] =
      some [UInt8.ofNat (v / 65536), UInt8.ofNat (v / 256)] := by
  rw [b64decode, if_pos ⟨rfl, rfl⟩, if_neg (enc6_ne_pad _ (mod64_lt _)), dec6_enc6 _ (sextet_lt hv),
    dec6_enc6 _ (mod64_lt _), dec6_enc6 _ (mod64_lt _)]
  simp only [sextets_hi3 v]
  rw [div_mul_div v 64 1024 (by decide), div_mul_div v 64 4 (by decide)]

theorem b64decode_pad2 {v : Nat} (hv : v < 2 ^ 24) :
    b64decode [b64enc6 (v / 262144), b64enc6 (v / 4096 % 64), 61, 61] =
      some [UInt8.ofNat (v / 65536)] := by
  rw [b64decode, if_pos ⟨rfl, rfl⟩, if_pos rfl, dec6_enc6 _ (sextet_lt hv), dec6_enc6 _ (mod64_lt _)]
  simp only [sextets_hi2 v]
  rw [div_mul_div v 4096 16 (by decide)]

theorem bytes3 {a b c v : Nat} (ha : a < 256) (hb : b < 256) (hc : c < 256)
    (hv : v = a * 65536 + b * 256 + c) :
    v < 2 ^ 24 ∧ v / 65536 % 256 = a ∧ v / 256 % 256 = b ∧ v % 256 = c := by omega

theorem b64_roundtrip : ∀ bs : Bytes, b64decode (b64encode bs) = some bs
  | [] => rfl
  | [a] => by
    obtain ⟨hv, h1, _, _⟩ := bytes3 (UInt8.toNat_lt a) (Nat.zero_lt_succ 255) (Nat.zero_lt_succ 255) rfl
    simp only [Nat.zero_mul, Nat.add_zero] at hv h1
    rw [b64encode, b64decode_pad2 hv, ofNat_of_eq a h1]
  | [a, b] => by
    obtain ⟨hv, h1, h2, _⟩ := bytes3 (UInt8.toNat_lt a) (UInt8.toNat_lt b) (Nat.zero_lt_succ 255) rfl
    simp only [Nat.add_zero] at hv h1 h2
    rw [b64encode, b64decode_pad1 hv, ofNat_of_eq a h1, ofNat_of_eq b h2]
  | a :: b :: c :: rest => by
    obtain ⟨hv, h1, h2, h3⟩ := bytes3 (UInt8.toNat_lt a) (UInt8.toNat_lt b) (UInt8.toNat_lt c) rfl
    rw [b64encode, b64decode_group hv, b64_roundtrip rest, ofNat_of_eq a h1, ofNat_of_eq b h2,
      ofNat_of_eq c h3]
    rfl
theorem b64encode_length : ∀ bs : Bytes, (b64encode bs).length = 4 * ((bs.length + 2) / 3)
  | [] => rfl
  | [_] => by simp [b64encode]
  | [_, _] => by simp [b64encode]
  | _ :: _ :: _ :: rest => by
    simp only [b64encode, List.length_cons, b64encode_length rest]
    omega

end Keys
end Adb
