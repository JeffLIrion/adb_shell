import AdbProofs.Lemmas.StoreLemmas
/- Packet store: each operation's effect on the abstraction `queue` and on `Inv`. -/
namespace Adb
namespace Store

theorem alookup_single_key {β : Type} {l : List (Nat × β)} {k b : Nat} (h : akeys l = [k]) (hb : b ≠ k) :
    alookup b l = none := by
  apply alookup_none_of_not_mem
  simp [h, hb]

/-- `clear`: nothing to do for a pair without entry; otherwise the entry goes, and the inner dict with it when it was the last -/
theorem clear_cases (s : Store) (a0 a1 : Nat) :
    (s.queue a0 a1 = none ∧ clear s a0 a1 = s) ∨
    ∃ inner q, alookup a1 s = some inner ∧ alookup a0 inner = some q ∧
      clear s a0 a1 = if (adel a0 inner).isEmpty then adel a1 s else aset a1 (adel a0 inner) s := by
  cases h1 : alookup a1 s with
  | none => exact Or.inl (by simp [clear, queue, h1])
  | some inner =>
    cases h0 : alookup a0 inner with
    | none => exact Or.inl (by simp [clear, queue, h1, h0])
    | some q => exact Or.inr ⟨inner, q, rfl, h0, by simp [clear, h1, h0]⟩

theorem queue_clear {s : Store} (hI : Inv s) (a0 a1 b0 b1 : Nat) :
    (clear s a0 a1).queue b0 b1 = if b0 = a0 ∧ b1 = a1 then none else s.queue b0 b1 := by
  rcases clear_cases s a0 a1 with ⟨hq, hc⟩ | ⟨inner, q, h1, h0, hc⟩
  · rw [hc]
    by_cases hb : b0 = a0 ∧ b1 = a1
    · simp [hb, hq]
    · simp [hb]
  · have ⟨hnd, hne⟩ := inner_of_lookup hI h1
    rw [hc]
    split
    · next he =>
      rw [queue_adel s hI.1]
      have hkeys := (adel_isEmpty_iff hnd (mem_akeys_of_alookup h0)).1 he
      by_cases hb1 : b1 = a1
      · subst hb1
        by_cases hb0 : b0 = a0
        · simp [hb0]
        · simp [hb0, queue, h1, alookup_single_key hkeys hb0]
      · simp [hb1]
    · rw [queue_aset]
      by_cases hb1 : b1 = a1
      · subst hb1
        by_cases hb0 : b0 = a0
        · subst hb0; simp [alookup_adel_self hnd]
        · simp [hb0, alookup_adel_ne (Ne.symm hb0), queue, h1]
      · simp [hb1]

theorem inv_clear {s : Store} (hI : Inv s) (a0 a1 : Nat) : Inv (clear s a0 a1) := by
  rcases clear_cases s a0 a1 with ⟨-, hc⟩ | ⟨inner, q, h1, -, hc⟩
  · rwa [hc]
  · rw [hc]
    split
    · exact inv_adel hI a1
    · next he => exact inv_aset hI a1 _ (nodup_adel (inner_of_lookup hI h1).1) (by intro h; simp [h] at he)

/-- writing queue `q` under `(a0, a1)`, in the inner dict of `a1` (a new one when `a1` has none) -/
theorem queue_aset_aset (s : Store) (a0 a1 : Nat) (q : List QItem) (b0 b1 : Nat) :
    queue (aset a1 (aset a0 q ((alookup a1 s).getD [])) s) b0 b1 =
      if b0 = a0 ∧ b1 = a1 then some q else s.queue b0 b1 := by
  rw [queue_aset]
  by_cases hb1 : b1 = a1
  · subst hb1
    rw [if_pos rfl]
    by_cases hb0 : b0 = a0
    · subst hb0; rw [if_pos ⟨rfl, rfl⟩, alookup_aset_self]
    · rw [if_neg (fun h => hb0 h.1), alookup_aset_ne (Ne.symm hb0), queue]
      cases alookup b1 s <;> rfl
  · rw [if_neg hb1, if_neg (fun h => hb1 h.2)]

/-- `put` in terms of `queue`: the K1 drop, or the pair's queue with the packet appended is written back -/
theorem put_eq (s : Store) (a0 a1 : Nat) (cmd : Cmd) (d : Bytes) :
    put s a0 a1 cmd d = if cmd = Cmd.CLSE ∧ s.queue a0 a1 = none then s else
      aset a1 (aset a0 ((s.queue a0 a1).getD [] ++ [(cmd, d)]) ((alookup a1 s).getD [])) s := by
  cases h1 : alookup a1 s with
  | none => simp only [put, queue, h1]; by_cases hc : cmd = Cmd.CLSE <;> simp [hc, aset]
  | some inner =>
    cases h0 : alookup a0 inner with
    | none => simp only [put, queue, h1, h0]; by_cases hc : cmd = Cmd.CLSE <;> simp [hc, h0]
    | some q => simp [put, queue, h1, h0]

/-- `put`: a CLSE for a pair without entry is dropped (the K1 behaviour); anything else is appended
    to the pair's queue and no other pair changes. -/
theorem queue_put {s : Store} (a0 a1 : Nat) (cmd : Cmd) (d : Bytes) :
    (cmd = Cmd.CLSE ∧ s.queue a0 a1 = none → put s a0 a1 cmd d = s) ∧
    (¬ (cmd = Cmd.CLSE ∧ s.queue a0 a1 = none) →
      (put s a0 a1 cmd d).queue a0 a1 = some ((s.queue a0 a1).getD [] ++ [(cmd, d)]) ∧
      ∀ b0 b1, ¬ (b0 = a0 ∧ b1 = a1) → (put s a0 a1 cmd d).queue b0 b1 = s.queue b0 b1) := by
  rw [put_eq]
  refine ⟨fun h => if_pos h, fun h => ?_⟩
  rw [if_neg h]
  exact ⟨by rw [queue_aset_aset, if_pos ⟨rfl, rfl⟩], fun b0 b1 hb => by rw [queue_aset_aset, if_neg hb]⟩

theorem inv_put {s : Store} (hI : Inv s) (a0 a1 : Nat) (cmd : Cmd) (d : Bytes) : Inv (put s a0 a1 cmd d) := by
  rw [put_eq]
  split
  · exact hI
  · refine inv_aset hI a1 _ (nodup_aset ?_) (aset_ne_nil _ _ _)
    cases h1 : alookup a1 s with
    | none => exact List.nodup_nil
    | some inner => exact (inner_of_lookup hI h1).1

/-- `get` with a concrete pair: FIFO head, CLSE forgets the pair, errors exactly when nothing is there. -/
theorem get_concrete {s : Store} (hI : Inv s) (a0 a1 : Nat) :
    match s.queue a0 a1 with
    | none => get s (some a0) (some a1) = .error .keyError
    | some [] => get s (some a0) (some a1) = .error .queueEmpty
    | some ((cmd, d) :: q) =>
      ∃ s', get s (some a0) (some a1) = .ok ((cmd, a0, a1, d), s') ∧ Inv s' ∧
        (∀ b0 b1, s'.queue b0 b1 =
          if b0 = a0 ∧ b1 = a1 then (if cmd = Cmd.CLSE then none else some q) else s.queue b0 b1) := by
  cases h1 : alookup a1 s with
  | none =>
    have hq : s.queue a0 a1 = none := by simp [queue, h1]
    simp [hq, get, h1]
  | some inner =>
    have ⟨hnd, hne⟩ := inner_of_lookup hI h1
    cases h0 : alookup a0 inner with
    | none =>
      have hq : s.queue a0 a1 = none := by simp [queue, h1, h0]
      simp [hq, get, h1, h0]
    | some q0 =>
      have hq : s.queue a0 a1 = some q0 := by simp [queue, h1, h0]
      cases q0 with
      | nil => simp [hq, get, h1, h0]
      | cons x q =>
        obtain ⟨cmd, d⟩ := x
        simp only [hq, get, h1, h0]
        have hI' : Inv (aset a1 (aset a0 q inner) s) := inv_aset hI a1 _ (nodup_aset hnd) (aset_ne_nil _ _ _)
        have hq' : ∀ b0 b1, queue (aset a1 (aset a0 q inner) s) b0 b1 =
            if b0 = a0 ∧ b1 = a1 then some q else s.queue b0 b1 := by
          have := queue_aset_aset s a0 a1 q
          rwa [h1] at this
        by_cases hc : cmd = Cmd.CLSE
        · subst hc
          refine ⟨_, rfl, ?_, ?_⟩
          · simpa using inv_clear hI' a0 a1
          · intro b0 b1
            simp only [if_true]
            rw [queue_clear hI', hq']
            by_cases hb : b0 = a0 ∧ b1 = a1 <;> simp [hb]
        · refine ⟨_, rfl, ?_, ?_⟩
          · simpa [hc] using hI'
          · intro b0 b1
            simp only [hc, if_false]
            exact hq' b0 b1

end Store
end Adb
