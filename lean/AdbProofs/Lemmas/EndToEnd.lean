import AdbProofs.Lemmas.Deliver
import AdbProofs.Properties.C02
/-
  The end-to-end bridge between the WIRE layer (C03: `readPacket` against the device's byte stream
  `World.inboundRest`) and the STREAM layer (C01/C04: the delivery calculus over trace events):
  the packets DELIVERED to a command stream are exactly the device's packets for this stream, read off the
  device's byte stream in order; everything else read on the way is parked in the packet store (foreign ids)
  or dropped (this stream's ids, unexpected command).

  Part A  vocabulary: `IsRaw`, `Frames`, `Fate`, `wireFates`, `wirePkts`, `storeStep`, `KeysSat`, `Clean`
  Part B  wire layer: `Reads`, `WireStep`, `readIter_reads`, `ReadsTo`, `ioRead_reads`, `ioRead_frames`
  Part C  stream layer: `readUntil_reads`, `readUntilCloseLoop_reads`, `readUntilClose_frames`, `openStream_frames`
  Part D  reference semantics `streamItems`, `Conversation`; `streamingCommand_frames`, `streamingCommand_encode`,
          `streamingCommand_conversation`
  Part E  one `read` iteration with an arbitrary store: `Drained`, `Source`
-/

/-
  Part A: vocabulary.
  * `IsRaw p raw`      — `raw` is a frame (24-byte header + payload) that `_read_packet_from_device` reads as `p`
  * `Frames ps bs tl`  — the byte stream `bs` is the frames of the packets `ps` followed by `tl`
  * `Fate`, `wireFates`, `wirePkts` — the packets read off the wire according to the trace, with what became of them
  * `KeysSat P s`      — every pending key of the packet store satisfies `P` (and the store is well formed)
-/
namespace Adb
namespace E2E

/-! ### Frames on the device byte stream -/

/-- `raw` is a frame that `_read_packet_from_device` accepts and reads as the packet `p`: a 24-byte header
    that `unpack`s to a known command, `p`'s arguments and `len(p.data)`, followed by exactly the payload,
    whose checksum matches when it is non-empty (the magic word is not checked by the library). -/
def IsRaw (p : Pkt) (raw : Bytes) : Prop :=
  ∃ hb hd, hb.length = 24 ∧ unpack hb = some hd ∧ Cmd.ofWire? hd.cmd = some p.cmd ∧ hd.arg0 = p.arg0 ∧
    hd.arg1 = p.arg1 ∧ hd.len = p.data.length ∧ (p.data ≠ [] → checksum p.data = hd.sum) ∧ raw = hb ++ p.data

/-- the encoding of a packable packet is a frame for it -/
theorem IsRaw.encode {p : Pkt} (hp : p.toMsg.Packable) : IsRaw p p.encode := by
  refine ⟨p.toMsg.packHdr, _, (C02_header_len p.toMsg).1, (C02_unpack_pack p.toMsg hp).1, ?_, rfl, rfl, rfl, ?_, rfl⟩
  · exact (C02_magic p.cmd).1
  · intro _; rfl

/-- a byte stream starts with at most one frame, and it determines the packet -/
theorem IsRaw.unique {p q : Pkt} {raw raw' r r' : Bytes} (hp : IsRaw p raw) (hq : IsRaw q raw')
    (h : raw ++ r = raw' ++ r') : p = q ∧ raw = raw' ∧ r = r' := by
  obtain ⟨hb, hd, a1, a2, a3, a4, a5, a6, -, rfl⟩ := hp
  obtain ⟨hb', hd', b1, b2, b3, b4, b5, b6, -, rfl⟩ := hq
  rw [List.append_assoc, List.append_assoc] at h
  -- the headers have the same length, hence are equal; they announce the length of the payload
  obtain ⟨rfl, h9⟩ := List.append_inj h (by rw [a1, b1])
  cases a2.symm.trans b2
  obtain ⟨hdat, hrest⟩ := List.append_inj h9 (by rw [← a6, ← b6])
  refine ⟨?_, by rw [hdat], hrest⟩
  cases p; cases q
  simp only [Pkt.mk.injEq]
  exact ⟨Option.some.inj (a3.symm.trans b3), a4.symm.trans b4, a5.symm.trans b5, hdat⟩

/-- the stream `bs` consists of frames of the packets `ps`, in order, followed by `tl` -/
def Frames : List Pkt → Bytes → Bytes → Prop
  | [], bs, tl => bs = tl
  | p :: ps, bs, tl => ∃ raw rest, IsRaw p raw ∧ bs = raw ++ rest ∧ Frames ps rest tl

@[simp] theorem Frames_nil (bs tl : Bytes) : Frames [] bs tl ↔ bs = tl := Iff.rfl

theorem Frames.refl (bs : Bytes) : Frames [] bs bs := rfl

theorem Frames.trans {ps₁ ps₂ : List Pkt} {a b c : Bytes} (h1 : Frames ps₁ a b) (h2 : Frames ps₂ b c) :
    Frames (ps₁ ++ ps₂) a c := by
  induction ps₁ generalizing a with
  | nil => cases h1; exact h2
  | cons p ps ih =>
    obtain ⟨raw, rest, hraw, rfl, h⟩ := h1
    exact ⟨raw, rest, hraw, rfl, ih h⟩

theorem Frames.single {p : Pkt} {raw rest : Bytes} (h : IsRaw p raw) : Frames [p] (raw ++ rest) rest :=
  ⟨raw, rest, h, rfl, rfl⟩

/-- a concatenation of encodings of packable packets is a sequence of frames -/
theorem Frames_encode {ps : List Pkt} (tl : Bytes) (hp : ∀ p ∈ ps, p.toMsg.Packable) :
    Frames ps ((ps.map Pkt.encode).flatten ++ tl) tl := by
  induction ps with
  | nil => simp
  | cons p ps ih =>
    refine ⟨p.encode, (ps.map Pkt.encode).flatten ++ tl, IsRaw.encode (hp p (by simp)), by simp, ?_⟩
    exact ih (fun q hq => hp q (by simp [hq]))

/-- the stream starts with a frame the library would accept -/
def Readable (bs : Bytes) : Prop := ∃ q raw rest, IsRaw q raw ∧ bs = raw ++ rest

theorem not_readable_of_short {bs : Bytes} (h : bs.length < 24) : ¬ Readable bs := by
  rintro ⟨q, raw, rest, ⟨hb, hd, h1, -, -, -, -, -, -, rfl⟩, rfl⟩
  simp only [List.length_append] at h
  omega

/-- two ways of reading frames off the same stream agree: one list of packets is a prefix of the other; if the
    first is the shorter one the second continues on the first's remainder, otherwise the second's tail is
    readable -/
theorem Frames.compare {qs ps : List Pkt} {bs mid tl : Bytes} (hq : Frames qs bs mid) (hp : Frames ps bs tl) :
    (∃ rest, ps = qs ++ rest ∧ Frames rest mid tl) ∨ (∃ q extra, qs = ps ++ q :: extra ∧ Readable tl) := by
  induction qs generalizing ps bs with
  | nil =>
    cases hq
    exact Or.inl ⟨ps, rfl, hp⟩
  | cons q qs ih =>
    obtain ⟨raw, rest, h1, h2, h3⟩ := hq
    cases ps with
    | nil =>
      cases hp
      exact Or.inr ⟨q, qs, rfl, q, raw, rest, h1, h2⟩
    | cons p ps =>
      obtain ⟨raw', rest', g1, g2, g3⟩ := hp
      obtain ⟨rfl, rfl, rfl⟩ := IsRaw.unique h1 g1 (h2.symm.trans g2)
      rcases ih h3 g3 with ⟨r, rfl, hr⟩ | ⟨q', extra, rfl, hr⟩
      · exact Or.inl ⟨r, rfl, hr⟩
      · exact Or.inr ⟨q', extra, rfl, hr⟩

/-- the packets `qs ++ [p]` were read off a stream that consists of the frames of `ps` followed by `tl`: they
    are a prefix of `ps` and the stream continues with the frames of the rest — or else `ps` ran out before
    `p`, all of it is in `qs`, and `tl` starts with a further frame -/
theorem Frames.compare_snoc {qs ps : List Pkt} {p : Pkt} {bs mid tl : Bytes} (hq : Frames (qs ++ [p]) bs mid)
    (hp : Frames ps bs tl) :
    (∃ rest, ps = qs ++ p :: rest ∧ Frames rest mid tl) ∨ ((∀ x ∈ ps, x ∈ qs) ∧ Readable tl) := by
  rcases hq.compare hp with ⟨rest, rfl, hrest⟩ | ⟨q, extra, he, hread⟩
  · exact Or.inl ⟨rest, by simp, hrest⟩
  · refine Or.inr ⟨?_, hread⟩
    rcases List.prefix_concat_iff.1 ⟨q :: extra, he.symm⟩ with rfl | hpre
    · simpa using congrArg List.length he
    · exact fun x hx => hpre.subset hx

/-- reading the same packets off the same stream leaves the same remainder -/
theorem Frames.tail_unique {ps : List Pkt} {bs m1 m2 : Bytes} (h1 : Frames ps bs m1) (h2 : Frames ps bs m2) : m1 = m2 := by
  rcases h1.compare h2 with ⟨rest, hps, hr⟩ | ⟨q, extra, hps, -⟩
  · cases List.self_eq_append_right.1 hps
    exact hr
  · simpa using congrArg List.length hps

/-- if the stream is the concatenation of the encodings of `qs ++ rest` (then `tl`) and the packets `qs` have been
    read off it, what remains is the concatenation of the encodings of `rest` (then `tl`) -/
theorem Frames.encode_rest {ps qs rest : List Pkt} {bs mid tl : Bytes} (hps : ps = qs ++ rest)
    (hpk : ∀ p ∈ ps, p.toMsg.Packable) (hbs : bs = (ps.map Pkt.encode).flatten ++ tl) (h : Frames qs bs mid) :
    mid = (rest.map Pkt.encode).flatten ++ tl := by
  subst hps
  refine h.tail_unique ?_
  rw [hbs, List.map_append, List.flatten_append, List.append_assoc]
  exact Frames_encode _ fun q hq => hpk q (List.mem_append_left _ hq)

/-! ### What became of a packet read off the wire -/

/-- the three things `_AdbIOManager.read` does with a packet it has read from the transport -/
inductive Fate where
  | delivered   -- ids match and the command is expected: returned to the caller (`deliver`)
  | dropped     -- ids match but the command is not expected: discarded (`drop`)
  | parked      -- ids do not match: handed to the packet store (`park`, or `lost` for a CLSE without entry — K1)
  deriving DecidableEq, Repr

/-- the wire-read reading of a trace event -/
def fate? : TEv → Option (Fate × Pkt)
  | .deliver p => some (.delivered, p)
  | .drop p => some (.dropped, p)
  | .park p => some (.parked, p)
  | .lost p => some (.parked, p)
  | _ => none

/-- the packets read off the wire during the events `evs` (most recent first, as in the trace) with their
    fates, OLDEST first.  (A `deliver` event is also emitted for a packet taken out of the packet store;
    the specs below show that this does not happen when the store holds nothing for the transaction.) -/
def wireFates (evs : List TEv) : List (Fate × Pkt) := evs.reverse.filterMap fate?

/-- the packets read off the wire during the events, oldest first -/
def wirePkts (evs : List TEv) : List Pkt := (wireFates evs).map (·.2)

@[simp] theorem wireFates_nil : wireFates [] = [] := rfl

theorem wireFates_append (later earlier : List TEv) :
    wireFates (later ++ earlier) = wireFates earlier ++ wireFates later := by
  simp [wireFates]

theorem wireFates_eq_nil {evs : List TEv} (h : ∀ e ∈ evs, fate? e = none) : wireFates evs = [] :=
  List.filterMap_eq_nil_iff.2 fun e he => h e (List.mem_reverse.1 he)

/-- the deliveries of the delivery calculus are the wire packets with fate `delivered` — as a reading of
    the events alone (it is the specs that tell a store delivery from a wire delivery) -/
theorem delivered_eq_wireFates (evs : List TEv) :
    delivered evs = ((wireFates evs).filter (fun x => x.1 = .delivered)).map (·.2) := by
  unfold delivered wireFates
  rw [List.filter_filterMap, List.map_filterMap]
  congr 1
  funext e
  cases e <;> simp [fate?, Option.filter]

/-- the fate of a packet read on behalf of the transaction `t` by `read(ex, t, az)` -/
def fate (ex : List Cmd) (t : Txn) (az : Bool) (p : Pkt) : Fate :=
  if t.argsMatch p.arg0 p.arg1 az then (if ex.contains p.cmd then .delivered else .dropped) else .parked

theorem fate_delivered_iff {ex : List Cmd} {t : Txn} {az : Bool} {p : Pkt} :
    fate ex t az p = .delivered ↔ t.argsMatch p.arg0 p.arg1 az = true ∧ ex.contains p.cmd = true := by
  unfold fate
  by_cases hm : t.argsMatch p.arg0 p.arg1 az = true <;> simp [hm]

/-- every packet with its fate -/
def classify (ex : List Cmd) (t : Txn) (az : Bool) (ps : List Pkt) : List (Fate × Pkt) :=
  ps.map (fun p => (fate ex t az p, p))

@[simp] theorem classify_nil (ex t az) : classify ex t az [] = [] := rfl
@[simp] theorem classify_cons (ex t az p ps) : classify ex t az (p :: ps) = (fate ex t az p, p) :: classify ex t az ps := rfl

@[simp] theorem map_snd_fates (f : Pkt → Fate) (ps : List Pkt) : (ps.map fun p => (f p, p)).map (·.2) = ps := by
  simp [Function.comp_def]

/-- the delivered ones among packets listed with their fates -/
theorem filter_delivered_map (f : Pkt → Fate) (ps : List Pkt) :
    (((ps.map (fun p => (f p, p))).filter (fun x => x.1 = Fate.delivered)).map (·.2)) =
      ps.filter (fun p => f p = Fate.delivered) := by
  induction ps with
  | nil => rfl
  | cons p ps ih => by_cases h : f p = Fate.delivered <;> simp [h, ih]

/-- what the read does to the packet store for a packet with the given fate: a parked packet is `put`
    (a CLSE without entry is lost there); a matching CLSE clears the pair's entry -/
def storeStep (s : Store) (fp : Fate × Pkt) : Store :=
  match fp.1 with
  | .parked => s.put fp.2.arg0 fp.2.arg1 fp.2.cmd fp.2.data
  | _ => if fp.2.cmd = Cmd.CLSE then s.clear fp.2.arg0 fp.2.arg1 else s

/-! ### The packet store holds nothing for the transaction -/

/-- the store is well formed and all its pending keys `(arg0, arg1)` satisfy `P` -/
def KeysSat (P : Nat × Nat → Prop) (s : Store) : Prop := Store.Inv s ∧ ∀ k ∈ Store.pendingKeys s, P k

theorem KeysSat.nil (P : Nat × Nat → Prop) : KeysSat P [] := ⟨Store.inv_empty, by simp [Store.pendingKeys]⟩

theorem KeysSat.mono {P Q : Nat × Nat → Prop} {s : Store} (h : KeysSat P s) (hpq : ∀ k, P k → Q k) : KeysSat Q s :=
  ⟨h.1, fun k hk => hpq k (h.2 k hk)⟩

theorem KeysSat.put {P : Nat × Nat → Prop} {s : Store} (h : KeysSat P s) {a0 a1 : Nat} (hp : P (a0, a1))
    (c : Cmd) (d : Bytes) : KeysSat P (s.put a0 a1 c d) := by
  refine ⟨Store.inv_put h.1 a0 a1 c d, ?_⟩
  rintro ⟨k0, k1⟩ hk
  obtain ⟨q, hq, hne⟩ := (Store.mem_pendingKeys (Store.inv_put h.1 a0 a1 c d) k0 k1).1 hk
  by_cases hk' : k0 = a0 ∧ k1 = a1
  · obtain ⟨rfl, rfl⟩ := hk'; exact hp
  · obtain ⟨hdrop, hput⟩ := Store.queue_put (s := s) a0 a1 c d
    by_cases hd : c = Cmd.CLSE ∧ s.queue a0 a1 = none
    · rw [hdrop hd] at hk; exact h.2 _ hk
    · rw [(hput hd).2 k0 k1 hk'] at hq
      exact h.2 _ ((Store.mem_pendingKeys h.1 k0 k1).2 ⟨q, hq, hne⟩)

theorem KeysSat.clear {P : Nat × Nat → Prop} {s : Store} (h : KeysSat P s) (a0 a1 : Nat) :
    KeysSat P (s.clear a0 a1) := by
  refine ⟨Store.inv_clear h.1 a0 a1, ?_⟩
  rintro ⟨k0, k1⟩ hk
  obtain ⟨q, hq, hne⟩ := (Store.mem_pendingKeys (Store.inv_clear h.1 a0 a1) k0 k1).1 hk
  rw [Store.queue_clear h.1] at hq
  split at hq
  · cases hq
  · exact h.2 _ ((Store.mem_pendingKeys h.1 k0 k1).2 ⟨q, hq, hne⟩)

/-- one store step keeps the keys in `P` when the packet, if parked, has a key in `P` -/
theorem KeysSat.step {P : Nat × Nat → Prop} {s : Store} (h : KeysSat P s) (fp : Fate × Pkt)
    (hp : fp.1 = .parked → P (fp.2.arg0, fp.2.arg1)) : KeysSat P (storeStep s fp) := by
  unfold storeStep
  split
  · next hf => exact h.put (hp hf) _ _
  · split
    · exact h.clear _ _
    · exact h

theorem KeysSat.steps {P : Nat × Nat → Prop} {s : Store} (h : KeysSat P s) (f : Pkt → Fate) (ps : List Pkt)
    (hp : ∀ p ∈ ps, f p = .parked → P (p.arg0, p.arg1)) : KeysSat P ((ps.map fun p => (f p, p)).foldl storeStep s) := by
  induction ps generalizing s with
  | nil => exact h
  | cons p ps ih =>
    exact ih (h.step (f p, p) (hp p (by simp))) (fun x hx => hp x (by simp [hx]))

/-- the key `k` fits the transaction (`Txn.accepts` on a key) -/
def acceptsKey (t : Txn) (az : Bool) (k : Nat × Nat) : Bool :=
  if az then Store.keyMatchesZ t.remoteId t.localId k else Store.keyMatches t.remoteId t.localId k

/-- the store holds no pending packet that `read(…, t, az)` would take -/
def Clean (t : Txn) (az : Bool) (s : Store) : Prop := KeysSat (fun k => acceptsKey t az k = false) s

theorem Clean.empty (t : Txn) (az : Bool) : Clean t az [] := KeysSat.nil _

/-- the lookup `read` performs on the store -/
def lookup (t : Txn) (az : Bool) (s : Store) : Option (Nat × Nat) :=
  if az then s.findAllowZeros t.remoteId t.localId else s.find t.remoteId t.localId

theorem Clean.lookup {t : Txn} {az : Bool} {s : Store} (h : Clean t az s) : lookup t az s = none := by
  cases hf : E2E.lookup t az s with
  | none => rfl
  | some k =>
    -- what the lookup finds is a pending key that fits the transaction
    have hk : k ∈ Store.pendingKeys s ∧ acceptsKey t az k = true := by
      unfold E2E.lookup at hf
      unfold acceptsKey
      cases az
      · exact (Store.find_spec h.1 t.remoteId t.localId).1 k hf
      · exact (Store.findAllowZeros_spec h.1 t.remoteId t.localId).1 k hf
    rw [h.2 k hk.1] at hk
    cases hk.2

/-- a parked packet never fits the transaction that parked it (its local id is known) -/
theorem parked_not_accepted {ex : List Cmd} {t : Txn} {az : Bool} {p : Pkt} {l : Nat} (hl : t.localId = some l)
    (h : fate ex t az p = .parked) : acceptsKey t az (p.arg0, p.arg1) = false := by
  refine Bool.eq_false_iff.2 fun ha => ?_
  rw [fate, if_pos ((Txn.accepts_iff hl).1 ha)] at h
  split at h <;> cases h

theorem Clean.steps {ex : List Cmd} {t : Txn} {az : Bool} {s : Store} {l : Nat} (hl : t.localId = some l)
    (h : Clean t az s) (ps : List Pkt) : Clean t az ((classify ex t az ps).foldl storeStep s) :=
  KeysSat.steps h _ ps fun _ _ hpk => parked_not_accepted hl hpk

/-
  Part B: the wire layer.  What `readIter` / `readLoop` / `_AdbIOManager.read` consume from the device's byte
  stream, what they do with every frame, and how the packet store evolves.
-/

/-! ### `Reads`: a step that reads given packets off the wire -/

/-- `w'` arises from `w` by reading exactly the packets of `F` off the wire, in order, with the given fates:
    the device stream is shortened by their frames, the store is updated packet by packet, and the wire
    events added to the trace are exactly `F`. -/
structure Reads (F : List (Fate × Pkt)) (w w' : World) : Prop where
  stream : Frames (F.map (·.2)) w.inboundRest w'.inboundRest
  store : w'.store = F.foldl storeStep w.store
  trace : ∃ evs, w'.trace = evs ++ w.trace ∧ wireFates evs = F

theorem Reads.refl (w : World) : Reads [] w w := ⟨rfl, rfl, [], rfl, rfl⟩

theorem Reads.trans {F G : List (Fate × Pkt)} {a b c : World} (h1 : Reads F a b) (h2 : Reads G b c) :
    Reads (F ++ G) a c := by
  obtain ⟨e1, ht1, hf1⟩ := h1.trace
  obtain ⟨e2, ht2, hf2⟩ := h2.trace
  refine ⟨?_, ?_, e2 ++ e1, by simp [ht2, ht1], by rw [wireFates_append, hf1, hf2]⟩
  · rw [List.map_append]; exact h1.stream.trans h2.stream
  · rw [h2.store, h1.store, List.foldl_append]

/-- a step that reads nothing, leaves the store alone and adds no wire event -/
theorem Reads.quiet {w w' : World} (h1 : w'.inboundRest = w.inboundRest) (h2 : w'.store = w.store)
    {evs : List TEv} (h3 : w'.trace = evs ++ w.trace) (h4 : ∀ e ∈ evs, fate? e = none) : Reads [] w w' :=
  ⟨h1.symm, h2, evs, h3, wireFates_eq_nil h4⟩

theorem Reads.then_quiet {F : List (Fate × Pkt)} {a b c : World} (h1 : Reads F a b) (h2 : Reads [] b c) : Reads F a c :=
  List.append_nil F ▸ h1.trans h2

/-- the frames consumed by a step that reads the packets `ps` -/
theorem Reads.frames {f : Pkt → Fate} {ps : List Pkt} {w w' : World} (h : Reads (ps.map fun p => (f p, p)) w w') :
    Frames ps w.inboundRest w'.inboundRest :=
  map_snd_fates f ps ▸ h.stream

/-- a normal return of `_read_packet_from_device`: exactly one frame of the stream was consumed, it reads as
    the returned packet, the store is untouched and only requests were recorded -/
theorem readPacket_frame_ok {t : Txn} {w w' : World} {p : Pkt} (h : readPacket t w = (.ok p, w')) :
    ∃ raw reqs, IsRaw p raw ∧ w.inboundRest = raw ++ w'.inboundRest ∧ w'.store = w.store ∧ w'.locks = w.locks ∧
      w'.trace = reqs ++ w.trace ∧ ∀ e ∈ reqs, ∃ a b, e = TEv.req a b := by
  obtain ⟨hb, hd, h1, h2, h3, h4, h5, h6, h7, h8⟩ := readPacket_ok t w p w' h
  obtain ⟨sd, -, -, reqs, ht, hr⟩ := readPacket_wire h
  exact ⟨hb ++ p.data, reqs, ⟨hb, hd, h1, h2, h3, h4, h5, h6, h7, rfl⟩, h8, sd.1, sd.2.2.2.2.2.2.1, ht, hr⟩

theorem fate?_req {e : TEv} (h : ∃ a b, e = TEv.req a b) : fate? e = none := by
  obtain ⟨a, b, rfl⟩ := h; rfl

/-! ### the store loop when the store holds nothing for the transaction -/

theorem storeFind_eq (t : Txn) (az : Bool) (w : World) : storeFind t az w = (.ok (lookup t az w.store), w) := rfl

/-- the store loop under the store lock finds nothing and changes nothing -/
theorem lockedDrain_none {ex : List Cmd} {t : Txn} {az : Bool} {fuel : Nat} {w w' : World} {o : Option Pkt}
    (hn : lookup t az w.store = none) (h : withLock lockStore (drainLoop ex t az fuel) w = (.ok o, w')) :
    lockStore ∉ w.locks ∧ o = none ∧ w' = w := by
  obtain ⟨hfree, w1, hb, rfl⟩ := withLock_ok_inv h
  cases fuel with
  | zero => cases hb
  | succ f =>
    rw [drainLoop, bind_run_ok (storeFind_eq t az _)] at hb
    dsimp only at hb
    rw [hn] at hb
    cases hb
    exact ⟨hfree, rfl, by simp⟩

/-! ### one packet off the wire -/

/-- the event `read` records for a packet it has read off the wire while the store was `s` -/
def wireEv (ex : List Cmd) (t : Txn) (az : Bool) (s : Store) (p : Pkt) : TEv :=
  match fate ex t az p with
  | .delivered => .deliver p
  | .dropped => .drop p
  | .parked => if p.cmd = Cmd.CLSE ∧ s.queue p.arg0 p.arg1 = none then .lost p else .park p

theorem fate?_wireEv (ex : List Cmd) (t : Txn) (az : Bool) (s : Store) (p : Pkt) :
    fate? (wireEv ex t az s p) = some (fate ex t az p, p) := by
  unfold wireEv
  cases h : fate ex t az p <;> simp only [fate?]
  by_cases hd : p.cmd = Cmd.CLSE ∧ s.queue p.arg0 p.arg1 = none <;> simp [hd]

/-- what the caller of one `read` iteration gets for a packet read off the wire -/
def wireRes (ex : List Cmd) (t : Txn) (az : Bool) (p : Pkt) : Option Pkt :=
  if fate ex t az p = .delivered then some p else none

/-- One packet read off the wire by one `read` iteration: exactly one frame `raw` is consumed, it reads as `p`;
    `p` is delivered / dropped / parked (lost) according to `args_match` and `cmd ∈ expected`; the store is
    updated accordingly; besides that only quiet events `pre` are recorded. -/
structure WireStep (ex : List Cmd) (t : Txn) (az : Bool) (s : Store) (w : World) (r : Option Pkt) (w' : World)
    (p : Pkt) (raw : Bytes) (pre : List TEv) : Prop where
  isRaw : IsRaw p raw
  stream : w.inboundRest = raw ++ w'.inboundRest
  store : w'.store = storeStep s (fate ex t az p, p)
  trace : w'.trace = wireEv ex t az s p :: pre ++ w.trace
  res : r = wireRes ex t az p

/-- what `readIterRest` does with the packet `p`, the store lock being free: it is parked, or — a CLSE clearing
    its pair's entry first — delivered or dropped; by cases, evaluating the model -/
theorem readIterRest_run {ex : List Cmd} {t : Txn} {az : Bool} {w : World} (p : Pkt) (hfree : lockStore ∉ w.locks) :
    readIterRest ex t az p w = (.ok (wireRes ex t az p),
      { w with store := storeStep w.store (fate ex t az p, p), trace := wireEv ex t az w.store p :: w.trace }) := by
  unfold readIterRest
  obtain ⟨c, a0, a1, d⟩ := p
  by_cases hm : t.argsMatch a0 a1 az = true
  · by_cases hc : c = .CLSE
    · subst hc
      by_cases he : Cmd.CLSE ∈ ex <;>
        simp [wireRes, wireEv, fate, storeStep, hm, he, withLock, hfree, storeClear, M.modify, emit, bind, M.bind, pure,
          M.pure, List.erase_cons_head]
    · by_cases he : c ∈ ex <;>
        simp [wireRes, wireEv, fate, storeStep, hm, hc, he, emit, bind, M.bind, pure, M.pure]
  · simp [wireRes, wireEv, fate, storeStep, hm, withLock, hfree, storePut, bind, M.bind, pure, M.pure, List.erase_cons_head]

theorem readIterTail_wire {ex : List Cmd} {t : Txn} {az : Bool} {w w' : World} {r : Option Pkt}
    (hfree : lockStore ∉ w.locks) (h : readIterTail ex t az w = (.ok r, w')) :
    ∃ p raw reqs, (∀ e ∈ reqs, ∃ a b, e = TEv.req a b) ∧ WireStep ex t az w.store w r w' p raw reqs := by
  obtain ⟨p, w1, hp, h⟩ := bind_ok_inv (x := readPacket t) h
  obtain ⟨raw, reqs, hraw, hstream, hstore, hlocks, htrace, hreqs⟩ := readPacket_frame_ok hp
  rw [readIterRest_run p (hlocks ▸ hfree)] at h
  cases h
  refine ⟨p, raw, reqs, hreqs, hraw, hstream, by rw [← hstore], ?_, rfl⟩
  show wireEv ex t az w1.store p :: w1.trace = _
  rw [hstore, htrace]
  rfl

theorem WireStep.reads {ex : List Cmd} {t : Txn} {az : Bool} {w w' : World} {r : Option Pkt} {p : Pkt} {raw : Bytes}
    {pre : List TEv} (h : WireStep ex t az w.store w r w' p raw pre) (hpre : ∀ e ∈ pre, fate? e = none) :
    Reads [(fate ex t az p, p)] w w' := by
  refine ⟨?_, h.store, wireEv ex t az w.store p :: pre, h.trace, ?_⟩
  · rw [h.stream]; exact Frames.single h.isRaw
  · rw [← List.singleton_append, wireFates_append, wireFates_eq_nil hpre]
    simp [wireFates, fate?_wireEv]

/-- one `read` iteration when the store holds nothing for the transaction: nothing is taken from the store,
    exactly one packet is read off the wire -/
theorem readIter_reads {ex : List Cmd} {t : Txn} {az : Bool} {w w' : World} {r : Option Pkt}
    (hn : lookup t az w.store = none) (h : readIter ex t az w = (.ok r, w')) :
    ∃ p, Reads [(fate ex t az p, p)] w w' ∧ r = wireRes ex t az p := by
  rw [readIter_eq] at h
  obtain ⟨-, w1, hb, rfl⟩ := withLock_ok_inv h
  rw [bind_run_ok (M.get_run _)] at hb
  obtain ⟨o, w2, hd, hrest⟩ := bind_ok_inv hb
  obtain ⟨hfree, rfl, rfl⟩ := lockedDrain_none (w := { w with locks := lockTransport :: w.locks }) hn hd
  obtain ⟨p, raw, reqs, hreqs, hs⟩ := readIterTail_wire hfree hrest
  -- releasing the transport lock changes none of the fields `WireStep` speaks of
  have hs' : WireStep ex t az w.store w r { w1 with locks := w1.locks.erase lockTransport } p raw reqs :=
    ⟨hs.isRaw, hs.stream, hs.store, hs.trace, hs.res⟩
  exact ⟨p, hs'.reads fun e he => fate?_req (hreqs e he), hs.res⟩

/-! ### the read loop and `_AdbIOManager.read` -/

/-- the postcondition of a read that returned `p` with nothing for the transaction in the store: the packets
    `qs ++ [p]` were read off the wire and met the fates `f`; none of `qs` was delivered, `p` is -/
def ReadsTo (f : Pkt → Fate) (w : World) (p : Pkt) (w' : World) : Prop :=
  ∃ qs, Reads ((qs ++ [p]).map fun q => (f q, q)) w w' ∧ (∀ q ∈ qs, f q ≠ .delivered) ∧ f p = .delivered

theorem ReadsTo.then {f : Pkt → Fate} {w w1 w' : World} {p : Pkt} (h : ReadsTo f w p w1) (h2 : Reads [] w1 w') :
    ReadsTo f w p w' := by
  obtain ⟨qs, hR, a, b⟩ := h
  exact ⟨qs, hR.then_quiet h2, a, b⟩

/-- the store after such a read is again clean -/
theorem ReadsTo.clean {ex : List Cmd} {t : Txn} {az : Bool} {l : Nat} {w w' : World} {p : Pkt}
    (hl : t.localId = some l) (hc : Clean t az w.store) (h : ReadsTo (fate ex t az) w p w') : Clean t az w'.store := by
  obtain ⟨qs, hR, -, -⟩ := h
  rw [hR.store]
  exact Clean.steps hl hc _

theorem readLoop_reads {ex : List Cmd} {t : Txn} {az : Bool} {start : Int} {l : Nat} (hl : t.localId = some l) :
    ∀ (fuel : Nat) {w w' : World} {p : Pkt}, Clean t az w.store →
      readLoop ex t az start fuel w = (.ok p, w') → ReadsTo (fate ex t az) w p w' := by
  intro fuel
  induction fuel with
  | zero => intro w w' p _ h; cases h
  | succ f ih =>
    intro w w' p hc h
    unfold readLoop at h
    obtain ⟨o, w1, hi, h⟩ := bind_ok_inv h
    obtain ⟨q, hR, ho⟩ := readIter_reads hc.lookup hi
    unfold wireRes at ho
    split at ho <;> subst ho
    · next hf =>
      cases h
      exact ⟨[], hR, by simp, hf⟩
    · next hf =>
      -- `q` was parked or dropped: unless the time is up the loop goes on, with a store that is still clean
      dsimp only at h
      rw [timeoutCheck_run] at h
      split at h
      · cases h
      · split at h
        · cases h
        · obtain ⟨qs, hR2, hqs, hp⟩ := ih (hR.store ▸ Clean.steps hl hc [q]) h
          exact ⟨q :: qs, hR.trans hR2, List.forall_mem_cons.2 ⟨hf, hqs⟩, hp⟩

/-- `_AdbIOManager.read(expected, adb_info, allow_zeros)` returning `p` while the store holds nothing for the
    transaction: nothing comes out of the store; the packets `qs ++ [p]` are read off the wire. -/
theorem ioRead_reads {ex : List Cmd} {t : Txn} {az : Bool} {l : Nat} {w w' : World} {p : Pkt}
    (hl : t.localId = some l) (hc : Clean t az w.store) (h : ioRead ex t az w = (.ok p, w')) :
    ReadsTo (fate ex t az) w p w' := by
  unfold ioRead at h
  rw [bind_run_ok (M.get_run _)] at h
  obtain ⟨o, w1, hd, h⟩ := bind_ok_inv h
  obtain ⟨-, rfl, rfl⟩ := lockedDrain_none hc.lookup hd
  dsimp only at h
  rw [bind_run_ok (now_run _)] at h
  exact readLoop_reads hl _ hc h

/-- `_AdbIOManager.read(expected, adb_info, allow_zeros)` returning `p` while the packet store holds nothing
    for the transaction (in particular when it is empty), on a device stream that consists of the frames of
    `ps` followed by `tl`: the packets read are a prefix `qs ++ [p]` of `ps`; `p` is the FIRST packet of `ps`
    whose ids match and whose command is expected; every earlier one was parked/lost (ids do not match) or
    dropped (ids match, command unexpected) — `Reads` records exactly that in the trace and in the store —
    and the stream continues with the frames of the rest.  The only alternative: no packet of `ps` is
    deliverable and the read went on into `tl`, which then starts with a further frame. -/
theorem ioRead_frames {ex : List Cmd} {t : Txn} {az : Bool} {l : Nat} {w w' : World} {p : Pkt} {ps : List Pkt}
    {tl : Bytes} (hl : t.localId = some l) (hc : Clean t az w.store) (hf : Frames ps w.inboundRest tl)
    (h : ioRead ex t az w = (.ok p, w')) :
    (∃ qs rest, ps = qs ++ p :: rest ∧ (∀ q ∈ qs, fate ex t az q ≠ .delivered) ∧ fate ex t az p = .delivered ∧
        Frames rest w'.inboundRest tl ∧ Reads (classify ex t az (qs ++ [p])) w w' ∧ Clean t az w'.store) ∨
    ((∀ q ∈ ps, fate ex t az q ≠ .delivered) ∧ Readable tl) := by
  have hRT := ioRead_reads hl hc h
  have hc' := hRT.clean hl hc
  obtain ⟨qs, hR, hqs, hp⟩ := hRT
  rcases hR.frames.compare_snoc hf with ⟨rest, rfl, hrest⟩ | ⟨hsub, hread⟩
  · exact Or.inl ⟨qs, rest, rfl, hqs, hp, hrest, hR, hc'⟩
  · exact Or.inr ⟨fun x hx => hqs x (hsub x hx), hread⟩

/-
  Part C: the stream layer (`_read_until`, `_read_until_close`, `_open`) in terms of the frames consumed from
  the device's byte stream.
-/

/-! ### sending reads nothing -/

theorem ioSend_reads {m : Msg} {t : Txn} {w w' : World} {u : Unit} (h : ioSend m t w = (.ok u, w')) :
    Reads [] w w' := by
  obtain ⟨-, w1, hb, rfl⟩ := withLock_ok_inv h
  obtain ⟨sd, hin, htr, -, -⟩ := sendRaw_spec _ _ _ _ _ hb
  exact Reads.quiet (evs := [.tx m]) hin sd.1 htr (by simp [fate?])

/-! ### `_read_until` -/

theorem readUntil_reads {ex : List Cmd} {t : Txn} {l : Nat} {w w' : World} {c : Cmd} {d : Bytes}
    (hl : t.localId = some l) (hc : Clean t true w.store) (h : readUntil ex t w = (.ok (c, d), w')) :
    ∃ p, p.cmd = c ∧ p.data = d ∧ ReadsTo (fate ex t true) w p w' := by
  unfold readUntil at h
  obtain ⟨p, w1, hr, h⟩ := bind_ok_inv h
  have hR := ioRead_reads hl hc hr
  split at h
  · obtain ⟨u, w2, hok, h⟩ := bind_ok_inv h
    cases h
    exact ⟨p, rfl, rfl, hR.then (ioSend_reads hok)⟩
  · cases h
    exact ⟨p, rfl, rfl, hR⟩

/-! ### ids -/

/-- `p` carries this stream's ids: `arg1` is the local id `l` (or the legacy 0) and `arg0` the remote id `r` (or 0)
    — `args_match(arg0, arg1, allow_zeros=True)` -/
def mine (l r : Nat) (p : Pkt) : Bool := (p.arg1 == 0 || p.arg1 == l) && (p.arg0 == 0 || p.arg0 == r)

/-- `p` is the device's OKAY for the OPEN with local id `l` -/
def isOkayFor (l : Nat) (p : Pkt) : Bool := p.arg1 == l && p.cmd == .OKAY

/-- what `_open` (local id `l`) does with a packet read off the wire -/
def fateOpen (l : Nat) (p : Pkt) : Fate :=
  if p.arg1 = l then (if p.cmd = .OKAY then .delivered else .dropped) else .parked

/-- what `_read_until_close` on the stream `(l, r)` does with a packet read off the wire -/
def fateStream (l r : Nat) (p : Pkt) : Fate :=
  if mine l r p then (if p.cmd = .CLSE ∨ p.cmd = .WRTE then .delivered else .dropped) else .parked

theorem argsMatch_open {t : Txn} {l : Nat} (hl : t.localId = some l) (hr : t.remoteId = none) (a0 a1 : Nat) :
    t.argsMatch a0 a1 false = decide (a1 = l) := by
  unfold Txn.argsMatch
  rw [hl, hr]
  by_cases h : a1 = l
  · subst h; simp
  · simp [h, Ne.symm h]

theorem argsMatch_stream {t : Txn} {l r : Nat} (hl : t.localId = some l) (hr : t.remoteId = some r) (p : Pkt) :
    t.argsMatch p.arg0 p.arg1 true = mine l r p := by
  unfold Txn.argsMatch mine
  rw [hl, hr]
  simp [BEq.comm (a := l), BEq.comm (a := r)]

theorem fate_open_eq {t : Txn} {l : Nat} (hl : t.localId = some l) (hr : t.remoteId = none) :
    fate [.OKAY] t false = fateOpen l := by
  funext p
  unfold fate fateOpen
  rw [argsMatch_open hl hr]
  by_cases h1 : p.arg1 = l <;> by_cases h2 : p.cmd = .OKAY <;> simp [h1, h2]

/-- the commands `_read_until_close` waits for -/
abbrev exS : List Cmd := [.CLSE, .WRTE]

theorem fate_stream_eq {t : Txn} {l r : Nat} (hl : t.localId = some l) (hr : t.remoteId = some r) :
    fate exS t true = fateStream l r := by
  funext p
  unfold fate fateStream
  rw [argsMatch_stream hl hr]
  by_cases h1 : mine l r p = true <;> by_cases h2 : p.cmd = .CLSE <;> by_cases h3 : p.cmd = .WRTE <;>
    simp [h1, h2, h3, exS]

theorem fateOpen_delivered {l : Nat} {p : Pkt} : fateOpen l p = .delivered ↔ isOkayFor l p = true := by
  unfold fateOpen isOkayFor
  by_cases h1 : p.arg1 = l <;> by_cases h2 : p.cmd = .OKAY <;> simp [h1, h2]

theorem fateOpen_not_delivered {l : Nat} {p : Pkt} : fateOpen l p ≠ .delivered ↔ isOkayFor l p = false := by
  rw [Ne, fateOpen_delivered, Bool.not_eq_true]

theorem fateOpen_parked {l : Nat} {p : Pkt} : fateOpen l p = .parked ↔ p.arg1 ≠ l := by
  unfold fateOpen
  by_cases h1 : p.arg1 = l <;> by_cases h2 : p.cmd = .OKAY <;> simp [h1, h2]

theorem fateStream_delivered {l r : Nat} {p : Pkt} :
    fateStream l r p = .delivered ↔ mine l r p = true ∧ (p.cmd = .CLSE ∨ p.cmd = .WRTE) := by
  unfold fateStream
  by_cases h1 : mine l r p = true <;> by_cases h2 : p.cmd = .CLSE ∨ p.cmd = .WRTE <;> simp [h1, h2]

/-- a key whose `arg1` differs from `l` does not fit the transaction `_open` reads for -/
theorem acceptsKey_open {t : Txn} {l : Nat} (hl : t.localId = some l) (hr : t.remoteId = none) (k : Nat × Nat)
    (hk : k.2 ≠ l) : acceptsKey t false k = false := by
  simp [acceptsKey, hl, hr, Store.keyMatches, hk]

/-- a key whose `arg1` differs from `l` and from 0 does not fit the stream `(l, r)` -/
theorem acceptsKey_stream {t : Txn} {l r : Nat} (hl : t.localId = some l) (hr : t.remoteId = some r) (k : Nat × Nat)
    (hk : k.2 ≠ l ∧ k.2 ≠ 0) : acceptsKey t true k = false := by
  simp [acceptsKey, hl, hr, Store.keyMatchesZ, Store.keyMatches, hk.1, hk.2]

/-! ### `_read_until_close` -/

/-- the postcondition of `_read_until_close` on the stream `(l, r)` in terms of the packets read off the wire:
    `mid ++ [c]` were read, `c` is the first CLSE of this stream, the items are the payloads of this stream's
    WRTEs in `mid` -/
def CloseReads (l r : Nat) (acc : List Bytes) (w : World) (items : List Bytes) (w' : World) : Prop :=
  ∃ mid c, Reads ((mid ++ [c]).map fun p => (fateStream l r p, p)) w w' ∧
    (∀ q ∈ mid, ¬ (mine l r q = true ∧ q.cmd = .CLSE)) ∧ mine l r c = true ∧ c.cmd = .CLSE ∧
    items = acc.reverse ++ (mid.filter (fun q => mine l r q && q.cmd == .WRTE)).map (·.data)

/-- packets that `_read_until_close` did not deliver are neither this stream's CLSE nor one of its WRTEs -/
theorem skipped_stream {l r : Nat} {qs : List Pkt} (h : ∀ q ∈ qs, fateStream l r q ≠ .delivered) :
    (∀ q ∈ qs, ¬ (mine l r q = true ∧ q.cmd = .CLSE)) ∧ qs.filter (fun q => mine l r q && q.cmd == .WRTE) = [] := by
  refine ⟨fun q hq hh => h q hq (fateStream_delivered.2 ⟨hh.1, .inl hh.2⟩), List.filter_eq_nil_iff.2 fun q hq hh => ?_⟩
  rw [Bool.and_eq_true, beq_iff_eq] at hh
  exact h q hq (fateStream_delivered.2 ⟨hh.1, .inr hh.2⟩)

/-- the read that returns this stream's CLSE ends the loop -/
theorem CloseReads.clse {l r : Nat} {acc : List Bytes} {w w' : World} {c : Pkt}
    (h : ReadsTo (fateStream l r) w c w') (hc : c.cmd = .CLSE) : CloseReads l r acc w acc.reverse w' := by
  obtain ⟨qs, hR, hqs, hd⟩ := h
  obtain ⟨h1, h2⟩ := skipped_stream hqs
  exact ⟨qs, c, hR, h1, (fateStream_delivered.1 hd).1, hc, by simp [h2]⟩

/-- a read that returns one of this stream's WRTEs adds its payload to the items -/
theorem CloseReads.wrte {l r : Nat} {acc items : List Bytes} {w w1 w' : World} {p : Pkt}
    (h : ReadsTo (fateStream l r) w p w1) (hp : p.cmd = .WRTE) (h2 : CloseReads l r (p.data :: acc) w1 items w') :
    CloseReads l r acc w items w' := by
  obtain ⟨qs, hR, hqs, hd⟩ := h
  obtain ⟨h1, hnil⟩ := skipped_stream hqs
  obtain ⟨mid, c, hR2, hmid, hcm, hcc, rfl⟩ := h2
  refine ⟨qs ++ p :: mid, c, by simpa using hR.trans hR2, ?_, hcm, hcc, ?_⟩
  · exact List.forall_mem_append.2 ⟨h1, List.forall_mem_cons.2 ⟨fun hh => Cmd.noConfusion (hp.symm.trans hh.2), hmid⟩⟩
  · simp [hnil, (fateStream_delivered.1 hd).1, hp]

theorem readUntilCloseLoop_reads {t : Txn} {start : Int} {l r : Nat} (hl : t.localId = some l) (hr : t.remoteId = some r) :
    ∀ (fuel : Nat) {acc : List Bytes} {w w' : World} {items : List Bytes}, Clean t true w.store →
      readUntilCloseLoop t start fuel acc w = (.ok items, w') → CloseReads l r acc w items w' := by
  intro fuel
  induction fuel with
  | zero => intro acc w w' items _ h; cases h
  | succ f ih =>
    intro acc w w' items hc h
    unfold readUntilCloseLoop at h
    obtain ⟨⟨cmd, data⟩, w1, hu, h⟩ := bind_ok_inv h
    obtain ⟨p, rfl, rfl, hRT⟩ := readUntil_reads hl hc hu
    have hc1 : Clean t true w1.store := hRT.clean hl hc
    rw [fate_stream_eq hl hr] at hRT
    dsimp only at h
    split at h
    · next hcl =>
      -- the device closed the stream
      obtain ⟨u, w2, hs, h⟩ := bind_ok_inv h
      cases h
      exact .clse (hRT.then (ioSend_reads hs)) hcl
    · next hcl =>
      obtain ⟨u, w2, hem, h⟩ := bind_ok_inv h
      cases hem
      have hY : Reads [] w1 { w1 with trace := .yielded p.data :: w1.trace } :=
        Reads.quiet (evs := [.yielded p.data]) rfl rfl rfl (by simp [fate?])
      obtain ⟨-, -, -, hd⟩ := id hRT
      refine .wrte (hRT.then hY) ((fateStream_delivered.1 hd).2.resolve_left hcl) (ih hc1 ?_)
      -- the check of the overall timeout, when it passes, changes nothing
      cases htot : t.total with
      | none => simpa only [htot] using h
      | some tot =>
        simp only [htot] at h
        rw [timeoutCheck_run] at h
        dsimp only at h
        split at h
        · cases h
        · exact h

/-- `_read_until_close` on the stream `(l, r)`: skip to the first CLSE with this stream's ids, collecting the
    payloads of the WRTEs with this stream's ids; result: the items and the packets after that CLSE -/
def closeItems (l r : Nat) : List Pkt → Option (List Bytes × List Pkt)
  | [] => none
  | p :: ps =>
    if mine l r p && p.cmd == .CLSE then some ([], ps)
    else match closeItems l r ps with
      | none => none
      | some (ds, rest) => some (if mine l r p && p.cmd == .WRTE then p.data :: ds else ds, rest)

/-- packets without a CLSE of the stream are skipped, the payloads of the stream's WRTEs among them collected -/
theorem closeItems_append {l r : Nat} {mid : List Pkt} (hmid : ∀ q ∈ mid, ¬ (mine l r q = true ∧ q.cmd = .CLSE))
    (xs : List Pkt) :
    closeItems l r (mid ++ xs) = (closeItems l r xs).map fun x =>
      ((mid.filter (fun q => mine l r q && q.cmd == .WRTE)).map (·.data) ++ x.1, x.2) := by
  induction mid with
  | nil => simp
  | cons p mid ih =>
    have hp : ¬ (mine l r p && p.cmd == .CLSE) = true := by simpa using hmid p (by simp)
    rw [List.cons_append, closeItems, if_neg hp, ih fun q hq => hmid q (by simp [hq])]
    cases closeItems l r xs <;> by_cases hw : (mine l r p && p.cmd == .WRTE) = true <;> simp [hw]

theorem closeItems_none {l r : Nat} {ps : List Pkt} (h : ∀ q ∈ ps, ¬ (mine l r q = true ∧ q.cmd = .CLSE)) :
    closeItems l r ps = none := by
  simpa [closeItems] using closeItems_append h []

theorem closeItems_decomp {l r : Nat} {mid : List Pkt} {c : Pkt} {rest : List Pkt}
    (hmid : ∀ q ∈ mid, ¬ (mine l r q = true ∧ q.cmd = .CLSE)) (hc : mine l r c = true) (hcc : c.cmd = .CLSE) :
    closeItems l r (mid ++ c :: rest) =
      some ((mid.filter (fun q => mine l r q && q.cmd == .WRTE)).map (·.data), rest) := by
  simp [closeItems_append hmid, closeItems, hc, hcc]

/-- conversely, when the reference semantics terminates `ps` splits at its first CLSE of the stream -/
theorem closeItems_some {l r : Nat} {ps : List Pkt} {ds : List Bytes} {rest : List Pkt} (h : closeItems l r ps = some (ds, rest)) :
    ∃ mid c, ps = mid ++ c :: rest ∧ (∀ q ∈ mid, ¬ (mine l r q = true ∧ q.cmd = .CLSE)) ∧ mine l r c = true ∧ c.cmd = .CLSE ∧
      ds = (mid.filter (fun q => mine l r q && q.cmd == .WRTE)).map (·.data) := by
  cases hf : ps.find? (fun q => mine l r q && q.cmd == .CLSE) with
  | none =>
    rw [closeItems_none (by simpa using hf)] at h
    cases h
  | some c =>
    obtain ⟨hc, mid, rest', rfl, hmid⟩ := List.find?_eq_some_iff_append.1 hf
    rw [Bool.and_eq_true, beq_iff_eq] at hc
    have hmid' : ∀ q ∈ mid, ¬ (mine l r q = true ∧ q.cmd = .CLSE) := fun q hq hh => by
      simpa [hh.1, hh.2] using hmid q hq
    rw [closeItems_decomp hmid' hc.1 hc.2] at h
    cases h
    exact ⟨mid, c, rfl, hmid', hc.1, hc.2, rfl⟩

/-- `_read_until_close` on the stream `(l, r)` returning normally, nothing for the stream in the store, device
    stream = frames of `ps` then `tl`: `ps = mid ++ c :: rest` with `c` the first CLSE carrying the stream's ids;
    the items are the payloads of the WRTEs of `mid` carrying the stream's ids; exactly `mid ++ [c]` were read.
    Alternative: no such CLSE in `ps` and reading went on into `tl`. -/
theorem readUntilClose_frames {t : Txn} {l r : Nat} {w w' : World} {items : List Bytes} {ps : List Pkt} {tl : Bytes}
    (hl : t.localId = some l) (hr : t.remoteId = some r) (hc : Clean t true w.store)
    (hf : Frames ps w.inboundRest tl) (h : readUntilClose t w = (.ok items, w')) :
    (∃ mid c rest, ps = mid ++ c :: rest ∧ (∀ q ∈ mid, ¬ (mine l r q = true ∧ q.cmd = .CLSE)) ∧
        mine l r c = true ∧ c.cmd = .CLSE ∧
        items = (mid.filter (fun q => mine l r q && q.cmd == .WRTE)).map (·.data) ∧
        Frames rest w'.inboundRest tl ∧ Reads ((mid ++ [c]).map (fun p => (fateStream l r p, p))) w w') ∨
    (closeItems l r ps = none ∧ Readable tl) := by
  unfold readUntilClose at h
  rw [bind_run_ok (now_run _), bind_run_ok (M.get_run _)] at h
  obtain ⟨mid, c, hR, hmid, hcm, hcc, hitems⟩ := readUntilCloseLoop_reads hl hr _ hc h
  rcases hR.frames.compare_snoc hf with ⟨rest, hps, hrest⟩ | ⟨hsub, hread⟩
  · exact Or.inl ⟨mid, c, rest, hps, hmid, hcm, hcc, hitems, hrest, hR⟩
  · exact Or.inr ⟨closeItems_none fun x hx => hmid x (hsub x hx), hread⟩

/-! ### `_open` -/

/-- `_open` returning normally, nothing for the new local id `l` in the store, device stream = frames of `ps`
    then `tl`: `ps = pre ++ okay :: rest` with `okay` the first OKAY carrying `l`, whose `arg0` becomes the remote
    id; exactly `pre ++ [okay]` were read, the packets of `pre` parked (`arg1 ≠ l`) or dropped.
    Alternative: no such OKAY in `ps` and reading went on into `tl`. -/
theorem openStream_frames {dest : Bytes} {tt rt total : Timeout} {w w' : World} {t' : Txn} {ps : List Pkt} {tl : Bytes}
    (hs : KeysSat (fun k => k.2 ≠ nextId w.localId) w.store) (hf : Frames ps w.inboundRest tl)
    (h : openStream dest tt rt total w = (.ok t', w')) :
    (∃ pre okay rest, ps = pre ++ okay :: rest ∧ (∀ q ∈ pre, isOkayFor (nextId w.localId) q = false) ∧
        isOkayFor (nextId w.localId) okay = true ∧ t'.localId = some (nextId w.localId) ∧
        t'.remoteId = some okay.arg0 ∧ Frames rest w'.inboundRest tl ∧
        Reads ((pre ++ [okay]).map fun p => (fateOpen (nextId w.localId) p, p)) w w') ∨
    ((∀ q ∈ ps, isOkayFor (nextId w.localId) q = false) ∧ Readable tl) := by
  rcases openStream_inv h with ⟨e, he, -⟩ | ⟨t, hlid, hrid, -, h⟩
  · cases he
  obtain ⟨u, w2, hsend, h⟩ := bind_ok_inv h
  have hS := ioSend_reads hsend
  obtain ⟨okay, w3, hread, h⟩ := bind_ok_inv h
  cases h
  have hc2 : Clean t false w2.store := hS.store ▸ hs.mono (acceptsKey_open hlid hrid)
  have hf2 : Frames ps w2.inboundRest tl := hS.stream ▸ hf
  rcases ioRead_frames hlid hc2 hf2 hread with ⟨pre, rest, rfl, hpre, hok, hrest, hR, -⟩ | ⟨hno, hreadable⟩
  · rw [classify, fate_open_eq hlid hrid] at hR
    rw [fate_open_eq hlid hrid] at hpre hok
    have hR' := hS.trans hR
    exact Or.inl ⟨pre, okay, rest, rfl, fun q hq => fateOpen_not_delivered.1 (hpre q hq), fateOpen_delivered.1 hok,
      hlid, rfl, hrest, hR'.stream, hR'.store, hR'.trace⟩
  · rw [fate_open_eq hlid hrid] at hno
    exact Or.inr ⟨fun q hq => fateOpen_not_delivered.1 (hno q hq), hreadable⟩

/-
  Part D: the reference semantics `streamItems` of a command stream on a list of device packets, and
  `_streaming_command` against a device stream that consists of the frames — or the encodings — of such a list.
-/

/-- `_streaming_command` with new local id `l`: skip to the first OKAY carrying `l`; its `arg0` is the remote id -/
def streamItems (l : Nat) : List Pkt → Option (List Bytes × List Pkt)
  | [] => none
  | p :: ps => if isOkayFor l p then closeItems l p.arg0 ps else streamItems l ps

theorem streamItems_skip {l : Nat} {pre : List Pkt} (hpre : ∀ q ∈ pre, isOkayFor l q = false) (xs : List Pkt) :
    streamItems l (pre ++ xs) = streamItems l xs := by
  induction pre with
  | nil => rfl
  | cons p pre ih =>
    rw [List.cons_append, streamItems, hpre p (by simp), if_neg Bool.false_ne_true, ih fun q hq => hpre q (by simp [hq])]

theorem streamItems_none {l : Nat} {ps : List Pkt} (h : ∀ q ∈ ps, isOkayFor l q = false) : streamItems l ps = none := by
  simpa [streamItems] using streamItems_skip h []

theorem streamItems_okay {l : Nat} {pre : List Pkt} {okay : Pkt} {xs : List Pkt}
    (hpre : ∀ q ∈ pre, isOkayFor l q = false) (hok : isOkayFor l okay = true) :
    streamItems l (pre ++ okay :: xs) = closeItems l okay.arg0 xs := by
  rw [streamItems_skip hpre, streamItems, if_pos hok]

/-- The conversation of a command stream with local id `l` inside the packet list `ps`: `okay` is the first
    OKAY carrying `l` (after the packets `pre`), `c` the first CLSE with the ids of the stream `(l, okay.arg0)`
    after it (after the packets `mid`), `rest` is what follows. -/
structure Conversation (l : Nat) (ps pre : List Pkt) (okay : Pkt) (mid : List Pkt) (c : Pkt) (rest : List Pkt) : Prop where
  split : ps = pre ++ okay :: (mid ++ c :: rest)
  noOkay : ∀ q ∈ pre, isOkayFor l q = false
  isOkay : isOkayFor l okay = true
  noClse : ∀ q ∈ mid, ¬ (mine l okay.arg0 q = true ∧ q.cmd = .CLSE)
  isClse : mine l okay.arg0 c = true ∧ c.cmd = .CLSE

/-- the items of the conversation: payloads of the WRTEs with this stream's ids between the OKAY and the CLSE -/
def convItems (l : Nat) (okay : Pkt) (mid : List Pkt) : List Bytes :=
  (mid.filter (fun q => mine l okay.arg0 q && q.cmd == .WRTE)).map (·.data)

/-- the wire fates of the conversation -/
def convFates (l : Nat) (pre : List Pkt) (okay : Pkt) (mid : List Pkt) (c : Pkt) : List (Fate × Pkt) :=
  (pre ++ [okay]).map (fun p => (fateOpen l p, p)) ++ (mid ++ [c]).map (fun p => (fateStream l okay.arg0 p, p))

theorem Conversation.streamItems {l : Nat} {ps pre : List Pkt} {okay : Pkt} {mid : List Pkt} {c : Pkt} {rest : List Pkt}
    (h : Conversation l ps pre okay mid c rest) : streamItems l ps = some (convItems l okay mid, rest) := by
  rw [h.split, streamItems_okay h.noOkay h.isOkay, closeItems_decomp h.noClse h.isClse.1 h.isClse.2]
  rfl

/-- conversely, when the reference semantics terminates the conversation is in `ps` -/
theorem streamItems_some {l : Nat} {ps : List Pkt} {ds : List Bytes} {rest : List Pkt} (h : streamItems l ps = some (ds, rest)) :
    ∃ pre okay mid c, Conversation l ps pre okay mid c rest ∧ ds = convItems l okay mid := by
  cases hf : ps.find? (isOkayFor l) with
  | none =>
    rw [streamItems_none (by simpa using hf)] at h
    cases h
  | some okay =>
    obtain ⟨hok, pre, xs, rfl, hpre⟩ := List.find?_eq_some_iff_append.1 hf
    have hpre' : ∀ q ∈ pre, isOkayFor l q = false := by simpa using hpre
    rw [streamItems_okay hpre' hok] at h
    obtain ⟨mid, c, rfl, hmid, hcm, hcc, rfl⟩ := closeItems_some h
    exact ⟨pre, okay, mid, c, ⟨rfl, hpre', hok, hmid, hcm, hcc⟩, rfl⟩

theorem convFates_pkts (l : Nat) (pre : List Pkt) (okay : Pkt) (mid : List Pkt) (c : Pkt) :
    (convFates l pre okay mid c).map (·.2) = pre ++ okay :: (mid ++ [c]) := by
  simp [convFates, Function.comp_def]

/-- before the stream's CLSE, what `_read_until_close` delivers are the stream's WRTEs -/
theorem fateStream_delivered_mid {l r : Nat} {q : Pkt} (hn : ¬ (mine l r q = true ∧ q.cmd = .CLSE)) :
    decide (fateStream l r q = .delivered) = (mine l r q && q.cmd == .WRTE) := by
  rw [Bool.eq_iff_iff, decide_eq_true_eq, fateStream_delivered, Bool.and_eq_true, beq_iff_eq]
  exact ⟨fun h => ⟨h.1, h.2.resolve_left fun hc => hn ⟨h.1, hc⟩⟩, fun h => ⟨h.1, .inr h.2⟩⟩

/-- what a conversation delivers to the caller: the OKAY, this stream's WRTEs between OKAY and CLSE, the CLSE —
    nothing of `pre`, nothing foreign, nothing unexpected -/
theorem Conversation.delivered {l : Nat} {ps pre : List Pkt} {okay : Pkt} {mid : List Pkt} {c : Pkt} {rest : List Pkt}
    (h : Conversation l ps pre okay mid c rest) :
    ((convFates l pre okay mid c).filter (fun x => x.1 = Fate.delivered)).map (·.2) =
      okay :: mid.filter (fun q => mine l okay.arg0 q && q.cmd == .WRTE) ++ [c] := by
  have h1 : pre.filter (fun p => decide (fateOpen l p = Fate.delivered)) = [] :=
    List.filter_eq_nil_iff.2 fun q hq => by simp [fateOpen_delivered, h.noOkay q hq]
  have h3 : mid.filter (fun p => decide (fateStream l okay.arg0 p = Fate.delivered)) =
      mid.filter (fun q => mine l okay.arg0 q && q.cmd == .WRTE) :=
    List.filter_congr fun q hq => fateStream_delivered_mid (h.noClse q hq)
  unfold convFates
  rw [List.filter_append, List.map_append, filter_delivered_map, filter_delivered_map, List.filter_append,
    List.filter_append, h1, h3]
  simp [fateOpen_delivered.2 h.isOkay, fateStream_delivered.2 ⟨h.isClse.1, Or.inl h.isClse.2⟩]

/-! ### the zero-id hypothesis -/

/-- No packet with `arg1 = 0` arrives before the OKAY for local id `l`: while `_open` waits (with
    `allow_zeros=False`) such a packet would be parked, and `_read_until_close` (with `allow_zeros=True`) would
    then take it out of the store as if it belonged to the new stream. -/
def NoEarlyZero (l : Nat) (ps : List Pkt) : Prop :=
  ∀ pre q post, ps = pre ++ q :: post → q.arg1 = 0 → ∃ o ∈ pre, isOkayFor l o = true

theorem NoEarlyZero.of_nonzero {l : Nat} {ps : List Pkt} (h : ∀ p ∈ ps, p.arg1 ≠ 0) : NoEarlyZero l ps := by
  intro pre q post hps hq
  exact absurd hq (h q (by rw [hps]; simp))

theorem NoEarlyZero.pre {l : Nat} {ps pre : List Pkt} {x : Pkt} {xs : List Pkt} (h : NoEarlyZero l ps)
    (hps : ps = pre ++ x :: xs) (hpre : ∀ q ∈ pre, isOkayFor l q = false) : ∀ q ∈ pre, q.arg1 ≠ 0 := by
  intro q hq hz
  obtain ⟨a, b, rfl⟩ := List.append_of_mem hq
  obtain ⟨o, ho, hok⟩ := h a q (b ++ x :: xs) (by rw [hps]; simp) hz
  rw [hpre o (by simp [ho])] at hok
  cases hok

/-! ### `_streaming_command` / `_service` against a known device stream -/

/-- `_streaming_command` returning normally on a device stream consisting of the frames of `ps` followed by `tl`,
    with nothing for local ids `l` and 0 in the store beforehand: `ps` contains the conversation, the items are
    its items, the packets read are exactly `pre ++ okay :: mid ++ [c]` with the fates `convFates`, and the
    stream continues with the frames of `rest`.  The only alternative: `ps` does not contain the complete
    conversation and reading went on into `tl`, which starts with a further frame. -/
theorem streamingCommand_frames {svc cmd : Bytes} {tt rt total : Timeout} {w w' : World} {items : List Bytes}
    {ps : List Pkt} {tl : Bytes}
    (hs : KeysSat (fun k => k.2 ≠ nextId w.localId ∧ k.2 ≠ 0) w.store)
    (hf : Frames ps w.inboundRest tl) (hz : NoEarlyZero (nextId w.localId) ps)
    (h : streamingCommand svc cmd tt rt total w = (.ok items, w')) :
    (∃ pre okay mid c rest, Conversation (nextId w.localId) ps pre okay mid c rest ∧
        items = convItems (nextId w.localId) okay mid ∧ Frames rest w'.inboundRest tl ∧
        Reads (convFates (nextId w.localId) pre okay mid c) w w') ∨
    (streamItems (nextId w.localId) ps = none ∧ Readable tl) := by
  unfold streamingCommand at h
  obtain ⟨t', w1, ho, hc⟩ := bind_ok_inv h
  rcases openStream_frames (hs.mono fun _ hk => hk.1) hf ho with
    ⟨pre, okay, rest1, hps, hpre, hok, hl', hr', hrest1, hR1⟩ | ⟨hno, hread⟩
  · -- what `_open` parked carries neither the new local id nor, by hypothesis, a zero id
    have hs1 : KeysSat (fun k => k.2 ≠ nextId w.localId ∧ k.2 ≠ 0) w1.store := by
      rw [hR1.store]
      refine hs.steps _ _ fun q hq hpk => ?_
      rcases List.mem_append.1 hq with hq | hq
      · exact ⟨fateOpen_parked.1 hpk, hz.pre hps hpre q hq⟩
      · cases List.mem_singleton.1 hq
        rw [fateOpen_delivered.2 hok] at hpk
        cases hpk
    have hc1 : Clean t' true w1.store := hs1.mono (acceptsKey_stream hl' hr')
    rcases readUntilClose_frames hl' hr' hc1 hrest1 hc with
      ⟨mid, c, rest, hr1, hmid, hcm, hcc, hitems, hrest, hR2⟩ | ⟨hnone, hread⟩
    · exact Or.inl ⟨pre, okay, mid, c, rest, ⟨by rw [hps, hr1], hpre, hok, hmid, hcm, hcc⟩, hitems, hrest, hR1.trans hR2⟩
    · exact Or.inr ⟨by rw [hps, streamItems_okay hpre hok, hnone], hread⟩
  · exact Or.inr ⟨streamItems_none hno, hread⟩

/-- `_streaming_command` on an empty store against a concatenation of `Pkt.encode`s: as `streamingCommand_frames`,
    and the stream continues with the encodings of `rest` -/
theorem streamingCommand_encode {svc cmd : Bytes} {tt rt total : Timeout} {w w' : World} {items : List Bytes}
    {ps : List Pkt} {tl : Bytes} (hs : w.store = [])
    (hbs : w.inboundRest = (ps.map Pkt.encode).flatten ++ tl) (hpk : ∀ p ∈ ps, p.toMsg.Packable)
    (hz : NoEarlyZero (nextId w.localId) ps)
    (h : streamingCommand svc cmd tt rt total w = (.ok items, w')) :
    (∃ pre okay mid c rest, Conversation (nextId w.localId) ps pre okay mid c rest ∧
        items = convItems (nextId w.localId) okay mid ∧
        w'.inboundRest = (rest.map Pkt.encode).flatten ++ tl ∧
        Reads (convFates (nextId w.localId) pre okay mid c) w w') ∨
    (streamItems (nextId w.localId) ps = none ∧ Readable tl) := by
  have hs' : KeysSat (fun k => k.2 ≠ nextId w.localId ∧ k.2 ≠ 0) w.store := hs ▸ KeysSat.nil _
  have hf : Frames ps w.inboundRest tl := hbs ▸ Frames_encode tl hpk
  rcases streamingCommand_frames hs' hf hz h with ⟨pre, okay, mid, c, rest, hconv, hv, -, hR⟩ | hno
  · refine Or.inl ⟨pre, okay, mid, c, rest, hconv, hv, ?_, hR⟩
    have hfr := hR.stream
    rw [convFates_pkts] at hfr
    exact Frames.encode_rest (by rw [hconv.split]; simp) hpk hbs hfr
  · exact Or.inr hno

/-- … and when what follows the encodings does not start with a further frame, `ps` contains the conversation;
    in trace form: the wire events, what is delivered, and the store -/
theorem streamingCommand_conversation {svc cmd : Bytes} {tt rt total : Timeout} {w w' : World} {items : List Bytes}
    {ps : List Pkt} {tl : Bytes} (hs : w.store = [])
    (hbs : w.inboundRest = (ps.map Pkt.encode).flatten ++ tl) (hpk : ∀ p ∈ ps, p.toMsg.Packable)
    (htl : ¬ Readable tl) (hz : NoEarlyZero (nextId w.localId) ps)
    (h : streamingCommand svc cmd tt rt total w = (.ok items, w')) :
    ∃ pre okay mid c rest, Conversation (nextId w.localId) ps pre okay mid c rest ∧
      items = convItems (nextId w.localId) okay mid ∧ w'.inboundRest = (rest.map Pkt.encode).flatten ++ tl ∧
      w'.store = (convFates (nextId w.localId) pre okay mid c).foldl storeStep [] ∧
      ∃ evs, w'.trace = evs ++ w.trace ∧ wireFates evs = convFates (nextId w.localId) pre okay mid c ∧
        wirePkts evs = pre ++ okay :: (mid ++ [c]) ∧
        Adb.delivered evs = okay :: mid.filter (fun q => mine (nextId w.localId) okay.arg0 q && q.cmd == .WRTE) ++ [c] := by
  rcases streamingCommand_encode hs hbs hpk hz h with ⟨pre, okay, mid, c, rest, hconv, hv, hrest, hR⟩ | ⟨-, hread⟩
  · obtain ⟨evs, htr, hf⟩ := hR.trace
    refine ⟨pre, okay, mid, c, rest, hconv, hv, hrest, by rw [hR.store, hs], evs, htr, hf, ?_, ?_⟩
    · rw [wirePkts, hf, convFates_pkts]
    · rw [delivered_eq_wireFates, hf, hconv.delivered]
  · exact absurd hread htl

/-- the stream of a `demoWorld` is the concatenation of the encodings of its packets -/
theorem demoWorld_inboundRest (pkts : List Pkt) : (demoWorld pkts).inboundRest = (pkts.map Pkt.encode).flatten ++ [] := by
  simp [demoWorld, World.inboundRest, Conn.inboundRest, List.map_map, Function.comp_def]

/-- the packets the peer of `demoShellWorld` sends: OKAY(77,1), a foreign WRTE(5,9,"x"), "€!" split over two
    WRTEs(77,1), CLSE(77,1) -/
def demoShellPkts : List Pkt :=
  [⟨.OKAY, 77, 1, []⟩, ⟨.WRTE, 5, 9, [120]⟩, ⟨.WRTE, 77, 1, [0xE2, 0x82]⟩, ⟨.WRTE, 77, 1, [0xAC, 0x21]⟩, ⟨.CLSE, 77, 1, []⟩]

theorem demoShellWorld_eq : demoShellWorld = demoWorld demoShellPkts := rfl

/-
  Part E: one `read` iteration with an ARBITRARY packet store — where does the packet it returns come from:
  out of the store (then nothing is read from the device) or off the wire.
-/

theorem mem_flatMap_adel {β γ : Type} {f : Nat × β → List γ} {k : Nat} {l : List (Nat × β)} {x : γ}
    (h : x ∈ (adel k l).flatMap f) : x ∈ l.flatMap f := by
  obtain ⟨e, he, hx⟩ := List.mem_flatMap.1 h
  exact List.mem_flatMap.2 ⟨e, Store.mem_adel he, hx⟩

theorem mem_flatMap_aset {β γ : Type} {f : Nat × β → List γ} {k : Nat} {v : β} {l : List (Nat × β)} {x : γ}
    (h : x ∈ (aset k v l).flatMap f) : x ∈ f (k, v) ∨ x ∈ l.flatMap f := by
  obtain ⟨e, he, hx⟩ := List.mem_flatMap.1 h
  rcases Store.mem_aset he with rfl | he
  · exact .inl hx
  · exact .inr (List.mem_flatMap.2 ⟨e, he, hx⟩)

/-- all packets parked in the store -/
def storePkts (s : Store) : List Pkt :=
  s.flatMap (fun e => e.2.flatMap (fun i => i.2.map (fun qi => (⟨qi.1, i.1, e.1, qi.2⟩ : Pkt))))

theorem mem_storePkts {s : Store} {p : Pkt} :
    p ∈ storePkts s ↔ ∃ inner q, (p.arg1, inner) ∈ s ∧ (p.arg0, q) ∈ inner ∧ (p.cmd, p.data) ∈ q := by
  simp only [storePkts, List.mem_flatMap, List.mem_map]
  constructor
  · rintro ⟨⟨a1, inner⟩, h1, ⟨a0, q⟩, h2, ⟨c, d⟩, h3, rfl⟩
    exact ⟨inner, q, h1, h2, h3⟩
  · rintro ⟨inner, q, h1, h2, h3⟩
    exact ⟨(p.arg1, inner), h1, (p.arg0, q), h2, (p.cmd, p.data), h3, rfl⟩

theorem storePkts_clear {s : Store} {a0 a1 : Nat} : ∀ p ∈ storePkts (s.clear a0 a1), p ∈ storePkts s := by
  intro p hp
  unfold Store.clear at hp
  split at hp
  · exact hp
  · next inner h1 =>
    split at hp
    · exact hp
    · -- the inner dict without `a0` is deleted or put back: either way its packets were those of `inner`
      simp only at hp
      split at hp
      · exact mem_flatMap_adel hp
      · rcases mem_flatMap_aset hp with hp | hp
        · exact List.mem_flatMap.2 ⟨_, alookup_some_mem h1, mem_flatMap_adel hp⟩
        · exact hp

/-- `get` with a concrete pair returns a packet that was in the store and adds nothing to it -/
theorem storePkts_get {s s' : Store} {a b : Nat} {c : Cmd} {x y : Nat} {d : Bytes}
    (h : s.get (some a) (some b) = .ok ((c, x, y, d), s')) :
    (⟨c, x, y, d⟩ : Pkt) ∈ storePkts s ∧ ∀ p ∈ storePkts s', p ∈ storePkts s := by
  unfold Store.get at h
  simp only at h
  split at h
  · cases h
  · next inner h1 =>
    split at h
    · cases h
    · cases h
    · next cmd data q h0 =>
      simp only [Except.ok.injEq, Prod.mk.injEq] at h
      obtain ⟨⟨rfl, rfl, rfl, rfl⟩, rfl⟩ := h
      have hsub : ∀ p ∈ storePkts (aset b (aset a q inner) s), p ∈ storePkts s := by
        intro p hp
        rcases mem_flatMap_aset hp with hp | hp
        · -- `p` is in the inner dict put back under `b`: in the shortened queue or elsewhere in `inner`
          refine List.mem_flatMap.2 ⟨_, alookup_some_mem h1, ?_⟩
          rcases mem_flatMap_aset hp with hp | hp
          · exact List.mem_flatMap.2 ⟨_, alookup_some_mem h0, List.map_cons ▸ List.mem_cons_of_mem _ hp⟩
          · exact hp
        · exact hp
      refine ⟨mem_storePkts.2 ⟨_, _, alookup_some_mem h1, alookup_some_mem h0, List.mem_cons_self⟩, fun p hp => ?_⟩
      split at hp
      · exact hsub p (storePkts_clear p hp)
      · exact hsub p hp
/-- what the store loop of `read` did: the unexpected packets `us` of this transaction were taken out of the
    store and discarded (`unstore`), then either an expected one was found and delivered, or the store holds
    nothing more for the transaction.  The connection is not touched. -/
structure Drained (ex : List Cmd) (t : Txn) (az : Bool) (w : World) (o : Option Pkt) (w' : World) (us : List Pkt) : Prop where
  cur : w'.cur = w.cur
  locks : w'.locks = w.locks
  unstored : ∀ u ∈ us, u ∈ storePkts w.store ∧ t.accepts az u = true ∧ u.cmd ∉ ex
  shrink : ∀ p ∈ storePkts w'.store, p ∈ storePkts w.store
  out : match o with
    | some p => w'.trace = .deliver p :: (us.map TEv.unstore).reverse ++ w.trace ∧ p ∈ storePkts w.store ∧
        p.cmd ∈ ex ∧ t.accepts az p = true
    | none => w'.trace = (us.map TEv.unstore).reverse ++ w.trace ∧ lookup t az w'.store = none

theorem drainLoop_spec {ex : List Cmd} {t : Txn} {az : Bool} :
    ∀ (fuel : Nat) {w w' : World} {o : Option Pkt}, drainLoop ex t az fuel w = (.ok o, w') →
      ∃ us, Drained ex t az w o w' us := by
  intro fuel
  induction fuel with
  | zero => intro w w' o h; cases h
  | succ f ih =>
    intro w w' o h
    rw [drainLoop, bind_run_ok (storeFind_eq t az w)] at h
    cases hk : lookup t az w.store with
    | none =>
      rw [hk] at h
      cases h
      exact ⟨[], rfl, rfl, by simp, fun p hp => hp, by simp [hk]⟩
    | some k =>
      rw [hk] at h
      obtain ⟨p, w1, hg, h⟩ := bind_ok_inv h
      -- the packet found is taken out of the store
      obtain ⟨s', hget, rfl⟩ : ∃ s', w.store.get (some k.1) (some k.2) = .ok ((p.cmd, p.arg0, p.arg1, p.data), s') ∧
          w1 = { w with store := s' } := by
        unfold storeGet at hg
        split at hg
        · next hget => cases hg; exact ⟨_, hget, rfl⟩
        · cases hg
      obtain ⟨hmem, hsub⟩ := storePkts_get hget
      have hacc : t.accepts az p = true := storeFind_accepts hk (Store.get_key hget).1 (Store.get_key hget).2
      split at h
      · next hc =>
        cases h
        exact ⟨[], rfl, rfl, by simp, hsub, by simp, hmem, by simpa using hc, hacc⟩
      · next hc =>
        -- unexpected: discarded, and the loop looks again
        obtain ⟨u, w2, hem, h⟩ := bind_ok_inv h
        cases hem
        obtain ⟨us, hD⟩ := ih h
        refine ⟨p :: us, hD.cur, hD.locks, ?_, fun q hq => hsub q (hD.shrink q hq), ?_⟩
        · exact List.forall_mem_cons.2 ⟨⟨hmem, hacc, by simpa using hc⟩,
            fun u hu => ⟨hsub u (hD.unstored u hu).1, (hD.unstored u hu).2⟩⟩
        · have hout := hD.out
          cases o with
          | some q => exact ⟨by rw [hout.1]; simp, hsub q hout.2.1, hout.2.2⟩
          | none => exact ⟨by rw [hout.1]; simp, hout.2⟩

theorem lockedDrain_spec {ex : List Cmd} {t : Txn} {az : Bool} {fuel : Nat} {w w' : World} {o : Option Pkt}
    (h : withLock lockStore (drainLoop ex t az fuel) w = (.ok o, w')) :
    lockStore ∉ w.locks ∧ ∃ us, Drained ex t az w o w' us := by
  obtain ⟨hfree, w1, hb, rfl⟩ := withLock_ok_inv h
  obtain ⟨us, hD⟩ := drainLoop_spec fuel hb
  refine ⟨hfree, us, hD.cur, ?_, hD.unstored, hD.shrink, ?_⟩
  · have := hD.locks
    simp only at this ⊢
    rw [this]; simp
  · have := hD.out
    cases o <;> exact this

theorem Drained.inboundRest {ex : List Cmd} {t : Txn} {az : Bool} {w w' : World} {o : Option Pkt} {us : List Pkt}
    (h : Drained ex t az w o w' us) : w'.inboundRest = w.inboundRest := by
  unfold World.inboundRest
  rw [h.cur]

/-- where the result of one `read` iteration comes from -/
inductive Source (ex : List Cmd) (t : Txn) (az : Bool) (w : World) (r : Option Pkt) (w' : World) (us : List Pkt) : Prop where
  /-- out of the packet store: nothing was read from the device -/
  | store (p : Pkt) (hr : r = some p) (hmem : p ∈ storePkts w.store) (hex : p.cmd ∈ ex) (hacc : t.accepts az p = true)
      (hstream : w'.inboundRest = w.inboundRest)
      (htrace : w'.trace = .deliver p :: (us.map TEv.unstore).reverse ++ w.trace)
  /-- off the wire: after the store (now `s0`) held nothing more for the transaction, exactly one frame was read -/
  | wire (s0 : Store) (p : Pkt) (raw : Bytes) (reqs : List TEv) (hnone : lookup t az s0 = none)
      (hshrink : ∀ x ∈ storePkts s0, x ∈ storePkts w.store) (hreqs : ∀ e ∈ reqs, ∃ a b, e = TEv.req a b)
      (hraw : IsRaw p raw) (hstream : w.inboundRest = raw ++ w'.inboundRest)
      (hstore : w'.store = storeStep s0 (fate ex t az p, p))
      (htrace : w'.trace = wireEv ex t az s0 p :: reqs ++ ((us.map TEv.unstore).reverse ++ w.trace))
      (hr : r = wireRes ex t az p)

end E2E
end Adb
