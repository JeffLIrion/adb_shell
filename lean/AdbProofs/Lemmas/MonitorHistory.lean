import AdbProofs.Lemmas.MonitorOps
import AdbProofs.Properties.C12
/-
  C04 — histories of API operations against the protocol monitor.  The invariant that composes over
  operations is about the id allocator: `Bnd S c` — every stream the monitor knows has an id at most
  the allocator's counter `c`.  As long as the counter does not wrap around (`w.localId + n < 2^32`
  where `n` bounds the ids the operation allocates) the next id is fresh, older streams are never
  touched again (their packets are parked, not delivered), and the invariant is re-established.
-/
namespace Adb
open Monitor (Ev St Viol Table isStreamCmd hostStep devStep)

/-- the directories of the local file system (they decide how many streams `push` of a directory opens) -/
abbrev Dirs := List (Nat × List (Bytes × Nat))

/-- every stream the monitor knows has an id at most `c` -/
def Bnd (S : Table) (c : Nat) : Prop := ∀ k st, alookup k S = some st → k ≤ c

theorem Bnd.nil (c : Nat) : Bnd [] c := by intro k st h; simp at h

theorem Bnd.mono {S : Table} {c c' : Nat} (h : Bnd S c) (hc : c ≤ c') : Bnd S c' :=
  fun k st hk => Nat.le_trans (h k st hk) hc

theorem Bnd.aset {S : Table} {c l : Nat} (h : Bnd S c) (hl : l ≤ c) (st : St) : Bnd (aset l st S) c := by
  intro k st' hk
  by_cases hkl : k = l
  · subst hkl; exact hl
  · rw [alookup_aset_ne (Ne.symm hkl)] at hk; exact h k st' hk

theorem Bnd.only {S S' : Table} {c c' l : Nat} (h : Bnd S c) (ho : Only l S S') (hc : c ≤ c') (hl : l ≤ c') : Bnd S' c' := by
  intro k st hk
  by_cases hkl : k = l
  · subst hkl; exact hl
  · rw [ho k hkl] at hk; exact Nat.le_trans (h k st hk) hc

theorem Bnd.fresh {S : Table} {c l : Nat} (h : Bnd S c) (hl : c < l) : Fresh S l := by
  intro st hs
  have := h l st hs
  omega

theorem nextId_eq_succ {c : Nat} (h : c + 1 < 4294967296) : nextId c = c + 1 := by
  unfold nextId; split <;> omega

theorem Acc.nil_inv {S S' : Table} (h : Acc S [] S') : S' = S := by
  simp only [Acc, ofXfers_nil, Monitor.run, Prod.mk.injEq] at h
  exact h.1.symm

/-- an operation that allocates at most `n` stream ids (a function of the local directories), whatever
    its outcome: if the counter does not wrap meanwhile it only grows, by at most `n`; the monitor accepts
    the conversation from every table bounded by the counter, ends in such a table again, and leaves the
    entries of all older streams alone -/
def Multi {α : Type} (n : Dirs → Nat) (x : M α) : Prop :=
  ∀ (w w' : World) (res : Except Err α), x w = (res, w') → w.locks = [] →
    ∃ X Y, Adds w w' X Y ∧ (w.localId + n w.dirs < 4294967296 →
      w.localId ≤ w'.localId ∧ w'.localId ≤ w.localId + n w.dirs ∧
      (NZ X → ∀ S, Bnd S w.localId →
        ∃ S', Acc S X S' ∧ Bnd S' w'.localId ∧ ∀ k, k ≤ w.localId → alookup k S' = alookup k S))

/-- `Multi` spelled out on the trace and the monitor loop -/
theorem Multi.explicit {α : Type} {n : Dirs → Nat} {x : M α} (hx : Multi n x) {w w' : World} {res : Except Err α}
    (h : x w = (res, w')) (hl : w.locks = []) (hb : w.localId + n w.dirs < 4294967296) :
    ∃ evs : List TEv, w'.trace = evs ++ w.trace ∧ w.localId ≤ w'.localId ∧ w'.localId ≤ w.localId + n w.dirs ∧
      ((∀ p ∈ delivered evs, p.arg1 ≠ 0) → ∀ S : Table, Bnd S w.localId →
        ∃ S', Monitor.run S (ofXfers (exchanged evs)) = (S', []) ∧ Bnd S' w'.localId ∧
          ∀ k, k ≤ w.localId → alookup k S' = alookup k S) := by
  obtain ⟨X, Y, ⟨evs, htr, rfl, _⟩, hr⟩ := hx w w' res h hl
  obtain ⟨h1, h2, h3⟩ := hr hb
  exact ⟨evs, htr, h1, h2, fun hnz => h3 (NZ_exchanged hnz)⟩

theorem Multi.mono {α : Type} {n m : Dirs → Nat} {x : M α} (h : Multi n x) (hnm : ∀ d, n d ≤ m d) : Multi m x := by
  intro w w' res hx hl
  obtain ⟨X, Y, hA, hrest⟩ := h w w' res hx hl
  refine ⟨X, Y, hA, fun hb => ?_⟩
  have := hnm w.dirs
  obtain ⟨h1, h2, h3⟩ := hrest (by omega)
  exact ⟨h1, by omega, h3⟩

/-! ### Computations the stream monitor does not see -/

/-- an event the stream monitor ignores: no delivery or transmission of OPEN / OKAY / WRTE / CLSE -/
def NonStreamEv : TEv → Prop
  | .deliver p => isStreamCmd p.cmd = false
  | .tx m => isStreamCmd m.cmd = false ∧ m.cmd ≠ Cmd.OPEN
  | _ => True

theorem NonStreamEv.of_silent {e : TEv} (h : e.silent = true) : NonStreamEv e := by
  cases e <;> trivial

/-- going from `w` to `w'` did nothing that concerns the stream monitor or the ids a history may
    allocate: the id counter and the local directories are as they were and every event added is one the
    monitor ignores -/
structure Idle (w w' : World) : Prop where
  localId : w'.localId = w.localId
  dirs : w'.dirs = w.dirs
  trace : Grows NonStreamEv w w'

theorem Idle.of_eq {w w' : World} (hid : w'.localId = w.localId) (hd : w'.dirs = w.dirs) (htr : w'.trace = w.trace) :
    Idle w w' := ⟨hid, hd, .of_trace_eq htr⟩

theorem Idle.admits {e : TEv} (he : NonStreamEv e) : Admits Idle e := fun _ => ⟨rfl, rfl, .event he rfl⟩

theorem Idle.wrel : WRel Idle where
  refl _ := .of_eq rfl rfl rfl
  trans h1 h2 := ⟨h2.localId.trans h1.localId, h2.dirs.trans h1.dirs, h1.trace.trans h2.trace⟩
  lock _ h := ⟨h.localId, h.dirs, h.trace⟩
  transport _ _ _ _ _ := .of_eq rfl rfl rfl
  store _ _ := .of_eq rfl rfl rfl
  event _ he := Idle.admits (.of_silent he)

/-- every run of `x` is idle: `Pres Idle x` (Pres.lean) -/
def NS {α : Type} (x : M α) : Prop := ∀ w, Idle w (x w).2

theorem NS_pure {α : Type} (a : α) : NS (pure a : M α) := Pres.pure Idle.wrel a
theorem NS_throw {α : Type} (e : Err) : NS (M.throw e : M α) := Pres.throw Idle.wrel e

theorem NS_of_Aside {α : Type} {x : M α} (h : Aside x) : NS x :=
  fun w => ⟨h.id w, (h.fr w).dirs, Grows.mono (fun _ => .of_silent) (h.qt w)⟩

/-- events the monitor ignores leave every table as it is -/
theorem Acc_nonstream {evs : List TEv} (h : ∀ e ∈ evs, NonStreamEv e) (S : Table) : Acc S (exchanged evs) S := by
  induction evs with
  | nil => exact Acc.nil S
  | cons e evs ih =>
    rw [exchanged_cons]
    refine Acc.append (ih (fun e' he' => h e' (by simp [he']))) ?_
    have he := h e (by simp)
    cases e with
    | deliver p =>
      simp only [NonStreamEv] at he
      simp [Acc, Monitor.run, Monitor.step, ofXfer, he]
    | tx m =>
      simp only [NonStreamEv] at he
      simp [Acc, Monitor.run, Monitor.step, ofXfer, he.1, he.2]
    | _ => exact Acc.nil S

theorem Multi_of_NS {α : Type} {x : M α} (hns : NS x) : Multi (fun _ => 0) x := by
  intro w w' res hx _
  obtain ⟨hid, _, evs, ht, hq⟩ : Idle w w' := by have := hns w; rwa [hx] at this
  refine ⟨exchanged evs, yieldedBy evs, ⟨evs, ht, rfl, rfl⟩, fun _ => ?_⟩
  simp only []
  exact ⟨by omega, by omega, fun _ S hS => ⟨S, Acc_nonstream hq S, by rw [hid]; exact hS, fun _ _ => rfl⟩⟩

theorem Multi_of_OneStream {α : Type} {c : Prop} {x : M α} (h : OneStream c x) : Multi (fun _ => 1) x := by
  intro w w' res hx hl
  obtain ⟨X, Y, hA, hloc, hacc⟩ := h w w' res hx hl
  refine ⟨X, Y, hA, fun hb => ?_⟩
  simp only [] at hb ⊢
  have hn : nextId w.localId = w.localId + 1 := nextId_eq_succ hb
  rw [hn] at hloc hacc
  refine ⟨by omega, by omega, fun hnz S hS => ?_⟩
  obtain ⟨S', h1, h2, _⟩ := hacc hnz S (by omega) (hS.fresh (by omega))
  rcases hloc with ⟨rfl, hw⟩ | hw
  · have := h1.nil_inv
    subst this
    exact ⟨S', h1, by rw [hw]; exact hS, fun _ _ => rfl⟩
  · exact ⟨S', h1, hS.only h2 (by omega) (by omega), fun k hk => h2 k (by omega)⟩

theorem Multi_bind {α β : Type} {n m : Dirs → Nat} {x : M α} {f : α → M β} (hx : Multi n x) (hfr : Fr x)
    (hf : ∀ a, Multi m (f a)) : Multi (fun d => n d + m d) (x >>= f) := by
  intro w w' res h hl
  rcases bind_any_inv h with ⟨e, he, rfl⟩ | ⟨a, w1, ha, hrest⟩
  · obtain ⟨X, Y, hA, hr⟩ := hx w w' _ he hl
    refine ⟨X, Y, hA, fun hb => ?_⟩
    obtain ⟨h1, h2, h3⟩ := hr (by simp only at hb; omega)
    exact ⟨h1, by simp only; omega, h3⟩
  · obtain ⟨X1, Y1, hA1, hr1⟩ := hx w w1 _ ha hl
    have hfw : Frame w w1 := by have := hfr w; rw [ha] at this; exact this
    have hl1 : w1.locks = [] := by rw [hfw.locks]; exact hl
    obtain ⟨X2, Y2, hA2, hr2⟩ := hf a w1 w' res hrest hl1
    refine ⟨X1 ++ X2, Y1 ++ Y2, hA1.trans hA2, fun hb => ?_⟩
    simp only at hb
    obtain ⟨h1, h2, h3⟩ := hr1 (by omega)
    obtain ⟨h4, h5, h6⟩ := hr2 (by rw [hfw.dirs]; omega)
    rw [hfw.dirs] at h5
    refine ⟨by omega, by simp only; omega, fun hnz S hS => ?_⟩
    obtain ⟨hn1, hn2⟩ := NZ_append.1 hnz
    obtain ⟨S1, a1, b1, c1⟩ := h3 hn1 S hS
    obtain ⟨S2, a2, b2, c2⟩ := h6 hn2 S1 b1
    exact ⟨S2, a1.append a2, b2, fun k hk => (c2 k (by omega)).trans (c1 k hk)⟩

/-- reading the world first: the bound may then be computed from the directories read -/
theorem Multi_get {β : Type} {n : Dirs → Nat} {f : World → M β} (hf : ∀ w, Multi (fun _ => n w.dirs) (f w)) :
    Multi n (M.get >>= f) := by
  intro w w' res h hl
  rw [bind_run_ok (M.get_run _)] at h
  exact hf w w w' res h hl

theorem Multi_prefix {α β : Type} {n : Dirs → Nat} {x : M α} {f : α → M β} (hx : Aside x)
    (hf : ∀ a, Multi n (f a)) : Multi n (x >>= f) :=
  (Multi_bind (Multi_of_NS (NS_of_Aside hx)) hx.fr hf).mono (fun d => by simp)

theorem Multi_suffix {α β : Type} {n : Dirs → Nat} {x : M α} {f : α → M β} (hx : Multi n x) (hfr : Fr x)
    (hf : ∀ a, NS (f a)) : Multi n (x >>= f) :=
  (Multi_bind hx hfr (fun a => Multi_of_NS (hf a))).mono (fun d => by simp)

/-- an operation on the open-and-quiet stream `(l, r)` that may open up to `n` further streams meanwhile -/
def SQM {α : Type} (n l r : Nat) (Post : Except Err α → St → Prop) (x : M α) : Prop :=
  ∀ (w w' : World) (res : Except Err α), x w = (res, w') → w.locks = [] →
    ∃ X Y, Adds w w' X Y ∧ (w.localId + n < 4294967296 → l ≤ w.localId →
      w.localId ≤ w'.localId ∧ w'.localId ≤ w.localId + n ∧
      (NZ X → ∀ (S : Table) (st : St), Bnd S w.localId → alookup l S = some st → Quiet1 r st →
        ∃ S' st', Acc S X S' ∧ Bnd S' w'.localId ∧ alookup l S' = some st' ∧ Post res st' ∧
          ∀ k, k ≤ w.localId → k ≠ l → alookup k S' = alookup k S))

theorem SQM_of_SQ {α : Type} {l r : Nat} {x : M α} (hx : SQ l r x) (hid : IdEq x) : SQM 0 l r (QL r) x := by
  intro w w' res h hl
  obtain ⟨X, Y, hA, hacc⟩ := hx w w' res h (by simp [hl])
  refine ⟨X, Y, hA, fun _ hlw => ?_⟩
  have hw := hid.of h
  refine ⟨by omega, by omega, fun hnz S st hS hst hq => ?_⟩
  obtain ⟨st', h1, h2⟩ := hacc hnz S st hst hq
  exact ⟨_, st', h1, by rw [hw]; exact hS.aset hlw st', alookup_aset_self _ _ _, h2,
    fun k _ hkl => alookup_aset_ne (Ne.symm hkl) st' S⟩

theorem SQM_of_Multi {α : Type} {n l r : Nat} {x : M α} (hx : Multi (fun _ => n) x) : SQM n l r (QL r) x := by
  intro w w' res h hl
  obtain ⟨X, Y, hA, hr⟩ := hx w w' res h hl
  refine ⟨X, Y, hA, fun hb hlw => ?_⟩
  obtain ⟨h1, h2, h3⟩ := hr hb
  simp only [] at h2
  refine ⟨h1, h2, fun hnz S st hS hst hq => ?_⟩
  obtain ⟨S', a, b, c⟩ := h3 hnz S hS
  exact ⟨S', st, a, b, by rw [c l hlw]; exact hst, QL.of_quiet hq, fun k hk _ => c k hk⟩

theorem SQM_bind {α β : Type} {n m l r : Nat} {Post : Except Err β → St → Prop} {x : M α} {f : α → M β}
    (hx : SQM n l r (QL r) x) (hfr : Fr x) (hf : ∀ a, SQM m l r Post (f a))
    (hpost : ∀ e st, Live r st → Post (.error e) st) : SQM (n + m) l r Post (x >>= f) := by
  intro w w' res h hl
  rcases bind_any_inv h with ⟨e, he, rfl⟩ | ⟨a, w1, ha, hrest⟩
  · obtain ⟨X, Y, hA, hr⟩ := hx w w' _ he hl
    refine ⟨X, Y, hA, fun hb hlw => ?_⟩
    obtain ⟨h1, h2, h3⟩ := hr (by omega) hlw
    refine ⟨h1, by omega, fun hnz S st hS hst hq => ?_⟩
    obtain ⟨S', st', a, b, c, d, e'⟩ := h3 hnz S st hS hst hq
    exact ⟨S', st', a, b, c, hpost e st' d, e'⟩
  · obtain ⟨X1, Y1, hA1, hr1⟩ := hx w w1 _ ha hl
    have hl1 : w1.locks = [] := by rw [Fr.locks_of hfr ha]; exact hl
    obtain ⟨X2, Y2, hA2, hr2⟩ := hf a w1 w' res hrest hl1
    refine ⟨X1 ++ X2, Y1 ++ Y2, hA1.trans hA2, fun hb hlw => ?_⟩
    obtain ⟨h1, h2, h3⟩ := hr1 (by omega) hlw
    obtain ⟨h4, h5, h6⟩ := hr2 (by omega) (by omega)
    refine ⟨by omega, by omega, fun hnz S st hS hst hq => ?_⟩
    obtain ⟨hn1, hn2⟩ := NZ_append.1 hnz
    obtain ⟨S1, st1, a1, b1, c1, d1, e1⟩ := h3 hn1 S st hS hst hq
    obtain ⟨S2, st2, a2, b2, c2, d2, e2⟩ := h6 hn2 S1 st1 b1 c1 d1
    exact ⟨S2, st2, a1.append a2, b2, c2, d2, fun k hk hkl => (e2 k (by omega) hkl).trans (e1 k hk hkl)⟩

/-! ### `pull` with a progress callback: a `stat` on a second stream while the first is open -/

theorem Fr_pullTotal (devPath : Bytes) (cb : CbMode) (t : Txn) : Fr (pullTotal devPath cb t) :=
  Pres_pullTotal Frame.wrel Frame.admits Frame.alloc devPath cb t

theorem Multi_pullTotal (devPath : Bytes) (cb : CbMode) (t : Txn) : Multi (fun _ => 1) (pullTotal devPath cb t) := by
  unfold pullTotal
  split
  · exact Multi_suffix (Multi_of_OneStream (OneStream_devStat devPath t.tt t.rt)) (Fr_devStat _ _ _)
      fun v => by split <;> exact NS_pure _
  · exact (Multi_of_NS (NS_pure _)).mono (fun _ => Nat.zero_le _)

/-- `_pull` on its open-and-quiet stream, possibly with the `stat` of the progress callback on a second stream -/
theorem SQM_pullInner {t : Txn} {l r : Nat} (hi : Ids t l r) (devPath : Bytes) (cb : CbMode) (fi : FsInfo) :
    SQM 1 l r (QL r) (pullInner devPath cb t fi) := by
  rw [pullInner_eq]
  exact SQM_bind (n := 1) (m := 0) (SQM_of_Multi (Multi_pullTotal devPath cb t)) (Fr_pullTotal _ _ _)
    (fun total => SQM_of_SQ (SQ_pullRest hi _ _ _ _) (IdEq_pullRest _ _ _ _ _)) (fun _ _ h => h)

/-- `try: x  finally: _clse` where `x` works on the stream and may open others -/
theorem SQM_tryFinally_clse {α : Type} {t : Txn} {n l r : Nat} (hi : Ids t l r) {x : M α} (hx : SQM n l r (QL r) x) (hfr : Fr x) :
    SQM n l r DoneIfOk (M.tryFinally x (clse t)) := by
  intro w w' res h hl
  obtain ⟨r1, w1, r2, hx1, hc, -⟩ := tryFinally_inv h
  obtain ⟨X1, Y1, hA1, hr1⟩ := hx w w1 r1 hx1 hl
  have hl1 : lockTransport ∉ w1.locks := by rw [Fr.locks_of hfr hx1, hl]; simp
  obtain ⟨X2, Y2, hA2, hacc2⟩ := Str_clse hi w1 w' r2 hc hl1
  have hw2 : w'.localId = w1.localId := (IdEq_clse t).of hc
  refine ⟨X1 ++ X2, Y1 ++ Y2, hA1.trans hA2, fun hb hlw => ?_⟩
  obtain ⟨h1, h2, h3⟩ := hr1 hb hlw
  refine ⟨by omega, by omega, fun hnz S st hS hst hq => ?_⟩
  obtain ⟨hn1, hn2⟩ := NZ_append.1 hnz
  obtain ⟨S1, st1, a1, b1, c1, d1, e1⟩ := h3 hn1 S st hS hst hq
  obtain ⟨st2, a2, _, hd⟩ := hacc2 hn2 S1 st1 c1 d1.live
  exact ⟨_, st2, a1.append a2, by rw [hw2]; exact b1.aset (by omega) st2, alookup_aset_self _ _ _,
    fun a ha => hd () (tryFinally_fin_ok (ha ▸ h) hx1 hc), fun k hk hkl => (alookup_aset_ne (Ne.symm hkl) st2 S1).trans (e1 k hk hkl)⟩

theorem SQM_suffix {α β : Type} {n l r : Nat} {x : M α} {f : α → M β}
    (hx : SQM n l r DoneIfOk x) (hf : ∀ a, Aside (f a)) :
    SQM n l r DoneIfOk (x >>= f) := by
  intro w w' res h hl
  rcases bind_any_inv h with ⟨e, he, rfl⟩ | ⟨a, w1, ha, hrest⟩
  · obtain ⟨X, Y, hA, hr⟩ := hx w w' _ he hl
    refine ⟨X, Y, hA, fun hb hlw => ?_⟩
    obtain ⟨h1, h2, h3⟩ := hr hb hlw
    refine ⟨h1, h2, fun hnz S st hS hst hq => ?_⟩
    obtain ⟨S', st', a, b, c, _, e'⟩ := h3 hnz S st hS hst hq
    exact ⟨S', st', a, b, c, nofun, e'⟩
  · obtain ⟨X, Y, hA, hr⟩ := hx w w1 _ ha hl
    have hw := (hf a).id.of hrest
    refine ⟨X, Y, by simpa using hA.trans ((hf a).qt.adds hrest), fun hb hlw => ?_⟩
    obtain ⟨h1, h2, h3⟩ := hr hb hlw
    rw [hw]
    refine ⟨h1, h2, fun hnz S st hS hst hq => ?_⟩
    obtain ⟨S', st', a', b, c, d, e'⟩ := h3 hnz S st hS hst hq
    exact ⟨S', st', a', b, c, fun _ _ => d a rfl, e'⟩

theorem SQM_prefix {α β : Type} {n l r : Nat} {Post : Except Err β → St → Prop} {x : M α} {f : α → M β}
    (hx : Aside x) (hf : ∀ a, SQM n l r Post (f a)) (hpost : ∀ e st, Live r st → Post (.error e) st) :
    SQM n l r Post (x >>= f) := by
  have := SQM_bind (n := 0) (m := n) (SQM_of_SQ (l := l) (r := r) (SQ_of_Qt hx.qt) hx.id) hx.fr hf hpost
  simpa using this

/-- `_open` followed by an operation that works on the new stream, may open up to `n` more, and closes it -/
theorem Multi_open_then {β : Type} {n : Nat} {dest : Bytes} {tt rt total : Timeout} {k : Txn → M β}
    (hk : ∀ t l r, Ids t l r → SQM n l r DoneIfOk (k t)) :
    Multi (fun _ => n + 1) (openStream dest tt rt total >>= k) := by
  intro w w' res h hl
  rcases bind_any_inv h with ⟨e, he, rfl⟩ | ⟨t, w1, ho, hrest⟩
  · exact (Multi_of_OneStream (OneStream_openStream dest tt rt total)).mono (fun _ => Nat.le_add_left 1 n) w w' _ he hl
  · obtain ⟨X1, hA1, _, r, hi, hacc1⟩ := openStream_mon ho hl
    have hw1 := openStream_localId ho hl
    have hl1 : w1.locks = [] := by rw [Fr.locks_of (Fr_openStream _ _ _ _) ho, hl]
    obtain ⟨X2, Y2, hA2, hr2⟩ := hk t _ r hi w1 w' res hrest hl1
    refine ⟨X1 ++ X2, [] ++ Y2, hA1.trans hA2, fun hb => ?_⟩
    simp only [] at hb ⊢
    have hn : nextId w.localId = w.localId + 1 := nextId_eq_succ (by omega)
    rw [hn] at hw1 hacc1 hr2
    obtain ⟨h1, h2, h3⟩ := hr2 (by omega) (by omega)
    refine ⟨by omega, by omega, fun hnz S hS => ?_⟩
    obtain ⟨_, hn2⟩ := NZ_append.1 hnz
    obtain ⟨st1, a1, hq1⟩ := hacc1 S (by omega) (hS.fresh (by omega))
    have hS1 : Bnd (aset (w.localId + 1) st1 S) w1.localId := (hS.mono (by omega)).aset (by omega) st1
    obtain ⟨S2, st2, a2, b2, _, _, e2⟩ := h3 hn2 _ st1 hS1 (alookup_aset_self _ _ _) hq1
    refine ⟨S2, a1.append a2, b2, fun k hk => ?_⟩
    rw [e2 k (by omega) (by omega)]
    exact alookup_aset_ne (by omega) st1 S

/-- `pull`, with or without a progress callback -/
theorem Multi_devPull (devPath : Bytes) (cb : CbMode) (tt rt : Timeout) : Multi (fun _ => 2) (devPull devPath cb tt rt) := by
  unfold devPull
  exact Multi_prefix (Aside_runGuards _ _) fun _ => Multi_prefix (Aside_setSink _) fun _ =>
    Multi_open_then (n := 1) fun t l r hi => SQM_prefix Aside_get (fun _ =>
      SQM_suffix (SQM_tryFinally_clse hi (SQM_pullInner hi devPath cb _) (Fr_pullInner _ _ _ _)) fun _ => Aside_pure _) (fun _ _ _ => nofun)

/-! ### `push` -/

theorem Multi_pushFiles (devPath : Bytes) (mode mtime : Nat) (cb : CbMode) (tt rt : Timeout) :
    ∀ es : List (Bytes × Nat), Multi (fun _ => es.length) (pushFiles devPath mode mtime cb tt rt es) := by
  intro es
  induction es with
  | nil => unfold pushFiles; exact Multi_of_NS (NS_pure _)
  | cons e es ih =>
    obtain ⟨name, fid⟩ := e
    unfold pushFiles
    exact (Multi_bind (Multi_of_OneStream (OneStream_pushFile fid _ mode mtime cb tt rt)) (Fr_pushFile _ _ _ _ _ _ _)
      (fun _ => ih)).mono (fun _ => by simp; omega)

/-- how many streams `push` opens: one for a file or BytesIO; for a directory the `mkdir` shell command and one per entry -/
def pushBound (src : LocalRef) (d : Dirs) : Nat :=
  match src with
  | .dir id => (match d.find? (·.1 == id) with
    | some (_, entries) => 1 + entries.length
    | none => 0)
  | _ => 1

theorem Multi_devPush (src : LocalRef) (devPath : Bytes) (mode mtime : Nat) (cb : CbMode) (tt rt : Timeout) :
    Multi (pushBound src) (devPush src devPath mode mtime cb tt rt) := by
  unfold devPush
  refine Multi_prefix (Aside_runGuards _ _) (fun _ => ?_)
  cases src with
  | bytesio id | file id =>
    exact Multi_suffix (Multi_of_OneStream (OneStream_pushFile id devPath mode mtime cb tt rt)) (Fr_pushFile _ _ _ _ _ _ _)
      (fun _ => NS_pure _)
  | dir id =>
    refine Multi_get fun w => ?_
    simp only [pushBound]
    cases w.dirs.find? (·.1 == id) with
    | none => exact Multi_of_NS (NS_throw _)
    | some pr =>
      exact Multi_bind (Multi_of_OneStream (OneStream_devShellLike _ _ _ _ _ _ _)) (Fr_devShellLike _ _ _ _ _ _ _)
        fun _ => Multi_suffix (Multi_pushFiles devPath mode mtime cb tt rt pr.2) (Fr_pushFiles _ _ _ _ _ _ _) fun _ => NS_pure _

/-! ### `connect` / `close`: no stream packet at all, no id allocated -/

/-- the handshake exchanges CNXN and AUTH only, which the stream monitor ignores -/
theorem NS_devConnect (keys : List Nat) (tt authT rt : Timeout) (hasCb : Bool) : NS (devConnect keys tt authT rt hasCb) :=
  Pres_devConnect Idle.wrel
    (fun m hm => Idle.admits (by rcases hm with h | h <;> rw [NonStreamEv, h] <;> exact ⟨rfl, nofun⟩))
    (fun p hp => Idle.admits (by rcases hp with h | h <;> rw [NonStreamEv, h] <;> rfl))
    (Idle.admits trivial) (fun _ _ _ => .of_eq rfl rfl rfl) keys tt authT rt hasCb

theorem NS_devClose : NS devClose := Pres_devClose Idle.wrel fun _ _ _ => .of_eq rfl rfl rfl

/-! ### every API operation, and histories -/

/-- an upper bound on the stream ids an API operation allocates -/
def allocBound : ApiOp → Dirs → Nat
  | .connect .., _ => 0
  | .close, _ => 0
  | .pull .., _ => 2
  | .push src .., d => pushBound src d
  | _, _ => 1

theorem Multi_apiOp (op : ApiOp) : Multi (allocBound op) op.run := by
  cases op with
  | connect keys tt authT rt cb => exact Multi_of_NS (NS_devConnect _ _ _ _ _)
  | close => exact Multi_of_NS NS_devClose
  | shell cmd tt rt total dec => exact Multi_of_OneStream (OneStream_devShellLike _ _ _ _ _ _ _)
  | execOut cmd tt rt total dec => exact Multi_of_OneStream (OneStream_devShellLike _ _ _ _ _ _ _)
  | root tt rt total => exact Multi_of_OneStream (OneStream_devRoot _ _ _)
  | reboot fb tt rt total => exact Multi_of_OneStream (OneStream_devReboot _ _ _ _)
  | streamingShell cmd tt rt dec => exact Multi_of_OneStream (OneStream_devStreamingShell _ _ _ _)
  | list p tt rt => exact Multi_of_OneStream (OneStream_devList _ _ _)
  | stat p tt rt => exact Multi_of_OneStream (OneStream_devStat _ _ _)
  | pull p cb tt rt => exact Multi_devPull _ _ _ _
  | push src p mode mtime cb tt rt => exact Multi_devPush _ _ _ _ _ _ _

/-- no API operation changes the local directories -/
theorem apiOp_dirs (op : ApiOp) (w : World) : (op.run w).2.dirs = w.dirs := by
  cases op with
  | connect keys tt authT rt cb => exact (NS_devConnect keys tt authT rt cb w).dirs
  | close => exact (NS_devClose w).dirs
  | _ => exact (streamOp_frame _ rfl w).dirs

/-- the ids a history may allocate, computed from the local directories (which no operation changes) -/
def historyBound (ops : List ApiOp) (d : Dirs) : Nat := (ops.map (fun op => allocBound op d)).sum

/-- Histories of API calls (each possibly failing): if the id counter does not wrap around, the monitor
    accepts the whole conversation from every table bounded by the counter. -/
theorem runHistory_mon : ∀ (ops : List ApiOp) (w w' : World) (rs : List (Except Err Val)),
    runHistory ops w = (rs, w') → w.locks = [] →
    ∃ X Y, Adds w w' X Y ∧ (w.localId + historyBound ops w.dirs < 4294967296 → NZ X →
      ∀ S, Bnd S w.localId → ∃ S', Acc S X S' ∧ Bnd S' w'.localId) := by
  intro ops
  induction ops with
  | nil =>
    intro w w' rs h _
    simp only [runHistory, Prod.mk.injEq] at h
    obtain ⟨_, rfl⟩ := h
    exact ⟨[], [], Adds.rfl' _, fun _ _ S hS => ⟨S, Acc.nil S, hS⟩⟩
  | cons op ops ih =>
    intro w w' rs h hl
    simp only [runHistory] at h
    cases hop : op.run w with
    | mk r w1 =>
      rw [hop] at h
      cases hrest : runHistory ops w1 with
      | mk rs' w2 =>
        rw [hrest] at h
        simp only [Prod.mk.injEq] at h
        obtain ⟨_, rfl⟩ := h
        have hl1 : w1.locks = [] := by have := C12_locks_released op w; rw [hop] at this; rw [this]; exact hl
        have hd1 : w1.dirs = w.dirs := by have := apiOp_dirs op w; rw [hop] at this; exact this
        obtain ⟨X1, Y1, hA1, hr1⟩ := Multi_apiOp op w w1 r hop hl
        obtain ⟨X2, Y2, hA2, hr2⟩ := ih w1 w2 rs' hrest hl1
        refine ⟨X1 ++ X2, Y1 ++ Y2, hA1.trans hA2, fun hb hnz S hS => ?_⟩
        simp only [historyBound, List.map_cons, List.sum_cons] at hb
        obtain ⟨hn1, hn2⟩ := NZ_append.1 hnz
        obtain ⟨h1, h2, h3⟩ := hr1 (by omega)
        obtain ⟨S1, a1, b1, _⟩ := h3 hn1 S hS
        obtain ⟨S2, a2, b2⟩ := hr2 (by rw [hd1]; simp only [historyBound]; omega) hn2 S1 b1
        exact ⟨S2, a1.append a2, b2⟩

end Adb
