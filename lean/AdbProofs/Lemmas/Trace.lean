import AdbProofs.Lemmas.Monad
/-
  Growth of the event trace (`World.trace`, most recent event first).  `Grows Q w w'` says that the trace of
  `w'` is the trace of `w` plus events that all satisfy `Q`.  `QtR` (Deliver.lean) is `Grows` at the silent
  events; `Idle` (MonitorHistory.lean) and `Tr.trace` (PushTrace.lean) are stated with it.
-/
namespace Adb

/-- an event that records no exchange with the device or the caller -/
def TEv.silent : TEv → Bool
  | .deliver _ | .tx _ | .yielded _ => false
  | _ => true

def Grows (Q : TEv → Prop) (w w' : World) : Prop := ∃ evs, w'.trace = evs ++ w.trace ∧ ∀ e ∈ evs, Q e

theorem Grows.of_trace_eq {Q : TEv → Prop} {w w' : World} (h : w'.trace = w.trace) : Grows Q w w' :=
  ⟨[], h, fun _ he => nomatch he⟩

theorem Grows.refl (Q : TEv → Prop) (w : World) : Grows Q w w := .of_trace_eq rfl

theorem Grows.trans {Q : TEv → Prop} {a b c : World} (h1 : Grows Q a b) (h2 : Grows Q b c) : Grows Q a c := by
  obtain ⟨e1, t1, q1⟩ := h1
  obtain ⟨e2, t2, q2⟩ := h2
  exact ⟨e2 ++ e1, by rw [t2, t1, List.append_assoc], fun e he => (List.mem_append.1 he).elim (q2 e) (q1 e)⟩

theorem Grows.mono {Q Q' : TEv → Prop} (h : ∀ e, Q e → Q' e) {w w' : World} : Grows Q w w' → Grows Q' w w'
  | ⟨evs, t, q⟩ => ⟨evs, t, fun e he => h e (q e he)⟩

theorem Grows.event {Q : TEv → Prop} {e : TEv} (he : Q e) {w w' : World} (h : w'.trace = e :: w.trace) :
    Grows Q w w' :=
  ⟨[e], h, fun _ h' => List.mem_singleton.1 h' ▸ he⟩

end Adb
