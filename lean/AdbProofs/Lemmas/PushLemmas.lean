import AdbProofs.Lemmas.FrameOps
import AdbProofs.Lemmas.Bytes
/-
  Vocabulary of property C07 (push): what a list of trace events says was transmitted, the WRTE
  payloads of one stream, the progress-callback calls, FileSync record encoding and the chunking
  of a source into successive reads of at most `k` bytes.  Plus `maxChunkSize` arithmetic.
-/
namespace Adb.Push
open Adb

/-- the `tx` selector -/
def txOf : TEv → Option Msg
  | .tx m => some m
  | _ => none

/-- the `cbProgress` selector -/
def progOf : TEv → Option (Bytes × Nat × Nat)
  | .cbProgress p n t => some (p, n, t)
  | _ => none

/-- the `deliver` selector -/
def delivOf : TEv → Option Pkt
  | .deliver p => some p
  | _ => none

/-- messages handed to `_send`, oldest first (the trace is stored most recent first) -/
def transmitted (evs : List TEv) : List Msg :=
  evs.reverse.filterMap (fun e => match e with | .tx m => some m | _ => none)

/-- payloads of the WRTE messages of the stream `(l, r)`, oldest first -/
def wrtePayloads (l r : Nat) (evs : List TEv) : List Bytes :=
  (transmitted evs).filterMap (fun m => if m.cmd = .WRTE ∧ m.arg0 = l ∧ m.arg1 = r then some m.data else none)

/-- calls of the progress callback `(device_path, bytes_written, total_bytes)`, oldest first -/
def progressCalls (evs : List TEv) : List (Bytes × Nat × Nat) :=
  evs.reverse.filterMap (fun e => match e with | .cbProgress p n t => some (p, n, t) | _ => none)

/-- packets returned to a caller of `read`, oldest first -/
def delivered (evs : List TEv) : List Pkt :=
  evs.reverse.filterMap (fun e => match e with | .deliver p => some p | _ => none)

/-- payloads of the device's WRTE packets among the delivered ones, concatenated -/
def deliveredWrteData (evs : List TEv) : Bytes :=
  (((delivered evs).filter (fun p => p.cmd = Cmd.WRTE)).map (·.data)).flatten

/-- one FileSync record: `struct.pack('<2I', id, size) + data` -/
def syncRec (id : SyncId) (size : Nat) (data : Bytes) : Bytes := le32 id.wire ++ le32 size ++ data

/-- successive `read(k)` results of a stream holding `content`, up to and excluding the empty read -/
def chunksOfAux (k : Nat) : Nat → Bytes → List Bytes
  | 0, _ => []
  | fuel + 1, content =>
    if (content.take k).isEmpty then [] else content.take k :: chunksOfAux k fuel (content.drop k)

def chunksOf (k : Nat) (content : Bytes) : List Bytes := chunksOfAux k content.length content

/-! ### algebra of the selectors -/

theorem transmitted_eq (evs : List TEv) : transmitted evs = evs.reverse.filterMap txOf := by
  unfold transmitted; congr 1
theorem progressCalls_eq (evs : List TEv) : progressCalls evs = evs.reverse.filterMap progOf := by
  unfold progressCalls; congr 1
theorem delivered_eq (evs : List TEv) : delivered evs = evs.reverse.filterMap delivOf := by
  unfold delivered; congr 1

@[simp] theorem transmitted_nil : transmitted [] = [] := rfl
@[simp] theorem progressCalls_nil : progressCalls [] = [] := rfl
@[simp] theorem delivered_nil : delivered [] = [] := rfl
@[simp] theorem wrtePayloads_nil (l r : Nat) : wrtePayloads l r [] = [] := rfl
@[simp] theorem deliveredWrteData_nil : deliveredWrteData [] = [] := rfl

/-- `e2` are the more recent events -/
theorem transmitted_append (e2 e1 : List TEv) : transmitted (e2 ++ e1) = transmitted e1 ++ transmitted e2 := by
  simp [transmitted_eq]
theorem progressCalls_append (e2 e1 : List TEv) : progressCalls (e2 ++ e1) = progressCalls e1 ++ progressCalls e2 := by
  simp [progressCalls_eq]
theorem delivered_append (e2 e1 : List TEv) : delivered (e2 ++ e1) = delivered e1 ++ delivered e2 := by
  simp [delivered_eq]
theorem wrtePayloads_append (l r : Nat) (e2 e1 : List TEv) :
    wrtePayloads l r (e2 ++ e1) = wrtePayloads l r e1 ++ wrtePayloads l r e2 := by
  simp [wrtePayloads, transmitted_append]
theorem deliveredWrteData_append (e2 e1 : List TEv) :
    deliveredWrteData (e2 ++ e1) = deliveredWrteData e1 ++ deliveredWrteData e2 := by
  simp [deliveredWrteData, delivered_append]

theorem transmitted_cons (e : TEv) (evs : List TEv) :
    transmitted (e :: evs) = transmitted evs ++ (txOf e).toList := by
  rw [show e :: evs = [e] ++ evs from rfl, transmitted_append]
  cases e <;> rfl
theorem progressCalls_cons (e : TEv) (evs : List TEv) :
    progressCalls (e :: evs) = progressCalls evs ++ (progOf e).toList := by
  rw [show e :: evs = [e] ++ evs from rfl, progressCalls_append]
  cases e <;> rfl
theorem delivered_cons (e : TEv) (evs : List TEv) :
    delivered (e :: evs) = delivered evs ++ (delivOf e).toList := by
  rw [show e :: evs = [e] ++ evs from rfl, delivered_append]
  cases e <;> rfl

@[simp] theorem transmitted_tx (m : Msg) : transmitted [.tx m] = [m] := rfl
@[simp] theorem progressCalls_tx (m : Msg) : progressCalls [.tx m] = [] := rfl
@[simp] theorem delivered_tx (m : Msg) : delivered [.tx m] = [] := rfl
@[simp] theorem transmitted_prog (p : Bytes) (n t : Nat) : transmitted [.cbProgress p n t] = [] := rfl
@[simp] theorem progressCalls_prog (p : Bytes) (n t : Nat) : progressCalls [.cbProgress p n t] = [(p, n, t)] := rfl
@[simp] theorem delivered_prog (p : Bytes) (n t : Nat) : delivered [.cbProgress p n t] = [] := rfl

theorem mem_transmitted {m : Msg} {evs : List TEv} : m ∈ transmitted evs ↔ TEv.tx m ∈ evs := by
  simp only [transmitted_eq, List.mem_filterMap, List.mem_reverse]
  constructor
  · rintro ⟨e, he, h⟩
    cases e <;> simp [txOf] at h
    subst h; exact he
  · intro h; exact ⟨_, h, rfl⟩

theorem mem_progressCalls {c : Bytes × Nat × Nat} {evs : List TEv} :
    c ∈ progressCalls evs ↔ TEv.cbProgress c.1 c.2.1 c.2.2 ∈ evs := by
  simp only [progressCalls_eq, List.mem_filterMap, List.mem_reverse]
  constructor
  · rintro ⟨e, he, h⟩
    cases e <;> simp [progOf] at h
    subst h; exact he
  · intro h; exact ⟨_, h, rfl⟩

theorem mem_delivered {p : Pkt} {evs : List TEv} : p ∈ delivered evs ↔ TEv.deliver p ∈ evs := by
  simp only [delivered_eq, List.mem_filterMap, List.mem_reverse]
  constructor
  · rintro ⟨e, he, h⟩
    cases e <;> simp [delivOf] at h
    subst h; exact he
  · intro h; exact ⟨_, h, rfl⟩

theorem progressCalls_eq_nil {evs : List TEv} (h : ∀ p n t, TEv.cbProgress p n t ∉ evs) : progressCalls evs = [] := by
  apply List.eq_nil_iff_forall_not_mem.2
  intro c hc
  exact h _ _ _ (mem_progressCalls.1 hc)

theorem delivered_eq_nil {evs : List TEv} (h : ∀ p, TEv.deliver p ∉ evs) : delivered evs = [] := by
  apply List.eq_nil_iff_forall_not_mem.2
  intro c hc
  exact h _ (mem_delivered.1 hc)

theorem transmitted_eq_nil {evs : List TEv} (h : ∀ m, TEv.tx m ∉ evs) : transmitted evs = [] := by
  apply List.eq_nil_iff_forall_not_mem.2
  intro c hc
  exact h _ (mem_transmitted.1 hc)

/-- no WRTE among the transmitted messages ⇒ no WRTE payloads -/
theorem wrtePayloads_eq_nil {l r : Nat} {evs : List TEv} (h : ∀ m ∈ transmitted evs, m.cmd = Cmd.OKAY) :
    wrtePayloads l r evs = [] := by
  unfold wrtePayloads
  apply List.eq_nil_iff_forall_not_mem.2
  intro d hd
  rw [List.mem_filterMap] at hd
  obtain ⟨m, hm, hd⟩ := hd
  have := h m hm
  simp [this] at hd

theorem wrtePayloads_wrte (l r : Nat) (d : Bytes) : wrtePayloads l r [.tx ⟨.WRTE, l, r, d⟩] = [d] := by
  simp [wrtePayloads]

/-- events of a two-step run: the whole is the second step's events in front of the first step's -/
theorem evs_split {t0 t1 t2 e1 e2 evs : List TEv} (h1 : t1 = e1 ++ t0) (h2 : t2 = e2 ++ t1) (h : t2 = evs ++ t0) :
    evs = e2 ++ e1 := by
  subst h1 h2
  rw [← List.append_assoc] at h
  exact (List.append_cancel_right h).symm

theorem evs_unique {t0 e1 evs : List TEv} (h1 : e1 ++ t0 = evs ++ t0) : evs = e1 :=
  (List.append_cancel_right h1).symm

/-! ### FileSync records -/

@[simp] theorem syncRec_length (id : SyncId) (size : Nat) (data : Bytes) :
    (syncRec id size data).length = 8 + data.length := by
  simp [syncRec]; omega

theorem fmt_size_ge (f : SyncFmt) : 8 ≤ f.size := by
  cases f <;> decide

/-! ### chunks -/

theorem chunksOfAux_stable (k : Nat) (hk : 0 < k) : ∀ (f1 f2 : Nat) (c : Bytes), c.length ≤ f1 → c.length ≤ f2 →
    chunksOfAux k f1 c = chunksOfAux k f2 c := by
  intro f1
  induction f1 with
  | zero =>
    intro f2 c h1 h2
    have : c = [] := List.eq_nil_of_length_eq_zero (by omega)
    subst this
    cases f2 <;> simp [chunksOfAux]
  | succ f1 ih =>
    intro f2 c h1 h2
    cases f2 with
    | zero =>
      have : c = [] := List.eq_nil_of_length_eq_zero (by omega)
      subst this
      simp [chunksOfAux]
    | succ f2 =>
      simp only [chunksOfAux]
      split
      · rfl
      · next hne =>
        have hc : c ≠ [] := by intro h; subst h; simp at hne
        have hl : 0 < c.length := List.length_pos_iff.2 hc
        rw [ih f2 (c.drop k) (by simp; omega) (by simp; omega)]

/-- the unfolding equation of `chunksOf`, in the shape of the read loop of `_push` -/
theorem chunksOf_unfold (k : Nat) (c : Bytes) :
    chunksOf k c = if (c.take k).isEmpty then [] else c.take k :: chunksOf k (c.drop k) := by
  unfold chunksOf
  cases hc : c with
  | nil => simp [chunksOfAux]
  | cons x xs =>
    simp only [List.length_cons, chunksOfAux]
    split
    · rfl
    · next hne =>
      have hk : 0 < k := by
        cases k with
        | zero => simp at hne
        | succ k => omega
      rw [chunksOfAux_stable k hk xs.length ((x :: xs).drop k).length ((x :: xs).drop k) (by simp; omega) (Nat.le_refl _)]

theorem chunksOf_nil (k : Nat) : chunksOf k [] = [] := by
  rw [chunksOf_unfold]; simp

/-- induction principle following the read loop -/
theorem chunksOf_induct {motive : Bytes → Prop} (k : Nat) (hk : 0 < k)
    (hnil : motive [])
    (hstep : ∀ c, c ≠ [] → motive (c.drop k) → motive c) : ∀ c, motive c := by
  intro c
  generalize hn : c.length = n
  induction n using Nat.strongRecOn generalizing c with
  | _ n ih =>
    cases hc : c with
    | nil => exact hnil
    | cons x xs =>
      rw [← hc]
      apply hstep c (by simp [hc])
      apply ih (c.drop k).length _ _ rfl
      subst hn
      simp [hc]; omega

/-- the chunks concatenate to the content: nothing lost, duplicated or reordered -/
theorem chunksOf_flatten (k : Nat) (hk : 0 < k) (c : Bytes) : (chunksOf k c).flatten = c := by
  induction c using chunksOf_induct k hk with
  | hnil => simp [chunksOf_nil]
  | hstep c hc ih =>
    rw [chunksOf_unfold]
    have : (c.take k).isEmpty = false := by
      cases c with
      | nil => exact absurd rfl hc
      | cons x xs => cases k with
        | zero => omega
        | succ k => simp
    simp only [this, Bool.false_eq_true, if_false, List.flatten_cons, ih, List.take_append_drop]

/-- every chunk is a non-empty read of at most `k` bytes -/
theorem chunksOf_bound (k : Nat) (c : Bytes) : ∀ x ∈ chunksOf k c, 0 < x.length ∧ x.length ≤ k := by
  unfold chunksOf
  generalize c.length = f
  induction f generalizing c with
  | zero => simp [chunksOfAux]
  | succ f ih =>
    simp only [chunksOfAux]
    split
    · simp
    · next hne =>
      intro x hx
      rw [List.mem_cons] at hx
      rcases hx with rfl | hx
      · refine ⟨?_, by simp; omega⟩
        apply List.length_pos_iff.2
        intro h; simp [h] at hne
      · exact ih _ x hx

theorem chunksOf_lengths_sum (k : Nat) (hk : 0 < k) (c : Bytes) : ((chunksOf k c).map List.length).sum = c.length := by
  have := congrArg List.length (chunksOf_flatten k hk c)
  rw [List.length_flatten] at this
  exact this

/-! ### max_chunk_size -/

theorem maxChunkSize_spec (maxdata : Nat) :
    0 < maxChunkSize maxdata ∧ maxChunkSize maxdata ≤ 65536 ∧ (2 ≤ maxdata → maxChunkSize maxdata ≤ maxdata / 2) := by
  unfold maxChunkSize
  simp only [Generated.MAX_CHUNK_SIZE, Generated.MAX_PUSH_DATA]
  by_cases h : min 65536 (maxdata / 2) = 0
  · simp only [h, if_true]; omega
  · simp only [h, if_false]; omega

end Adb.Push
