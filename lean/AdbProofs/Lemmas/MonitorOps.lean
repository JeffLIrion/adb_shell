import AdbProofs.Lemmas.MonitorLemmas
import AdbProofs.Lemmas.IdEq
import AdbProofs.Lemmas.Blocks
/-
  C04 — whole API operations against the protocol monitor: a stream is opened with a fresh local id,
  used by stream operations (`SQ`), and closed; the monitor accepts the whole conversation and only
  the table entry of the new stream changes.
-/
namespace Adb
open Monitor (Ev St Viol Table isStreamCmd hostStep devStep)

/-- outcome of a whole-stream operation that uses local id `l`, started from table `S`: the exchange
    is accepted, only the entry of `l` changed, and if `closed` the stream ended closed by both sides -/
def OpAcc (l : Nat) (S : Table) (X : List Xfer) (closed : Prop) : Prop :=
  ∃ S', Acc S X S' ∧ Only l S S' ∧ (closed → ∃ st, alookup l S' = some st ∧ Done st)

theorem OpAcc.nil (l : Nat) (S : Table) {closed : Prop} (h : ¬ closed) : OpAcc l S [] closed :=
  ⟨S, Acc.nil S, Only.refl l S, fun hc => absurd hc h⟩

theorem OpAcc.mono {l : Nat} {S : Table} {X : List Xfer} {closed closed' : Prop} (h : OpAcc l S X closed)
    (hc : closed' → closed) : OpAcc l S X closed' :=
  let ⟨S', h1, h2, h3⟩ := h
  ⟨S', h1, h2, fun c => h3 (hc c)⟩

/-- a stream operation that ends by closing the stream: from open-and-quiet, accepted; closed by both
    sides after a normal return -/
abbrev SC {α : Type} (l r : Nat) (x : M α) : Prop := Str l (Quiet1 r) DoneIfOk x

theorem SC_bind {α β : Type} {l r : Nat} {x : M α} {f : α → M β} (hx : SQ l r x) (hfr : Fr x) (hf : ∀ a, SC l r (f a)) :
    SC l r (x >>= f) :=
  Str.bind hx hfr hf fun _ _ _ => nofun

/-- a closing operation followed by something that does not talk to the device -/
theorem SC_then {α β : Type} {l r : Nat} {x : M α} {f : α → M β} (hx : SC l r x) (hfr : Fr x) (hf : ∀ a, Qt (f a)) :
    SC l r (x >>= f) :=
  Str.bind hx hfr (fun a => (Str_of_Qt (hf a)).mono (fun _ h => h) fun _ _ h _ _ => h a rfl) fun _ _ _ => nofun

/-- `_clse` closes the stream it is given -/
theorem SC_clse {t : Txn} {l r : Nat} (hi : Ids t l r) : SC l r (clse t) :=
  (Str_clse hi).mono (fun _ h => h.live) fun _ _ h => h.2

/-- `_read_until_close` closes the stream it is given -/
theorem SC_readUntilClose {t : Txn} {l r : Nat} (hi : Ids t l r) : SC l r (readUntilClose t) :=
  (Str_readUntilClose hi).mono (fun _ h => h.live) fun _ _ h => h.2

/-- a whole operation that opens at most one stream (with the next local id), whatever its outcome:
    from every table in which that id is fresh the monitor accepts the conversation, only the entry of
    the new stream changes, and — if the operation `closes` its stream — the stream ends closed by both
    sides when the operation returns normally -/
def OneStream {α : Type} (closes : Prop) (x : M α) : Prop :=
  ∀ (w w' : World) (res : Except Err α), x w = (res, w') → w.locks = [] →
    ∃ X Y, Adds w w' X Y ∧ ((X = [] ∧ w'.localId = w.localId) ∨ w'.localId = nextId w.localId) ∧
      (NZ X → ∀ S, w.localId < 4294967296 → Fresh S (nextId w.localId) →
        OpAcc (nextId w.localId) S X (closes ∧ ∃ a, res = .ok a))

/-- `_open` always advances the id counter by one step, whatever its outcome -/
theorem openStream_localId {dest : Bytes} {tt rt total : Timeout} {w w' : World} {res : Except Err Txn}
    (h : openStream dest tt rt total w = (res, w')) (hl : w.locks = []) : w'.localId = nextId w.localId := by
  rw [openStream_alloc_run dest tt rt total w (by simp [hl])] at h
  split at h
  · next t _ =>
    have hid : IdEq (openRest dest t) := Pres_openRest IdEqR.wrel IdEqR.admits dest t
    exact hid.of h
  · cases h; rfl

/-- `_open` alone: the stream is opened and left alone -/
theorem OneStream_openStream (dest : Bytes) (tt rt total : Timeout) : OneStream False (openStream dest tt rt total) := by
  intro w w' res h hl
  obtain ⟨X, hA, _, hacc⟩ := openStream_mon h hl
  refine ⟨X, [], hA, Or.inr (openStream_localId h hl), fun _ S hid hf => ?_⟩
  cases res with
  | ok t =>
    obtain ⟨r, _, hacc⟩ := hacc
    obtain ⟨st, h1, _⟩ := hacc S hid hf
    exact ⟨_, h1, Only.aset _ _ S, by simp⟩
  | error e =>
    obtain ⟨S', h1, h2⟩ := hacc S hid hf
    exact ⟨S', h1, h2, by simp⟩

/-- `_open` followed by an operation that uses and closes the new stream -/
theorem OneStream_open_then {β : Type} {dest : Bytes} {tt rt total : Timeout} {k : Txn → M β}
    (hk : ∀ t l r, Ids t l r → SC l r (k t)) (hkid : ∀ t, IdEq (k t)) : OneStream True (openStream dest tt rt total >>= k) := by
  intro w w' res h hl
  rcases bind_any_inv h with ⟨e, he, rfl⟩ | ⟨t, w1, ho, hrest⟩
  · obtain ⟨X, Y, hA, hloc, hacc⟩ := OneStream_openStream dest tt rt total w w' _ he hl
    exact ⟨X, Y, hA, hloc, fun hnz S hid hf => (hacc hnz S hid hf).mono (by simp)⟩
  · obtain ⟨X1, hA1, _, r, hi, hacc1⟩ := openStream_mon ho hl
    have hl1 : lockTransport ∉ w1.locks := by rw [Fr.locks_of (Fr_openStream _ _ _ _) ho, hl]; simp
    obtain ⟨X2, Y2, hA2, hacc2⟩ := hk t _ r hi w1 w' res hrest hl1
    refine ⟨X1 ++ X2, [] ++ Y2, hA1.trans hA2, Or.inr (((hkid t).of hrest).trans (openStream_localId ho hl)), ?_⟩
    intro hnz S hid hf
    obtain ⟨_, hn2⟩ := NZ_append.1 hnz
    obtain ⟨st1, h1, hq1⟩ := hacc1 S hid hf
    obtain ⟨st2, h2, hd⟩ := hacc2 hn2 (aset (nextId w.localId) st1 S) st1 (alookup_aset_self _ _ _) hq1
    rw [aset_aset] at h2
    exact ⟨aset (nextId w.localId) st2 S, h1.append h2, Only.aset _ _ S, fun ⟨_, a, ha⟩ => ⟨st2, alookup_aset_self _ _ _, hd a ha⟩⟩

theorem Qt_runGuards : ∀ gs p, Qt (runGuards gs p) := Pres_runGuards QtR.wrel

/-- a computation beside the streams: it adds nothing the monitor sees to the trace, leaves the id counter
    alone and changes the world only within `Frame` -/
structure Aside {α : Type} (x : M α) : Prop where
  qt : Qt x
  fr : Fr x
  id : IdEq x

theorem Aside_pure {α : Type} (a : α) : Aside (pure a : M α) := ⟨Qt_pure a, Fr_pure a, IdEq_pure a⟩
theorem Aside_get : Aside M.get := ⟨Qt_get, Fr_get, IdEq_get⟩
theorem Aside_runGuards (gs p) : Aside (runGuards gs p) := ⟨Qt_runGuards gs p, Fr_runGuards gs p, IdEq_runGuards gs p⟩
theorem Aside_lookupFile (id : Nat) : Aside (lookupFile id) := ⟨Qt_lookupFile id, Fr_lookupFile id, IdEq_lookupFile id⟩
theorem Aside_setSink (s : Option Bytes) : Aside (M.modify fun w => { w with sink := s }) :=
  ⟨Qt_modify fun _ => rfl, Fr_modify fun _ => Frame.sink _ _, IdEq_modify fun _ => rfl⟩

theorem OneStream_prefix {α β : Type} {c : Prop} {x : M α} {f : α → M β} (hx : Aside x)
    (hf : ∀ a, OneStream c (f a)) : OneStream c (x >>= f) := by
  intro w w' res h hl
  rcases bind_any_inv h with ⟨e, he, rfl⟩ | ⟨a, w1, ha, hrest⟩
  · refine ⟨[], [], hx.qt.adds he, Or.inl ⟨rfl, hx.id.of he⟩, ?_⟩
    intro _ S _ _
    exact OpAcc.nil _ S (by simp)
  · have hl1 : w1.locks = [] := by rw [Fr.locks_of hx.fr ha]; exact hl
    obtain ⟨X, Y, hA, hloc, hacc⟩ := hf a w1 w' res hrest hl1
    refine ⟨X, Y, by simpa using (hx.qt.adds ha).trans hA, ?_⟩
    rw [← hx.id.of ha]
    exact ⟨hloc, hacc⟩

theorem OneStream_suffix {α β : Type} {c : Prop} {x : M α} {f : α → M β} (hx : OneStream c x) (hf : ∀ a, Aside (f a)) :
    OneStream c (x >>= f) := by
  intro w w' res h hl
  rcases bind_any_inv h with ⟨e, he, rfl⟩ | ⟨a, w1, ha, hrest⟩
  · obtain ⟨X, Y, hA, hloc, hacc⟩ := hx w w' _ he hl
    exact ⟨X, Y, hA, hloc, fun hnz S hid hfS => (hacc hnz S hid hfS).mono (by simp)⟩
  · obtain ⟨X, Y, hA, hloc, hacc⟩ := hx w w1 _ ha hl
    exact ⟨X, Y, by simpa using hA.trans ((hf a).qt.adds hrest), by rw [(hf a).id.of hrest]; exact hloc,
      fun hnz S hid hfS => (hacc hnz S hid hfS).mono fun hc => ⟨hc.1, a, rfl⟩⟩

/-- `_streaming_command`: shell, exec_out, streaming_shell and root all run through it -/
theorem OneStream_streamingCommand (svc cmd : Bytes) (tt rt total : Timeout) :
    OneStream True (streamingCommand svc cmd tt rt total) := by
  unfold streamingCommand
  exact OneStream_open_then (fun t l r hi => SC_readUntilClose hi) (fun t => IdEq_readUntilClose _)

theorem OneStream_service (svc cmd : Bytes) (tt rt total : Timeout) (dec : Bool) : OneStream True (service svc cmd tt rt total dec) := by
  unfold service
  exact OneStream_suffix (OneStream_streamingCommand _ _ _ _ _) fun _ => Aside_pure _

theorem OneStream_streamingService (svc cmd : Bytes) (tt rt : Timeout) (dec : Bool) : OneStream True (streamingService svc cmd tt rt dec) := by
  unfold streamingService
  exact OneStream_suffix (OneStream_streamingCommand _ _ _ _ _) fun _ => Aside_pure _

theorem OneStream_devShellLike (op : String) (svc cmd : Bytes) (tt rt total : Timeout) (dec : Bool) :
    OneStream True (devShellLike op svc cmd tt rt total dec) := by
  unfold devShellLike
  exact OneStream_prefix (Aside_runGuards _ _) (fun _ => OneStream_service _ _ _ _ _ _)

theorem OneStream_devRoot (tt rt total : Timeout) : OneStream True (devRoot tt rt total) := by
  unfold devRoot
  exact OneStream_prefix (Aside_runGuards _ _) (fun _ => OneStream_suffix (OneStream_service _ _ _ _ _ _) fun _ => Aside_pure _)

theorem OneStream_devStreamingShell (cmd : Bytes) (tt rt : Timeout) (dec : Bool) : OneStream True (devStreamingShell cmd tt rt dec) := by
  unfold devStreamingShell
  exact OneStream_prefix (Aside_runGuards _ _) (fun _ => OneStream_streamingService _ _ _ _ _)

/-- `stat` -/
theorem OneStream_devStat (devPath : Bytes) (tt rt : Timeout) : OneStream True (devStat devPath tt rt) :=
  OneStream_prefix (Aside_runGuards _ _) fun _ => OneStream_open_then (fun _ _ _ hi =>
    SC_bind (SQ_of_Qt Qt_get) Fr_get fun _ => SC_bind (SQ_fsSend hi _ _ _ _) (Fr_fsSend _ _ _ _ _) fun _ =>
      SC_bind (SQ_fsRead hi _ _) (Fr_fsRead _ _ _) fun (_, _) => SC_then (SC_clse hi) (Fr_clse _) fun _ => Qt_pure _)
    (fun _ => IdEq_bind IdEq_get fun _ => IdEq_bind (IdEq_fsSend _ _ _ _ _) fun _ => IdEq_bind (IdEq_fsRead _ _ _) fun _ =>
      IdEq_bind (IdEq_clse _) fun _ => IdEq_pure _)

/-- `list` -/
theorem OneStream_devList (devPath : Bytes) (tt rt : Timeout) : OneStream True (devList devPath tt rt) :=
  OneStream_prefix (Aside_runGuards _ _) fun _ => OneStream_open_then (fun _ _ _ hi =>
    SC_bind (SQ_of_Qt Qt_get) Fr_get fun _ => SC_bind (SQ_fsSend hi _ _ _ _) (Fr_fsSend _ _ _ _ _) fun _ =>
      SC_bind (SQ_listLoop hi _ _ _) (Fr_listLoop _ _ _ _) fun _ => SC_then (SC_clse hi) (Fr_clse _) fun _ => Qt_pure _)
    (fun _ => IdEq_bind IdEq_get fun _ => IdEq_bind (IdEq_fsSend _ _ _ _ _) fun _ => IdEq_bind (IdEq_listLoop _ _ _ _) fun _ =>
      IdEq_bind (IdEq_clse _) fun _ => IdEq_pure _)

/-- `push` of one file / BytesIO -/
theorem OneStream_pushFile (fid : Nat) (devPath : Bytes) (mode mtime : Nat) (cb : CbMode) (tt rt : Timeout) :
    OneStream True (pushFile fid devPath mode mtime cb tt rt) :=
  OneStream_prefix (Aside_lookupFile _) fun _ => OneStream_open_then (fun _ _ _ hi =>
    SC_bind (SQ_of_Qt Qt_get) Fr_get fun _ => SC_bind (SQ_pushOne hi _ _ _ _ _ _) (Fr_pushOne _ _ _ _ _ _ _) fun _ => SC_clse hi)
    (fun _ => IdEq_bind IdEq_get fun _ => IdEq_bind (IdEq_pushOne _ _ _ _ _ _ _) fun _ => IdEq_clse _)

/-- `reboot`: the stream is opened and left alone -/
theorem OneStream_devReboot (fb : Bool) (tt rt total : Timeout) : OneStream False (devReboot fb tt rt total) := by
  unfold devReboot
  exact OneStream_prefix (Aside_runGuards _ _) fun _ =>
    OneStream_suffix (OneStream_openStream _ _ _ _) fun _ => Aside_pure _

/-! ### `pull` -/

/-- `try: x  finally: _clse` where `x` is a stream operation -/
theorem SC_tryFinally_clse {α : Type} {t : Txn} {l r : Nat} (hi : Ids t l r) {x : M α} (hx : SQ l r x) (hfr : Fr x) :
    SC l r (M.tryFinally x (clse t)) := by
  intro w w' res h hl
  obtain ⟨r1, w1, r2, hx1, hc, -⟩ := tryFinally_inv h
  obtain ⟨X1, Y1, hA1, hacc1⟩ := hx w w1 r1 hx1 hl
  have hl1 : lockTransport ∉ w1.locks := by rw [Fr.locks_of hfr hx1]; exact hl
  obtain ⟨X2, Y2, hA2, hacc2⟩ := Str_clse hi w1 w' r2 hc hl1
  refine ⟨X1 ++ X2, Y1 ++ Y2, hA1.trans hA2, ?_⟩
  intro hnz S st hst hq
  obtain ⟨hn1, hn2⟩ := NZ_append.1 hnz
  obtain ⟨st1, h1, hq1⟩ := hacc1 hn1 S st hst hq
  obtain ⟨st2, h2, _, hd⟩ := hacc2 hn2 (aset l st1 S) st1 (alookup_aset_self _ _ _) hq1.live
  rw [aset_aset] at h2
  exact ⟨st2, h1.append h2, fun a ha => hd () (tryFinally_fin_ok (ha ▸ h) hx1 hc)⟩

theorem SQ_pullRest {t : Txn} {l r : Nat} (hi : Ids t l r) (devPath : Bytes) (cb : CbMode) (fi : FsInfo) (total : Nat) :
    SQ l r (pullRest devPath cb t fi total) :=
  SQ_bind (SQ_fsSend hi _ _ _ _) (Fr_fsSend _ _ _ _ _) fun _ => SQ_bind (SQ_of_Qt Qt_get) Fr_get fun _ => SQ_pullLoop hi _ _ _ _ _

theorem Fr_pullRest (devPath : Bytes) (cb : CbMode) (t : Txn) (fi : FsInfo) (total : Nat) : Fr (pullRest devPath cb t fi total) :=
  Pres_pullRest Frame.wrel Frame.admits Frame.sink devPath cb t fi total
theorem IdEq_pullRest (devPath : Bytes) (cb : CbMode) (t : Txn) (fi : FsInfo) (total : Nat) : IdEq (pullRest devPath cb t fi total) :=
  Pres_pullRest IdEqR.wrel IdEqR.admits (fun _ _ => rfl) devPath cb t fi total

theorem pullTotal_none (devPath : Bytes) (t : Txn) : pullTotal devPath .none t = pure 0 := by
  simp only [pullTotal, ne_eq, not_true_eq_false, if_false]

theorem IdEq_pullInner_none (devPath : Bytes) (t : Txn) (fi : FsInfo) : IdEq (pullInner devPath .none t fi) := by
  rw [pullInner_eq, pullTotal_none]
  exact IdEq_bind (IdEq_pure _) fun _ => IdEq_pullRest _ _ _ _ _

/-- without a progress callback `_pull` is an operation on its own stream only -/
theorem SQ_pullInner_none {t : Txn} {l r : Nat} (hi : Ids t l r) (devPath : Bytes) (fi : FsInfo) :
    SQ l r (pullInner devPath .none t fi) := by
  rw [pullInner_eq, pullTotal_none]
  exact SQ_bind (SQ_pure _) (Fr_pure _) fun total => SQ_pullRest hi _ _ _ _

/-- `pull` without a progress callback -/
theorem OneStream_devPull_none (devPath : Bytes) (tt rt : Timeout) : OneStream True (devPull devPath .none tt rt) := by
  unfold devPull
  refine OneStream_prefix (Aside_runGuards _ _) (fun _ => OneStream_prefix (Aside_setSink _) (fun _ =>
    OneStream_open_then (fun t l r hi => ?_) (fun t => IdEq_bind IdEq_get fun _ =>
      IdEq_bind (IdEq_tryFinally (IdEq_pullInner_none _ _ _) (IdEq_clse _)) fun _ => IdEq_pure _)))
  exact SC_bind (SQ_of_Qt Qt_get) Fr_get fun _ =>
    SC_then (SC_tryFinally_clse hi (SQ_pullInner_none hi devPath _) (Fr_pullInner _ _ _ _)) (Fr_tryFinally (Fr_pullInner _ _ _ _) (Fr_clse _)) fun _ => Qt_pure _

/-- `OneStream` spelled out on the trace and the monitor loop -/
theorem OneStream.explicit {α : Type} {c : Prop} {x : M α} (hx : OneStream c x) {w w' : World} {res : Except Err α}
    (h : x w = (res, w')) (hl : w.locks = []) :
    ∃ evs : List TEv, w'.trace = evs ++ w.trace ∧ ((∀ p ∈ delivered evs, p.arg1 ≠ 0) →
      ∀ S : Table, w.localId < 4294967296 → (∀ st, alookup (nextId w.localId) S = some st → st.done = true) →
        ∃ S', Monitor.run S (ofXfers (exchanged evs)) = (S', []) ∧
          (∀ k, k ≠ nextId w.localId → alookup k S' = alookup k S) ∧
          (c → (∃ a, res = .ok a) → ∃ st, alookup (nextId w.localId) S' = some st ∧ Done st)) := by
  obtain ⟨X, Y, ⟨evs, htr, rfl, _⟩, _, hacc⟩ := hx w w' res h hl
  refine ⟨evs, htr, fun hnz S hid hf => ?_⟩
  obtain ⟨S', h1, h2, h3⟩ := hacc (NZ_exchanged hnz) S hid hf
  exact ⟨S', h1, h2, fun hc ha => h3 ⟨hc, ha⟩⟩

/-- the same for an operation that closes its stream -/
theorem OneStream.closed {α : Type} {x : M α} (hx : OneStream True x) {w w' : World} {res : Except Err α}
    (h : x w = (res, w')) (hl : w.locks = []) :
    ∃ evs : List TEv, w'.trace = evs ++ w.trace ∧ ((∀ p ∈ delivered evs, p.arg1 ≠ 0) →
      ∀ S : Table, w.localId < 4294967296 → (∀ st, alookup (nextId w.localId) S = some st → st.done = true) →
        ∃ S', Monitor.run S (ofXfers (exchanged evs)) = (S', []) ∧
          (∀ k, k ≠ nextId w.localId → alookup k S' = alookup k S) ∧
          ((∃ a, res = .ok a) → ∃ st, alookup (nextId w.localId) S' = some st ∧ Done st)) := by
  obtain ⟨evs, htr, hacc⟩ := hx.explicit h hl
  refine ⟨evs, htr, fun hnz S hid hf => ?_⟩
  obtain ⟨S', h1, h2, h3⟩ := hacc hnz S hid hf
  exact ⟨S', h1, h2, h3 trivial⟩

end Adb
