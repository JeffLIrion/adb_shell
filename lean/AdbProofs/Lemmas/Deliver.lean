import AdbProofs.Lemmas.FrameOps
import AdbProofs.Lemmas.StoreFind
import AdbProofs.Lemmas.WireLemmas
/-
  The delivery calculus: what each wire/stream-layer function DELIVERS to its caller, what it
  TRANSMITS (hands to `_send`) and what it YIELDS, as a function of nothing but the trace events it
  adds.  `exchanged evs` is the interleaved list of deliveries (`rx`) and transmissions (`tx`), oldest
  first; `delivered` and `transmitted` are its two projections.  `Adds w w' X Y` packages "the trace
  of `w'` is the trace of `w` plus events whose exchange is `X` and whose yielded items are `Y`".
  Functions that add none of the three kinds of event are `Qt` ("quiet"): `Pres` (Pres.lean) at the
  relation "the trace grew by silent events".  `Reads` says that every run of a computation delivers at
  most the packet it returns; its rules follow the shape of `_AdbIOManager.read`: quiet steps, a step
  that may already return the packet, `with lock:`.
-/
namespace Adb

/-- packets delivered to the caller by the events `evs` (given MOST RECENT FIRST, as in the trace), OLDEST first -/
def delivered (evs : List TEv) : List Pkt :=
  evs.reverse.filterMap (fun e => match e with | .deliver p => some p | _ => none)

/-- messages handed to `_send` by the events, oldest first -/
def transmitted (evs : List TEv) : List Msg :=
  evs.reverse.filterMap (fun e => match e with | .tx m => some m | _ => none)

/-- items yielded by a streaming generator during the events, oldest first -/
def yieldedBy (evs : List TEv) : List Bytes :=
  evs.reverse.filterMap (fun e => match e with | .yielded d => some d | _ => none)

/-- one step of the conversation with the device as seen by the caller of the I/O manager -/
inductive Xfer where
  | rx (p : Pkt)     -- a packet delivered to the caller
  | tx (m : Msg)     -- a message handed to `_send`
  deriving DecidableEq, Repr

def Xfer.rx? : Xfer → Option Pkt | .rx p => some p | .tx _ => none
def Xfer.tx? : Xfer → Option Msg | .tx m => some m | .rx _ => none

/-- deliveries and transmissions of the events in the order they happened, oldest first -/
def exchanged (evs : List TEv) : List Xfer :=
  evs.reverse.filterMap (fun e => match e with | .deliver p => some (.rx p) | .tx m => some (.tx m) | _ => none)

def rxs (X : List Xfer) : List Pkt := X.filterMap Xfer.rx?
def txs (X : List Xfer) : List Msg := X.filterMap Xfer.tx?

@[simp] theorem rxs_nil : rxs [] = [] := rfl
@[simp] theorem txs_nil : txs [] = [] := rfl
@[simp] theorem rxs_append (a b : List Xfer) : rxs (a ++ b) = rxs a ++ rxs b := by simp [rxs]
@[simp] theorem txs_append (a b : List Xfer) : txs (a ++ b) = txs a ++ txs b := by simp [txs]
@[simp] theorem rxs_cons_rx (p : Pkt) (X : List Xfer) : rxs (.rx p :: X) = p :: rxs X := rfl
@[simp] theorem rxs_cons_tx (m : Msg) (X : List Xfer) : rxs (.tx m :: X) = rxs X := rfl
@[simp] theorem txs_cons_rx (p : Pkt) (X : List Xfer) : txs (.rx p :: X) = txs X := rfl
@[simp] theorem txs_cons_tx (m : Msg) (X : List Xfer) : txs (.tx m :: X) = m :: txs X := rfl

theorem delivered_eq_rxs (evs : List TEv) : delivered evs = rxs (exchanged evs) := by
  unfold delivered exchanged rxs
  rw [List.filterMap_filterMap]
  congr 1; funext e; cases e <;> rfl
theorem transmitted_eq_txs (evs : List TEv) : transmitted evs = txs (exchanged evs) := by
  unfold transmitted exchanged txs
  rw [List.filterMap_filterMap]
  congr 1; funext e; cases e <;> rfl

@[simp] theorem exchanged_nil : exchanged [] = [] := rfl
theorem exchanged_append (later earlier : List TEv) :
    exchanged (later ++ earlier) = exchanged earlier ++ exchanged later := by
  simp [exchanged]

@[simp] theorem delivered_nil : delivered [] = [] := rfl
@[simp] theorem transmitted_nil : transmitted [] = [] := rfl
@[simp] theorem yieldedBy_nil : yieldedBy [] = [] := rfl

/-- events are most recent first: `later ++ earlier` -/
theorem delivered_append (later earlier : List TEv) :
    delivered (later ++ earlier) = delivered earlier ++ delivered later := by
  simp [delivered]
theorem transmitted_append (later earlier : List TEv) :
    transmitted (later ++ earlier) = transmitted earlier ++ transmitted later := by
  simp [transmitted]
theorem yieldedBy_append (later earlier : List TEv) :
    yieldedBy (later ++ earlier) = yieldedBy earlier ++ yieldedBy later := by
  simp [yieldedBy]

theorem delivered_cons (e : TEv) (evs : List TEv) :
    delivered (e :: evs) = delivered evs ++ (match e with | .deliver p => [p] | _ => []) := by
  rw [show e :: evs = [e] ++ evs from rfl, delivered_append]
  cases e <;> rfl
theorem transmitted_cons (e : TEv) (evs : List TEv) :
    transmitted (e :: evs) = transmitted evs ++ (match e with | .tx m => [m] | _ => []) := by
  rw [show e :: evs = [e] ++ evs from rfl, transmitted_append]
  cases e <;> rfl
theorem yieldedBy_cons (e : TEv) (evs : List TEv) :
    yieldedBy (e :: evs) = yieldedBy evs ++ (match e with | .yielded d => [d] | _ => []) := by
  rw [show e :: evs = [e] ++ evs from rfl, yieldedBy_append]
  cases e <;> rfl

theorem exchanged_cons (e : TEv) (evs : List TEv) :
    exchanged (e :: evs) = exchanged evs ++ (match e with | .deliver p => [.rx p] | .tx m => [.tx m] | _ => []) := by
  rw [show e :: evs = [e] ++ evs from rfl, exchanged_append]
  cases e <;> rfl

theorem silent_lists {evs : List TEv} (h : ∀ e ∈ evs, e.silent = true) :
    exchanged evs = [] ∧ yieldedBy evs = [] := by
  constructor <;>
  · refine List.filterMap_eq_nil_iff.2 fun e he => ?_
    have hs := h e (List.mem_reverse.1 he)
    cases e <;> first | rfl | cases hs

/-- the trace of `w'` extends the trace of `w` by events whose exchange with the device is `X`
    (deliveries and transmissions in order) and that yield `Y` -/
def Adds (w w' : World) (X : List Xfer) (Y : List Bytes) : Prop :=
  ∃ evs, w'.trace = evs ++ w.trace ∧ exchanged evs = X ∧ yieldedBy evs = Y

/-- the `delivered` / `transmitted` reading of `Adds` -/
theorem Adds.dt {w w' : World} {X : List Xfer} {Y : List Bytes} (h : Adds w w' X Y) :
    ∃ evs, w'.trace = evs ++ w.trace ∧ delivered evs = rxs X ∧ transmitted evs = txs X ∧ yieldedBy evs = Y
      ∧ exchanged evs = X := by
  obtain ⟨evs, ht, hx, hy⟩ := h
  exact ⟨evs, ht, by rw [delivered_eq_rxs, hx], by rw [transmitted_eq_txs, hx], hy, hx⟩

theorem Adds.of_trace_eq {w w' : World} (h : w'.trace = w.trace) : Adds w w' [] [] :=
  ⟨[], by simp [h], rfl, rfl⟩

theorem Adds.rfl' (w : World) : Adds w w [] [] := Adds.of_trace_eq rfl

theorem Adds.trans {a b c : World} {X1 X2 : List Xfer} {Y1 Y2 : List Bytes}
    (h1 : Adds a b X1 Y1) (h2 : Adds b c X2 Y2) : Adds a c (X1 ++ X2) (Y1 ++ Y2) := by
  obtain ⟨e1, ht1, hx1, hy1⟩ := h1
  obtain ⟨e2, ht2, hx2, hy2⟩ := h2
  exact ⟨e2 ++ e1, by simp [ht2, ht1], by rw [exchanged_append, hx1, hx2], by rw [yieldedBy_append, hy1, hy2]⟩

/-- `Adds` only looks at the traces -/
theorem Adds.congr {w w' v v' : World} {X Y} (h : Adds w w' X Y) (h1 : v.trace = w.trace) (h2 : v'.trace = w'.trace) :
    Adds v v' X Y := by
  obtain ⟨e, ht, r⟩ := h
  exact ⟨e, by rw [h1, h2, ht], r⟩

theorem Adds.deliver {w w' : World} {p : Pkt} (h : w'.trace = .deliver p :: w.trace) : Adds w w' [.rx p] [] :=
  ⟨[.deliver p], by simp [h], rfl, rfl⟩
theorem Adds.tx {w w' : World} {m : Msg} (h : w'.trace = .tx m :: w.trace) : Adds w w' [.tx m] [] :=
  ⟨[.tx m], by simp [h], rfl, rfl⟩
theorem Adds.yielded {w w' : World} {d : Bytes} (h : w'.trace = .yielded d :: w.trace) : Adds w w' [] [d] :=
  ⟨[.yielded d], by simp [h], rfl, rfl⟩
theorem Adds.silent {w w' : World} {e : TEv} (he : e.silent = true) (h : w'.trace = e :: w.trace) : Adds w w' [] [] := by
  obtain ⟨h1, h2⟩ := silent_lists (evs := [e]) (by simpa using he)
  exact ⟨[e], by simp [h], h1, h2⟩

theorem Fr.locks_of {α} {x : M α} (hx : Fr x) {w w' : World} {r : Except Err α} (h : x w = (r, w')) :
    w'.locks = w.locks := (Pres.run (R := Frame) hx h).locks

def Qt {α : Type} (x : M α) : Prop := ∀ w, ∃ evs, (x w).2.trace = evs ++ w.trace ∧ ∀ e ∈ evs, e.silent = true

theorem Qt.adds {α} {x : M α} (hx : Qt x) {w w' : World} {r : Except Err α} (h : x w = (r, w')) :
    Adds w w' [] [] := by
  obtain ⟨evs, ht, hs⟩ := hx w
  rw [h] at ht
  obtain ⟨h1, h2⟩ := silent_lists hs
  exact ⟨evs, ht, h1, h2⟩

/-- the relation behind `Qt`: `Qt x` is `Pres QtR x` (Pres.lean) -/
abbrev QtR : World → World → Prop := Grows (·.silent = true)

theorem QtR.wrel : WRel QtR := Grows.wrel fun _ h => h

theorem Qt_pure {α} (a : α) : Qt (pure a : M α) := Pres.pure QtR.wrel a
theorem Qt_Mpure {α} (a : α) : Qt (M.pure a : M α) := Pres.mpure QtR.wrel a
theorem Qt_throw {α} (e : Err) : Qt (M.throw e : M α) := Pres.throw QtR.wrel e
theorem Qt_get : Qt M.get := Pres.get QtR.wrel
theorem Qt_elapsedGt (s : Int) (l : Timeout) : Qt (elapsedGt s l) := Pres.elapsedGt QtR.wrel s l
theorem Qt_bind {α β} {x : M α} {f : α → M β} (hx : Qt x) (hf : ∀ a, Qt (f a)) : Qt (x >>= f) :=
  Pres.bind QtR.wrel hx hf
theorem Qt_withLock {α} (l : Nat) {body : M α} (hb : Qt body) : Qt (withLock l body) := Pres.withLock QtR.wrel l hb
theorem Qt_modify {f : World → World} (hf : ∀ w, (f w).trace = w.trace) : Qt (M.modify f) :=
  fun w => Grows.of_trace_eq (hf w)
theorem Qt_emit {e : TEv} (he : e.silent = true) : Qt (emit e) := Pres.emit (QtR.wrel.event e he)

theorem Qt_waitTimeout {α} (tt : Timeout) : Qt (waitTimeout tt : M α) := Pres_waitTimeout QtR.wrel tt
/-- `_read_packet_from_device` delivers nothing and transmits nothing -/
theorem Qt_readPacket (t : Txn) : Qt (readPacket t) := Pres_readPacket QtR.wrel t
theorem Qt_storeFind (t : Txn) (az : Bool) : Qt (storeFind t az) := Pres_storeFind QtR.wrel t az
theorem Qt_storeGet (k : Nat × Nat) : Qt (storeGet k) := Pres_storeGet QtR.wrel k
/-- parking a packet (or losing a CLSE, K1) is neither a delivery nor a transmission -/
theorem Qt_storePut (p : Pkt) : Qt (storePut p) := Pres_storePut QtR.wrel p
theorem Qt_storeClear (a0 a1 : Nat) : Qt (storeClear a0 a1) := Pres_storeClear QtR.wrel a0 a1

/-- `_send(msg)`: whatever happens afterwards (pack error, write failure, timeout), exactly the
    message `m` was handed to `_send`, and nothing is delivered. -/
theorem sendRaw_adds {m : Msg} {t : Txn} {w w' : World} {r : Except Err Unit}
    (h : sendRaw m t w = (r, w')) : Adds w w' [.tx m] [] :=
  Adds.tx (sendRaw_spec m t w r w' h).2.2.1

/-- `_AdbIOManager.send(msg)` on an idle transport lock: exactly `m` is transmitted, nothing delivered. -/
theorem ioSend_adds {m : Msg} {t : Txn} {w w' : World} {r : Except Err Unit}
    (h : ioSend m t w = (r, w')) (hl : lockTransport ∉ w.locks) : Adds w w' [.tx m] [] := by
  unfold ioSend at h
  obtain ⟨w1, hb, rfl⟩ := withLock_any_inv h hl
  exact (sendRaw_adds hb).congr rfl rfl

/-- the ids of `p` fit the transaction `t`: `arg0` is the stream's remote id (if known) and `arg1` its
    local id (if known), or — with `allowZeros` — the legacy zero ids -/
def Txn.accepts (t : Txn) (az : Bool) (p : Pkt) : Bool :=
  if az then Store.keyMatchesZ t.remoteId t.localId (p.arg0, p.arg1)
  else Store.keyMatches t.remoteId t.localId (p.arg0, p.arg1)

theorem Txn.accepts_of_argsMatch {t : Txn} {az : Bool} {p : Pkt} (h : t.argsMatch p.arg0 p.arg1 az = true) :
    t.accepts az p = true := by
  obtain ⟨l, r, _, _, _⟩ := t
  unfold Txn.argsMatch at h
  unfold Txn.accepts Store.keyMatchesZ Store.keyMatches
  cases az <;> cases l <;> cases r <;> simp_all <;> grind

/-- with a known local id `l`: `arg1` is `l` (or 0 under `allowZeros`), and `arg0` is the remote id if
    that is known (or 0 under `allowZeros`) — exactly `args_match` -/
theorem Txn.accepts_iff {t : Txn} {az : Bool} {p : Pkt} {l : Nat} (hl : t.localId = some l) :
    t.accepts az p = true ↔ t.argsMatch p.arg0 p.arg1 az = true := by
  obtain ⟨l', r, _, _, _⟩ := t
  simp only at hl
  subst hl
  unfold Txn.argsMatch Txn.accepts Store.keyMatchesZ Store.keyMatches
  cases az <;> cases r <;> simp <;> grind

theorem Txn.accepts_ids {t : Txn} {az : Bool} {p : Pkt} {l : Nat} (hl : t.localId = some l) (h : t.accepts az p = true) :
    (p.arg1 = l ∨ (az = true ∧ p.arg1 = 0)) ∧ ∀ r, t.remoteId = some r → (p.arg0 = r ∨ (az = true ∧ p.arg0 = 0)) := by
  rw [Txn.accepts_iff hl] at h
  obtain ⟨l', r', _, _, _⟩ := t
  simp only at hl
  subst hl
  unfold Txn.argsMatch at h
  cases az <;> cases r' <;> simp_all <;> grind

namespace Store

/-- an answer of `find` matches the pattern (no invariant needed for this half of `find_spec`) -/
theorem find_matches {s : Store} {p0 p1 : Option Nat} {k : Nat × Nat} (h : s.find p0 p1 = some k) :
    keyMatches p0 p1 k = true := by
  unfold find at h
  split at h
  · simp at h
  · cases p1 with
    | none =>
      cases p0 with
      | none => rfl
      | some x => simpa [keyMatches] using (firstNonEmpty_some h).2
    | some y =>
      cases h1 : alookup y s with
      | none => simp [h1] at h
      | some inner =>
        simp only [h1] at h
        cases p0 with
        | none =>
          obtain ⟨k0, _, rfl⟩ := Option.map_eq_some_iff.1 h
          simp [keyMatches]
        | some x =>
          simp only at h
          split at h
          · split at h
            · simp at h
            · simp only [Option.some.injEq] at h; subst h; simp [keyMatches]
          · simp at h

theorem findAllowZeros_matches {s : Store} {p0 p1 : Option Nat} {k : Nat × Nat} (h : s.findAllowZeros p0 p1 = some k) :
    keyMatchesZ p0 p1 k = true := by
  unfold findAllowZeros at h
  unfold keyMatchesZ
  cases e1 : find s p0 p1 with
  | some k1 => simp only [e1, Option.some.injEq] at h; subst h; simp [find_matches e1]
  | none =>
    cases e2 : find s p0 (some 0) with
    | some k2 => simp only [e1, e2, Option.some.injEq] at h; subst h; simp [find_matches e2]
    | none =>
      cases e3 : find s (some 0) p1 with
      | some k3 => simp only [e1, e2, e3, Option.some.injEq] at h; subst h; simp [find_matches e3]
      | none => simp only [e1, e2, e3] at h; simp [find_matches h]

/-- `get` with a concrete pair returns the packet labelled with that very pair -/
theorem get_key {s s' : Store} {a b : Nat} {c : Cmd} {x y : Nat} {d : Bytes}
    (h : s.get (some a) (some b) = .ok ((c, x, y, d), s')) : x = a ∧ y = b := by
  unfold get at h
  simp only at h
  repeat' split at h
  all_goals simp_all
end Store



/-- postcondition of one attempt to obtain a packet: if a packet is returned it is the one and only
    delivery, it is an expected command and its ids fit the transaction; otherwise nothing is
    delivered. Never transmits, never yields. -/
def ReadPost (ex : List Cmd) (t : Txn) (az : Bool) (w : World) (r : Except Err (Option Pkt)) (w' : World) : Prop :=
  match r with
  | .ok (some p) => Adds w w' [.rx p] [] ∧ p.cmd ∈ ex ∧ t.accepts az p = true
  | _ => Adds w w' [] []

theorem storeFind_accepts {t : Txn} {az : Bool} {w : World} {k : Nat × Nat} {p : Pkt}
    (hk : (if az then w.store.findAllowZeros t.remoteId t.localId else w.store.find t.remoteId t.localId) = some k)
    (h0 : p.arg0 = k.1) (h1 : p.arg1 = k.2) : t.accepts az p = true := by
  unfold Txn.accepts
  rw [h0, h1]
  cases az with
  | true => simp only [if_true] at hk ⊢; exact Store.findAllowZeros_matches hk
  | false => simp only [Bool.false_eq_true, if_false] at hk ⊢; exact Store.find_matches hk

theorem ReadPost.of_adds_err {ex t az w w'} {e : Err} (h : Adds w w' [] []) : ReadPost ex t az w (.error e) w' := h
theorem ReadPost.of_adds_none {ex t az w w'} (h : Adds w w' [] []) : ReadPost ex t az w (.ok none) w' := h

/-- prefix a quiet step -/
theorem ReadPost.after {ex t az} {w w1 w' : World} {r} (h1 : Adds w w1 [] []) (h2 : ReadPost ex t az w1 r w') :
    ReadPost ex t az w r w' := by
  rcases r with _ | _ | p
  · exact h1.trans h2
  · exact h1.trans h2
  · exact ⟨h1.trans h2.1, h2.2⟩

/-- append a quiet step -/
theorem ReadPost.before {ex t az} {w w1 w' : World} {r} (h1 : ReadPost ex t az w r w1) (h2 : Adds w1 w' [] []) :
    ReadPost ex t az w r w' := by
  rcases r with _ | _ | p
  · exact Adds.trans h1 h2
  · exact Adds.trans h1 h2
  · exact ⟨h1.1.trans h2, h1.2⟩

/-- every run of `x` meets `ReadPost`, the packet returned (if any) being `g` of the result -/
def Reads (ex : List Cmd) (t : Txn) (az : Bool) {α : Type} (g : α → Option Pkt) (x : M α) : Prop :=
  ∀ ⦃w w' : World⦄ ⦃r : Except Err α⦄, x w = (r, w') → ReadPost ex t az w (r.map g) w'

section Reads
variable {ex : List Cmd} {t : Txn} {az : Bool} {α β : Type} {g : α → Option Pkt}

theorem Reads.nothing {a : α} (ha : g a = none) : Reads ex t az g (pure a) := by
  intro w w' r h
  cases h
  show ReadPost ex t az w (.ok (g a)) w
  rw [ha]
  exact Adds.rfl' w

theorem Reads.throw (e : Err) : Reads ex t az g (M.throw e) := by
  intro w w' r h
  cases h
  exact Adds.rfl' w

/-- recording the delivery of an expected packet that fits the transaction, and returning it -/
theorem Reads.deliver {p : Pkt} {a : α} (hg : g a = some p) (hc : p.cmd ∈ ex) (ha : t.accepts az p = true) :
    Reads ex t az g (do emit (.deliver p); pure a) := by
  intro w w' r h
  cases h
  show ReadPost ex t az w (.ok (g a)) _
  rw [hg]
  exact ⟨Adds.deliver rfl, hc, ha⟩

/-- a quiet step in front; what follows need only read well after values the step can return -/
theorem Reads.quiet_bind {x : M β} {f : β → M α} (hx : Qt x)
    (hf : ∀ b, (∃ w w', x w = (.ok b, w')) → Reads ex t az g (f b)) : Reads ex t az g (x >>= f) := by
  intro w w' r h
  rcases bind_any_inv h with ⟨e, he, rfl⟩ | ⟨b, w1, hb, hr⟩
  · exact hx.adds he
  · exact ReadPost.after (hx.adds hb) (hf b ⟨w, w1, hb⟩ hr)

/-- a reading step in front: a packet it returns is handed on as the result, otherwise `f none` goes on reading -/
theorem Reads.bind {x : M (Option Pkt)} {f : Option Pkt → M α} (hx : Reads ex t az id x)
    (hs : ∀ p, ∃ a, f (some p) = pure a ∧ g a = some p) (hn : Reads ex t az g (f none)) :
    Reads ex t az g (x >>= f) := by
  intro w w' r h
  rcases bind_any_inv h with ⟨e, he, rfl⟩ | ⟨o, w1, ho, hr⟩
  · exact hx he
  · have h1 := hx ho
    cases o with
    | some p =>
      obtain ⟨a, hfa, hga⟩ := hs p
      rw [hfa] at hr
      cases hr
      show ReadPost ex t az w (.ok (g a)) _
      rw [hga]
      exact h1
    | none => exact ReadPost.after h1 (hn hr)

theorem Reads.withLock (l : Nat) {body : M α} (hb : Reads ex t az g body) : Reads ex t az g (withLock l body) := by
  intro w w' r h
  by_cases hl : l ∈ w.locks
  · rw [withLock_run, if_pos hl] at h
    cases h
    exact Adds.rfl' w
  · obtain ⟨w1, h1, rfl⟩ := withLock_any_inv h hl
    exact ReadPost.after (.of_trace_eq rfl) ((hb h1).before (.of_trace_eq rfl))

end Reads

/-- the `while arg0_arg1:` loop over the packet store -/
theorem drainLoop_dlv {ex : List Cmd} {t : Txn} {az : Bool} (fuel : Nat) : Reads ex t az id (drainLoop ex t az fuel) := by
  induction fuel with
  | zero => exact Reads.throw _
  | succ f ih =>
    intro w w' r h
    unfold drainLoop at h
    rw [bind_run_ok (show storeFind t az w = (.ok _, w) from rfl)] at h
    generalize hk : (if az then w.store.findAllowZeros t.remoteId t.localId else w.store.find t.remoteId t.localId) = o at h
    cases o with
    | none => exact Reads.nothing rfl h
    | some k =>
      refine Reads.quiet_bind (Qt_storeGet k) (fun p hp => ?_) h
      -- the packet taken from the store carries the pair that `find` answered
      have hkey : p.arg0 = k.1 ∧ p.arg1 = k.2 := by
        obtain ⟨w1, w2, hg⟩ := hp
        unfold storeGet at hg
        split at hg
        · next c a0 a1 d s' hget =>
          simp only [Prod.mk.injEq, Except.ok.injEq] at hg
          rw [← hg.1]
          exact Store.get_key hget
        · simp at hg
      split
      · next hc => exact Reads.deliver rfl (by simpa using hc) (storeFind_accepts hk hkey.1 hkey.2)
      · exact Reads.quiet_bind (Qt_emit rfl) fun _ _ => ih

/-- the part of one `while True:` iteration of `read` that follows the store loop: read one packet
    from the transport and park, deliver or drop it -/
def readIterTail (expected : List Cmd) (t : Txn) (allowZeros : Bool) : M (Option Pkt) :=
  readPacket t >>= readIterRest expected t allowZeros

theorem readIter_eq (ex : List Cmd) (t : Txn) (az : Bool) :
    readIter ex t az = withLock lockTransport (do
      let w ← M.get
      match (← withLock lockStore (drainLoop ex t az w.fuel)) with
      | some p => pure (some p)
      | none => readIterTail ex t az) := rfl

theorem readIterTail_dlv {ex : List Cmd} {t : Txn} {az : Bool} : Reads ex t az id (readIterTail ex t az) := by
  unfold readIterTail
  refine Reads.quiet_bind (Qt_readPacket t) fun p _ => ?_
  unfold readIterRest
  split
  · exact Reads.quiet_bind (Qt_withLock _ (Qt_storePut p)) fun _ _ => Reads.nothing rfl
  · next hm =>
    have hjp : ∀ u : Unit, Reads ex t az id (if ex.contains p.cmd = true then (do emit (.deliver p); pure (some p) : M (Option Pkt))
          else do emit (.drop p); pure none) := by
      intro _
      split
      · next hc => exact Reads.deliver rfl (by simpa using hc) (Txn.accepts_of_argsMatch (by simpa using hm))
      · exact Reads.quiet_bind (Qt_emit rfl) fun _ _ => Reads.nothing rfl
    dsimp only
    split
    · exact Reads.quiet_bind (Qt_withLock _ (Qt_storeClear _ _)) fun u _ => hjp u
    · exact hjp ()

/-- one iteration of the `while True:` body of `_AdbIOManager.read` -/
theorem readIter_dlv {ex : List Cmd} {t : Txn} {az : Bool} : Reads ex t az id (readIter ex t az) := by
  rw [readIter_eq]
  refine Reads.withLock _ (Reads.quiet_bind Qt_get fun w _ => ?_)
  exact Reads.bind ((drainLoop_dlv _).withLock _) (fun p => ⟨_, rfl, rfl⟩) readIterTail_dlv

theorem readLoop_dlv {ex : List Cmd} {t : Txn} {az : Bool} {start : Int} (fuel : Nat) :
    Reads ex t az some (readLoop ex t az start fuel) := by
  induction fuel with
  | zero => exact Reads.throw _
  | succ f ih =>
    unfold readLoop
    refine Reads.bind readIter_dlv (fun p => ⟨_, rfl, rfl⟩) ?_
    refine Reads.quiet_bind (Qt_elapsedGt _ _) fun b _ => ?_
    split
    · exact Reads.quiet_bind (Qt_throw _) fun _ _ => ih
    · exact ih

/-- `_AdbIOManager.read(expected_cmds, adb_info, allow_zeros)`: a returned packet is the one and only
    delivery, is an expected command and its ids fit the transaction (whether it came from the
    packet store or from the transport); an exception delivers nothing; nothing is ever transmitted. -/
theorem ioRead_dlv {ex : List Cmd} {t : Txn} {az : Bool} : Reads ex t az some (ioRead ex t az) := by
  unfold ioRead
  refine Reads.quiet_bind Qt_get fun w _ => ?_
  refine Reads.bind ((drainLoop_dlv _).withLock _) (fun p => ⟨_, rfl, rfl⟩) ?_
  exact Reads.quiet_bind (Pres.now QtR.wrel) fun _ _ => readLoop_dlv _



/-! ### The stream layer -/

/-- the acknowledgement `_okay` sends on the stream of `t` -/
def okayMsg (t : Txn) : Msg := ⟨.OKAY, t.localId.getD 0, t.remoteId.getD 0, []⟩
/-- the CLSE message `_clse` / `_read_until_close` send on the stream of `t` -/
def clseMsg (t : Txn) : Msg := ⟨.CLSE, t.localId.getD 0, t.remoteId.getD 0, []⟩

/-- what `_read_until` sends in response to a delivered packet: one OKAY for a WRTE, nothing otherwise -/
def ackOf (t : Txn) (p : Pkt) : List Xfer := if p.cmd = .WRTE then [.tx (okayMsg t)] else []

/-- what `_read_until_close` sends in response to a delivered packet: OKAY for WRTE, CLSE for CLSE -/
def replyOf (t : Txn) (p : Pkt) : List Xfer :=
  if p.cmd = .WRTE then [.tx (okayMsg t)] else if p.cmd = .CLSE then [.tx (clseMsg t)] else []

/-- a delivered packet followed by the host's reply to it -/
def served (t : Txn) (p : Pkt) : List Xfer := .rx p :: replyOf t p

/-- the messages of the reply to a packet -/
def replyMsgs (t : Txn) (p : Pkt) : List Msg :=
  if p.cmd = .WRTE then [okayMsg t] else if p.cmd = .CLSE then [clseMsg t] else []

theorem replyOf_eq (t : Txn) (p : Pkt) : replyOf t p = (replyMsgs t p).map .tx := by
  unfold replyOf replyMsgs; split
  · rfl
  · split <;> rfl
theorem txs_replyOf (t : Txn) (p : Pkt) : txs (replyOf t p) = replyMsgs t p := by
  rw [replyOf_eq]; simp [txs, List.filterMap_map, Function.comp_def, Xfer.tx?]
theorem rxs_replyOf (t : Txn) (p : Pkt) : rxs (replyOf t p) = [] := by
  rw [replyOf_eq]; simp [rxs, List.filterMap_map, Function.comp_def, Xfer.rx?]

/-- the deliveries of a served sequence are the packets themselves -/
theorem rxs_served (t : Txn) (L : List Pkt) : rxs (L.flatMap (served t)) = L := by
  induction L with
  | nil => rfl
  | cons p L ih => simp [served, rxs_replyOf, ih]

/-- the transmissions of a served sequence are the replies, in order -/
theorem txs_served (t : Txn) (L : List Pkt) : txs (L.flatMap (served t)) = L.flatMap (replyMsgs t) := by
  induction L with
  | nil => rfl
  | cons p L ih => simp [served, txs_replyOf, ih]

theorem replyMsgs_wrtes (t : Txn) {L : List Pkt} (h : ∀ p ∈ L, p.cmd = .WRTE) :
    L.flatMap (replyMsgs t) = L.map (fun _ => okayMsg t) := by
  induction L with
  | nil => rfl
  | cons p L ih =>
    have hp := h p (by simp)
    simp [replyMsgs, hp, ih (fun q hq => h q (by simp [hq]))]

/-- every reply carries the stream's ids `(local id, remote id)` -/
theorem replyMsgs_ids (t : Txn) (p : Pkt) : ∀ m ∈ replyMsgs t p, m.arg0 = t.localId.getD 0 ∧ m.arg1 = t.remoteId.getD 0 := by
  intro m hm
  unfold replyMsgs at hm
  split at hm
  · simp only [List.mem_singleton] at hm; subst hm; exact ⟨rfl, rfl⟩
  · split at hm
    · simp only [List.mem_singleton] at hm; subst hm; exact ⟨rfl, rfl⟩
    · simp at hm

theorem okay_dlv {t : Txn} {w w' : World} {r : Except Err Unit}
    (h : okay t w = (r, w')) (hl : lockTransport ∉ w.locks) : Adds w w' [.tx (okayMsg t)] [] :=
  ioSend_adds (m := okayMsg t) h hl

/-- postcondition of `_read_until` -/
def UntilPost (ex : List Cmd) (t : Txn) (w : World) (r : Except Err (Cmd × Bytes)) (w' : World) : Prop :=
  match r with
  | .ok (cmd, data) => ∃ p, Adds w w' (.rx p :: ackOf t p) [] ∧ p.cmd = cmd ∧ p.data = data ∧ cmd ∈ ex ∧ t.accepts true p = true
  | .error _ => Adds w w' [] [] ∨
      ∃ p, p.cmd = .WRTE ∧ p.cmd ∈ ex ∧ t.accepts true p = true ∧ Adds w w' [.rx p, .tx (okayMsg t)] []

/-- `_read_until(expected_cmds, adb_info)`: the returned `(cmd, data)` are those of the one packet
    delivered; if it is a WRTE exactly one OKAY (with the stream's ids) is sent AFTER the delivery,
    otherwise nothing is sent.  On an exception either nothing was delivered and nothing sent, or a
    WRTE was delivered and its acknowledgement was handed to `_send` (which then failed). -/
theorem readUntil_dlv {ex : List Cmd} {t : Txn} {w w' : World} {r : Except Err (Cmd × Bytes)}
    (h : readUntil ex t w = (r, w')) (hl : lockTransport ∉ w.locks) : UntilPost ex t w r w' := by
  unfold readUntil at h
  rcases bind_any_inv h with ⟨e, he, rfl⟩ | ⟨p, w1, hr, hrest⟩
  · exact Or.inl (ioRead_dlv he)
  · obtain ⟨hA, hex, hacc⟩ := ioRead_dlv hr
    have hl1 : lockTransport ∉ w1.locks := by rw [Fr.locks_of (Fr_ioRead ex t true) hr]; exact hl
    simp only at hrest
    split at hrest
    · next hc =>
      rcases bind_any_inv hrest with ⟨e, he, rfl⟩ | ⟨u, w2, hok, hrest2⟩
      · exact Or.inr ⟨p, hc, hex, hacc, hA.trans (okay_dlv he hl1)⟩
      · cases hrest2
        exact ⟨p, by simpa [ackOf, hc] using hA.trans (okay_dlv hok hl1), rfl, rfl, hex, hacc⟩
    · next hc =>
      cases hrest
      exact ⟨p, by simpa [ackOf, hc] using hA, rfl, rfl, hex, hacc⟩

/-- whatever the outcome of `_read_until`: at most one packet is delivered, and what is sent is
    exactly the acknowledgement of that packet if it is a WRTE -/
theorem readUntil_any {ex : List Cmd} {t : Txn} {w w' : World} {r : Except Err (Cmd × Bytes)}
    (h : readUntil ex t w = (r, w')) (hl : lockTransport ∉ w.locks) :
    Adds w w' [] [] ∨ ∃ p, p.cmd ∈ ex ∧ t.accepts true p = true ∧ Adds w w' (.rx p :: ackOf t p) [] := by
  have hs := readUntil_dlv h hl
  cases r with
  | ok v =>
    obtain ⟨cmd, data⟩ := v
    obtain ⟨p, hA, hc, _, hex, hacc⟩ := hs
    exact Or.inr ⟨p, hc ▸ hex, hacc, hA⟩
  | error e =>
    rcases hs with hs | ⟨p, hc, hex, hacc, hA⟩
    · exact Or.inl hs
    · exact Or.inr ⟨p, hex, hacc, by simpa [ackOf, hc] using hA⟩

/-- postcondition of `_clse` -/
def ClsePost (t : Txn) (w : World) (r : Except Err Unit) (w' : World) : Prop :=
  match r with
  | .ok _ => ∃ c, Adds w w' [.tx (clseMsg t), .rx c] [] ∧ c.cmd = .CLSE ∧ t.accepts true c = true
  | .error _ => Adds w w' [.tx (clseMsg t)] []

/-- `_clse(adb_info)`: the CLSE is the first thing handed to `_send` and the only one; on a normal
    return exactly one packet was delivered afterwards, the device's CLSE; on an exception nothing
    was delivered. -/
theorem clse_dlv {t : Txn} {w w' : World} {r : Except Err Unit}
    (h : clse t w = (r, w')) (hl : lockTransport ∉ w.locks) : ClsePost t w r w' := by
  unfold clse at h
  rcases bind_any_inv h with ⟨e, he, rfl⟩ | ⟨u, w1, hs, hrest⟩
  · exact ioSend_adds (m := clseMsg t) he hl
  · have hS : Adds w w1 [.tx (clseMsg t)] [] := ioSend_adds (m := clseMsg t) hs hl
    have hl1 : lockTransport ∉ w1.locks := by rw [Fr.locks_of (Fr_ioSend _ t) hs]; exact hl
    rcases bind_any_inv hrest with ⟨e, he, rfl⟩ | ⟨v, w2, hu, hrest2⟩
    · rcases readUntil_dlv he hl1 with hA | ⟨p, hc, hex, _⟩
      · simpa [ClsePost] using hS.trans hA
      · simp [hc] at hex
    · cases hrest2
      obtain ⟨cmd, data⟩ := v
      obtain ⟨p, hA, hc, _, hex, hacc⟩ := readUntil_dlv hu hl1
      have hc' : p.cmd = .CLSE := by simpa [hc] using hex
      exact ⟨p, by simpa [ackOf, hc'] using hS.trans hA, hc', hacc⟩

/-- postcondition of `_read_until_close` (with accumulator `acc` of items already yielded) -/
def CloseLoopPost (t : Txn) (acc : List Bytes) (w : World) (r : Except Err (List Bytes)) (w' : World) : Prop :=
  ∃ (wrtes rest : List Pkt), (∀ p ∈ wrtes, p.cmd = .WRTE) ∧ (∀ p ∈ wrtes ++ rest, t.accepts true p = true) ∧
    Adds w w' ((wrtes ++ rest).flatMap (served t)) (wrtes.map (·.data)) ∧
    match r with
    | .ok items => items = acc.reverse ++ wrtes.map (·.data) ∧ ∃ c, rest = [c] ∧ c.cmd = .CLSE
    | .error _ => rest = [] ∨ ∃ p, rest = [p] ∧ (p.cmd = .WRTE ∨ p.cmd = .CLSE)

theorem CloseLoopPost.cons {t : Txn} {acc : List Bytes} {w w1 w' : World} {r} {p : Pkt}
    (hp : p.cmd = .WRTE) (hacc : t.accepts true p = true) (hA : Adds w w1 [.rx p, .tx (okayMsg t)] [p.data])
    (h : CloseLoopPost t (p.data :: acc) w1 r w') : CloseLoopPost t acc w r w' := by
  obtain ⟨wrtes, rest, hw, ha, hAdds, hr⟩ := h
  refine ⟨p :: wrtes, rest, List.forall_mem_cons.2 ⟨hp, hw⟩, List.forall_mem_cons.2 ⟨hacc, ha⟩, ?_, ?_⟩
  · have := hA.trans hAdds
    simpa [served, replyOf, hp] using this
  · cases r with
    | ok items => simpa using hr
    | error e => exact hr

theorem readUntilCloseLoop_dlv {t : Txn} {start : Int} :
    ∀ (fuel : Nat) {acc : List Bytes} {w w' : World} {r : Except Err (List Bytes)},
      readUntilCloseLoop t start fuel acc w = (r, w') → lockTransport ∉ w.locks → CloseLoopPost t acc w r w' := by
  intro fuel
  induction fuel with
  | zero =>
    intro acc w w' r h hl
    simp only [readUntilCloseLoop] at h
    cases h
    exact ⟨[], [], by simp, by simp, Adds.rfl' _, Or.inl rfl⟩
  | succ f ih =>
    intro acc w w' r h hl
    unfold readUntilCloseLoop at h
    rcases bind_any_inv h with ⟨e, he, rfl⟩ | ⟨v, w1, hu, hrest⟩
    · rcases readUntil_dlv he hl with hA | ⟨p, hc, hex, hacc, hA⟩
      · exact ⟨[], [], by simp, by simp, hA, Or.inl rfl⟩
      · exact ⟨[], [p], by simp, by simpa using hacc, by simpa [served, replyOf, hc] using hA, Or.inr ⟨p, rfl, Or.inl hc⟩⟩
    · obtain ⟨cmd, data⟩ := v
      obtain ⟨p, hA, hc, hd, hex, hacc⟩ := readUntil_dlv hu hl
      have hl1 : lockTransport ∉ w1.locks := by rw [Fr.locks_of (Fr_readUntil _ t) hu]; exact hl
      simp only at hrest
      split at hrest
      · next hcl =>
        -- the device closed: answer with one CLSE
        have hpc : p.cmd = .CLSE := hc.trans hcl
        have key : ∀ {r0 : Except Err Unit} {w2 : World}, ioSend (clseMsg t) t w1 = (r0, w2) → Adds w w2 (served t p) [] :=
          fun hs => by simpa [served, replyOf, ackOf, hpc] using hA.trans (ioSend_adds hs hl1)
        rcases bind_any_inv hrest with ⟨e, he, rfl⟩ | ⟨u, w2, hs, hrest2⟩
        · exact ⟨[], [p], by simp, by simpa using hacc, by simpa using key he, Or.inr ⟨p, rfl, Or.inr hpc⟩⟩
        · cases hrest2
          exact ⟨[], [p], by simp, by simpa using hacc, by simpa using key hs, by simp, p, rfl, hpc⟩
      · next hcl =>
        have hpc : p.cmd = .WRTE := hc.trans ((mem_pair.1 hex).resolve_left hcl)
        rcases bind_any_inv hrest with ⟨e, he, _⟩ | ⟨u, w2, hem, hrest2⟩
        · simp at he
        · simp only [emit_run, Prod.mk.injEq] at hem
          have hY : Adds w1 w2 [] [data] := Adds.yielded (by rw [← hem.2])
          have hA2 : Adds w w2 [.rx p, .tx (okayMsg t)] [p.data] := by
            rw [hd]; simpa [ackOf, hpc] using hA.trans hY
          have hl2 : lockTransport ∉ w2.locks := by rw [← hem.2]; exact hl1
          refine CloseLoopPost.cons hpc hacc hA2 ?_
          rw [hd]
          cases htot : t.total with
          | none =>
            simp only [htot] at hrest2
            exact ih hrest2 hl2
          | some tot =>
            simp only [htot] at hrest2
            -- the timeout check leaves the world as it is
            rw [bind_run_ok (show elapsedGt start (some tot) w2 = (.ok _, w2) from rfl)] at hrest2
            split at hrest2
            · simp only [bind_run, M.throw_run] at hrest2
              cases hrest2
              exact ⟨[], [], by simp, by simp, Adds.rfl' _, Or.inl rfl⟩
            · exact ih hrest2 hl2

/-- `_read_until_close(adb_info)` fully consumed -/
theorem readUntilClose_dlv {t : Txn} {w w' : World} {r : Except Err (List Bytes)}
    (h : readUntilClose t w = (r, w')) (hl : lockTransport ∉ w.locks) : CloseLoopPost t [] w r w' := by
  unfold readUntilClose at h
  rw [bind_run_ok (now_run _), bind_run_ok (M.get_run _)] at h
  exact readUntilCloseLoop_dlv _ h hl



/-- the OPEN message `_open` sends: fresh local id from the allocator, arg1 = 0, NUL-terminated destination -/
def openMsg (w : World) (dest : Bytes) : Msg := ⟨.OPEN, nextId w.localId, 0, dest ++ [0]⟩

/-- postcondition of `_open` -/
def OpenPost (dest : Bytes) (total : Timeout) (w : World) (r : Except Err Txn) (w' : World) : Prop :=
  match r with
  | .ok t' => ∃ p, Adds w w' [.tx (openMsg w dest), .rx p] [] ∧ p.cmd = .OKAY ∧ p.arg1 = nextId w.localId
      ∧ t'.remoteId = some p.arg0 ∧ t'.localId = some (nextId w.localId) ∧ t'.total = total
  | .error _ => Adds w w' [] [] ∨ Adds w w' [.tx (openMsg w dest)] []

/-- `_open` past its id allocation: the transaction carries the next local id and no remote id, the world
    differs from `w` in the allocator only; what remains is to send the OPEN and to wait for the OKAY -/
theorem openStream_inv {dest : Bytes} {tt rt total : Timeout} {w w' : World} {r : Except Err Txn}
    (h : openStream dest tt rt total w = (r, w')) :
    (∃ e, r = .error e ∧ w'.trace = w.trace) ∨
    ∃ t, t.localId = some (nextId w.localId) ∧ t.remoteId = none ∧ t.total = total ∧
      (do ioSend (openMsg w dest) t
          let p ← ioRead [.OKAY] t
          pure { t with remoteId := some p.arg0 } : M Txn) { w with localId := nextId w.localId } = (r, w') := by
  unfold openStream at h
  rw [bind_run, withLock_run] at h
  by_cases hl : lockLocalId ∈ w.locks
  · rw [if_pos hl] at h; cases h; exact Or.inl ⟨_, rfl, rfl⟩
  · simp only [if_neg hl, bind_run, M.modify_run, M.get_run, getTT, liftExcept_run, List.erase_cons_head] at h
    cases hm : Txn.make (some (nextId w.localId)) none (if tt.isSome = true then tt else w.defaultTT) rt total with
    | error e => rw [hm] at h; cases h; exact Or.inl ⟨e, rfl, rfl⟩
    | ok t =>
      rw [hm] at h
      obtain ⟨h1, h2, h3⟩ := Txn.make_ids hm
      refine Or.inr ⟨t, h1, h2, h3, ?_⟩
      rw [← h]
      simp only [openMsg, h1, Option.getD_some, bind_run]

/-- `_open(destination, …)` on an idle device: exactly one message is sent, the OPEN with the next
    local id, arg1 = 0 and the NUL-terminated destination; on a normal return exactly one packet
    was delivered after it, an OKAY carrying the new local id in arg1, whose arg0 becomes the
    remote id of the returned transaction. -/
theorem openStream_dlv {dest : Bytes} {tt rt total : Timeout} {w w' : World} {r : Except Err Txn}
    (h : openStream dest tt rt total w = (r, w')) (hl : w.locks = []) : OpenPost dest total w r w' := by
  rcases openStream_inv h with ⟨e, rfl, ht⟩ | ⟨t, hlid, hrid, htot, h⟩
  · exact Or.inl (Adds.of_trace_eq ht)
  · have hlt : lockTransport ∉ ({ w with localId := nextId w.localId } : World).locks := by simp [hl]
    rcases bind_any_inv h with ⟨e, he, rfl⟩ | ⟨u, w2, hs, hrest⟩
    · exact Or.inr ((ioSend_adds he hlt).congr rfl rfl)
    · have hS : Adds w w2 [.tx (openMsg w dest)] [] := (ioSend_adds hs hlt).congr rfl rfl
      rcases bind_any_inv hrest with ⟨e, he, rfl⟩ | ⟨p, w3, hr, hrest2⟩
      · exact Or.inr (hS.trans (ioRead_dlv he : Adds w2 w' [] []))
      · cases hrest2
        obtain ⟨hR, hex, hacc⟩ := ioRead_dlv hr
        refine ⟨p, hS.trans hR, by simpa using hex, ?_, rfl, hlid, htot⟩
        simpa using (Txn.accepts_ids hlid hacc).1

/-- postcondition of a whole command stream, for every outcome: either the stream was never opened
    (an exception; at most the OPEN was sent and nothing delivered), or the conversation is OPEN, the
    device's OKAY, then the served packets of this stream — WRTEs each answered by one OKAY, and (on a
    normal return, last) the device's CLSE answered by one CLSE. -/
def StreamPost (dest : Bytes) (w : World) (r : Except Err (List Bytes)) (w' : World) : Prop :=
  ((∃ e, r = .error e) ∧ (Adds w w' [] [] ∨ Adds w w' [.tx (openMsg w dest)] [])) ∨
  ∃ (okay : Pkt) (wrtes rest : List Pkt) (t : Txn),
    t.localId = some (nextId w.localId) ∧ t.remoteId = some okay.arg0 ∧
    okay.cmd = .OKAY ∧ okay.arg1 = nextId w.localId ∧ (∀ p ∈ wrtes, p.cmd = .WRTE) ∧
    (∀ p ∈ wrtes ++ rest, t.accepts true p = true) ∧
    Adds w w' (.tx (openMsg w dest) :: .rx okay :: (wrtes ++ rest).flatMap (served t)) (wrtes.map (·.data)) ∧
    match r with
    | .ok items => items = wrtes.map (·.data) ∧ ∃ c, rest = [c] ∧ c.cmd = .CLSE
    | .error _ => rest = [] ∨ ∃ p, rest = [p] ∧ (p.cmd = .WRTE ∨ p.cmd = .CLSE)

/-- `_streaming_command(service, command, …)` fully consumed, on an idle device -/
theorem streamingCommand_dlv {svc cmd : Bytes} {tt rt total : Timeout} {w w' : World} {r : Except Err (List Bytes)}
    (h : streamingCommand svc cmd tt rt total w = (r, w')) (hl : w.locks = []) :
    StreamPost (svc ++ [58] ++ cmd) w r w' := by
  unfold streamingCommand at h
  rcases bind_any_inv h with ⟨e, he, rfl⟩ | ⟨t, w1, ho, hc⟩
  · exact Or.inl ⟨⟨e, rfl⟩, openStream_dlv he hl⟩
  · obtain ⟨p, hA, hpc, hp1, hr, hlid, _⟩ := openStream_dlv ho hl
    have hl1 : lockTransport ∉ w1.locks := by
      rw [Fr.locks_of (Fr_openStream _ tt rt total) ho, hl]; simp
    obtain ⟨wrtes, rest, hw, hacc, hB, hres⟩ := readUntilClose_dlv hc hl1
    refine Or.inr ⟨p, wrtes, rest, t, hlid, hr, hpc, hp1, hw, hacc, hA.trans hB, ?_⟩
    cases r with
    | ok items => simpa using hres
    | error e => exact hres

/-! ### `_filesync_flush` -/

/-- the WRTE message `_filesync_flush` sends -/
def wrteMsg (t : Txn) (data : Bytes) : Msg := ⟨.WRTE, t.localId.getD 0, t.remoteId.getD 0, data⟩

/-- postcondition of the wait-for-OKAY loop of `_filesync_flush` -/
def FlushPost (pre : List Xfer) (t : Txn) (fi : FsInfo) (w : World) (r : Except Err FsInfo) (w' : World) : Prop :=
  ∃ (wrtes rest : List Pkt), (∀ p ∈ wrtes, p.cmd = .WRTE) ∧ (∀ p ∈ wrtes ++ rest, t.accepts true p = true) ∧
    Adds w w' (pre ++ (wrtes ++ rest).flatMap (served t)) [] ∧
    match r with
    | .ok fi' => (∃ o, rest = [o] ∧ o.cmd = .OKAY) ∧ fi'.sendBuf = [] ∧
        fi'.recvBuf = fi.recvBuf ++ (wrtes.map (·.data)).flatten
    | .error _ => rest = [] ∨ ∃ p, rest = [p] ∧ p.cmd = .WRTE

theorem fsFlushLoop_dlv {t : Txn} :
    ∀ (fuel : Nat) {fi : FsInfo} {w w' : World} {r : Except Err FsInfo},
      fsFlushLoop t fuel fi w = (r, w') → lockTransport ∉ w.locks → FlushPost [] t fi w r w' := by
  intro fuel
  induction fuel with
  | zero =>
    intro fi w w' r h hl
    simp only [fsFlushLoop] at h
    cases h
    exact ⟨[], [], by simp, by simp, Adds.rfl' _, Or.inl rfl⟩
  | succ f ih =>
    intro fi w w' r h hl
    unfold fsFlushLoop at h
    rcases bind_any_inv h with ⟨e, he, rfl⟩ | ⟨v, w1, hu, hrest⟩
    · rcases readUntil_dlv he hl with hA | ⟨p, hc, hex, hacc, hA⟩
      · exact ⟨[], [], by simp, by simp, hA, Or.inl rfl⟩
      · exact ⟨[], [p], by simp, by simpa using hacc, by simpa [served, replyOf, hc] using hA, Or.inr ⟨p, rfl, hc⟩⟩
    · obtain ⟨cmd, data⟩ := v
      obtain ⟨p, hA, hc, hd, hex, hacc⟩ := readUntil_dlv hu hl
      have hl1 : lockTransport ∉ w1.locks := by rw [Fr.locks_of (Fr_readUntil _ t) hu]; exact hl
      simp only at hrest
      split at hrest
      · next hok =>
        have hpc : p.cmd = .OKAY := hc.trans hok
        cases hrest
        refine ⟨[], [p], by simp, by simpa using hacc, ?_, ⟨p, rfl, hpc⟩, rfl, by simp⟩
        simpa [served, replyOf, ackOf, hpc] using hA
      · next hok =>
        have hpc : p.cmd = .WRTE := hc.trans ((mem_pair.1 hex).resolve_left hok)
        obtain ⟨wrtes, rest, hw, ha, hB, hr⟩ := ih hrest hl1
        refine ⟨p :: wrtes, rest, List.forall_mem_cons.2 ⟨hpc, hw⟩, List.forall_mem_cons.2 ⟨hacc, ha⟩, ?_, ?_⟩
        · simpa [served, replyOf, ackOf, hpc] using hA.trans hB
        · cases r with
          | ok fi' =>
            obtain ⟨h1, h2, h3⟩ := hr
            refine ⟨h1, h2, ?_⟩
            simp only at h3
            rw [h3, ← hd]
            simp
          | error e => exact hr

/-- `_filesync_flush(adb_info, filesync_info)`: the WRTE with the buffered records is the first
    thing handed to `_send`; afterwards device WRTEs are delivered (each acknowledged with one OKAY
    and kept in the receive buffer); it returns only once an OKAY has been delivered. -/
theorem fsFlush_dlv {t : Txn} {fi : FsInfo} {w w' : World} {r : Except Err FsInfo}
    (h : fsFlush t fi w = (r, w')) (hl : lockTransport ∉ w.locks) :
    FlushPost [.tx (wrteMsg t fi.sendBuf)] t fi w r w' := by
  unfold fsFlush at h
  rcases bind_any_inv h with ⟨e, he, rfl⟩ | ⟨u, w1, hs, hrest⟩
  · exact ⟨[], [], by simp, by simp, by simpa using ioSend_adds (m := wrteMsg t fi.sendBuf) he hl, Or.inl rfl⟩
  · have hS := ioSend_adds (m := wrteMsg t fi.sendBuf) hs hl
    have hl1 : lockTransport ∉ w1.locks := by rw [Fr.locks_of (Fr_ioSend _ t) hs]; exact hl
    rw [bind_run_ok (M.get_run _)] at hrest
    obtain ⟨wrtes, rest, hw, ha, hB, hr⟩ := fsFlushLoop_dlv _ hrest hl1
    exact ⟨wrtes, rest, hw, ha, hS.trans hB, hr⟩


/-! ### Whole command streams in `delivered` / `transmitted` form -/


/-- the ids of a packet accepted (with the zero-id fallback) by a transaction with known ids -/
theorem Txn.accepts_true_ids {t : Txn} {p : Pkt} {l r : Nat} (hl : t.localId = some l) (hr : t.remoteId = some r)
    (h : t.accepts true p = true) : (p.arg1 = l ∨ p.arg1 = 0) ∧ (p.arg0 = r ∨ p.arg0 = 0) := by
  obtain ⟨h1, h2⟩ := Txn.accepts_ids hl h
  have h2' := h2 r hr
  simp only [true_and] at h1 h2'
  exact ⟨h1, h2'⟩

theorem served_wrtes (t : Txn) {L : List Pkt} (h : ∀ p ∈ L, p.cmd = .WRTE) :
    L.flatMap (served t) = L.flatMap (fun p => [.rx p, .tx (okayMsg t)]) := by
  induction L with
  | nil => rfl
  | cons p L ih =>
    have hp := h p (by simp)
    simp [served, replyOf, hp, ih (fun q hq => h q (by simp [hq]))]

/-- Normal return of a command stream on an idle device, in `delivered` / `transmitted` form:
    OPEN, the device's OKAY, then this stream's WRTEs each answered by one OKAY, then the device's
    CLSE answered by one CLSE; the items yielded are the WRTE payloads in order. -/
theorem streamingCommand_ok {svc cmd : Bytes} {tt rt total : Timeout} {w w' : World} {items : List Bytes}
    (h : streamingCommand svc cmd tt rt total w = (.ok items, w')) (hl : w.locks = []) :
    ∃ (evs : List TEv) (okay : Pkt) (wrtes : List Pkt) (c : Pkt), w'.trace = evs ++ w.trace ∧
      delivered evs = okay :: wrtes ++ [c] ∧
      transmitted evs = openMsg w (svc ++ [58] ++ cmd) ::
        wrtes.map (fun _ => (⟨.OKAY, nextId w.localId, okay.arg0, []⟩ : Msg)) ++ [⟨.CLSE, nextId w.localId, okay.arg0, []⟩] ∧
      exchanged evs = .tx (openMsg w (svc ++ [58] ++ cmd)) :: .rx okay ::
        wrtes.flatMap (fun p => [Xfer.rx p, .tx ⟨.OKAY, nextId w.localId, okay.arg0, []⟩])
          ++ [.rx c, .tx ⟨.CLSE, nextId w.localId, okay.arg0, []⟩] ∧
      yieldedBy evs = items ∧ items = wrtes.map (·.data) ∧
      okay.cmd = .OKAY ∧ okay.arg1 = nextId w.localId ∧ c.cmd = .CLSE ∧ (∀ p ∈ wrtes, p.cmd = .WRTE) ∧
      (∀ p ∈ wrtes ++ [c], (p.arg1 = nextId w.localId ∨ p.arg1 = 0) ∧ (p.arg0 = okay.arg0 ∨ p.arg0 = 0)) := by
  rcases streamingCommand_dlv h hl with ⟨⟨e, he⟩, _⟩ | ⟨okay, wrtes, rest, t, hlid, hrid, hoc, ho1, hw, hacc, hA, hitems, c, rfl, hcc⟩
  · cases he
  · obtain ⟨evs, htr, hd, hx, hy, hex⟩ := hA.dt
    have hok : okayMsg t = ⟨.OKAY, nextId w.localId, okay.arg0, []⟩ := by simp [okayMsg, hlid, hrid]
    have hcl : clseMsg t = ⟨.CLSE, nextId w.localId, okay.arg0, []⟩ := by simp [clseMsg, hlid, hrid]
    refine ⟨evs, okay, wrtes, c, htr, ?_, ?_, ?_, by rw [hy, hitems], hitems, hoc, ho1, hcc, hw, ?_⟩
    · rw [hd, rxs_cons_tx, rxs_cons_rx, rxs_served]; rfl
    · rw [hx, txs_cons_tx, txs_cons_rx, txs_served, List.flatMap_append, replyMsgs_wrtes t hw]
      simp [replyMsgs, hcc, hok, hcl]
    · rw [hex]
      simp only [List.flatMap_append, served_wrtes t hw]
      simp [served, replyOf, hcc, hok, hcl]
    · intro p hp
      exact Txn.accepts_true_ids hlid hrid (hacc p hp)


/-- the host's reply to a delivered packet on the stream with ids `(l, r)`: one OKAY for a WRTE, one
    CLSE for a CLSE, nothing otherwise -/
def streamReply (l r : Nat) (p : Pkt) : List Msg :=
  if p.cmd = .WRTE then [⟨.OKAY, l, r, []⟩] else if p.cmd = .CLSE then [⟨.CLSE, l, r, []⟩] else []

theorem replyMsgs_eq_streamReply {t : Txn} {l r : Nat} (hl : t.localId = some l) (hr : t.remoteId = some r) :
    replyMsgs t = streamReply l r := by
  funext p
  simp [replyMsgs, streamReply, okayMsg, clseMsg, hl, hr]

/-- Every outcome of a command stream on an idle device (normal return or any exception): either
    nothing was delivered or yielded and at most the OPEN was sent, or the deliveries are the
    device's OKAY for the new local id followed by packets of THIS stream — WRTEs, then at most one
    more WRTE/CLSE — the items yielded are the payloads of those WRTEs in order, and what was sent
    is the OPEN followed by exactly the replies to the delivered packets in order. -/
theorem streamingCommand_any {svc cmd : Bytes} {tt rt total : Timeout} {w w' : World} {r : Except Err (List Bytes)}
    (h : streamingCommand svc cmd tt rt total w = (r, w')) (hl : w.locks = []) :
    ∃ evs : List TEv, w'.trace = evs ++ w.trace ∧
      (((∃ e, r = .error e) ∧ delivered evs = [] ∧ yieldedBy evs = [] ∧
          (transmitted evs = [] ∨ transmitted evs = [openMsg w (svc ++ [58] ++ cmd)])) ∨
       ∃ (okay : Pkt) (wrtes rest : List Pkt),
          delivered evs = okay :: wrtes ++ rest ∧ okay.cmd = .OKAY ∧ okay.arg1 = nextId w.localId ∧
          (∀ p ∈ wrtes, p.cmd = .WRTE) ∧ rest.length ≤ 1 ∧ (∀ p ∈ rest, p.cmd = .WRTE ∨ p.cmd = .CLSE) ∧
          ((∃ items, r = .ok items) → ∃ c, rest = [c] ∧ c.cmd = .CLSE) ∧
          yieldedBy evs = wrtes.map (·.data) ∧
          (∀ p ∈ wrtes ++ rest, (p.arg1 = nextId w.localId ∨ p.arg1 = 0) ∧ (p.arg0 = okay.arg0 ∨ p.arg0 = 0)) ∧
          transmitted evs = openMsg w (svc ++ [58] ++ cmd) ::
            (wrtes ++ rest).flatMap (streamReply (nextId w.localId) okay.arg0) ∧
          exchanged evs = .tx (openMsg w (svc ++ [58] ++ cmd)) :: .rx okay ::
            (wrtes ++ rest).flatMap (fun p => .rx p :: (streamReply (nextId w.localId) okay.arg0 p).map .tx)) := by
  rcases streamingCommand_dlv h hl with ⟨he, hA | hA⟩ | ⟨okay, wrtes, rest, t, hlid, hrid, hoc, ho1, hw, hacc, hA, hres⟩
  · obtain ⟨evs, htr, hd, hx, hy, _⟩ := hA.dt
    exact ⟨evs, htr, Or.inl ⟨he, hd, hy, Or.inl hx⟩⟩
  · obtain ⟨evs, htr, hd, hx, hy, _⟩ := hA.dt
    exact ⟨evs, htr, Or.inl ⟨he, hd, hy, Or.inr hx⟩⟩
  · obtain ⟨evs, htr, hd, hx, hy, hex⟩ := hA.dt
    have hrest : rest.length ≤ 1 ∧ (∀ p ∈ rest, p.cmd = .WRTE ∨ p.cmd = .CLSE) ∧
        ((∃ items, r = .ok items) → ∃ c, rest = [c] ∧ c.cmd = .CLSE) := by
      cases r with
      | ok items =>
        obtain ⟨_, c, rfl, hcc⟩ := hres
        exact ⟨by simp, by simp [hcc], fun _ => ⟨c, rfl, hcc⟩⟩
      | error e =>
        rcases hres with rfl | ⟨p, rfl, hp⟩
        · exact ⟨by simp, by simp, by simp⟩
        · exact ⟨by simp, by simpa using hp, by simp⟩
    refine ⟨evs, htr, Or.inr ⟨okay, wrtes, rest, ?_, hoc, ho1, hw, hrest.1, hrest.2.1, hrest.2.2, hy, ?_, ?_, ?_⟩⟩
    · rw [hd, rxs_cons_tx, rxs_cons_rx, rxs_served]; rfl
    · intro p hp
      exact Txn.accepts_true_ids hlid hrid (hacc p hp)
    · rw [hx, txs_cons_tx, txs_cons_rx, txs_served, replyMsgs_eq_streamReply hlid hrid]
    · rw [hex, ← replyMsgs_eq_streamReply hlid hrid]
      have hs : served t = fun p => Xfer.rx p :: (replyMsgs t p).map Xfer.tx := funext fun p => by rw [served, replyOf_eq]
      rw [hs]



/-! ### The wire-layer specs in `delivered` / `transmitted` form -/

/-- `_send`: any outcome — nothing delivered, exactly `m` transmitted -/
theorem sendRaw_dt {m : Msg} {t : Txn} {w w' : World} {r : Except Err Unit} (h : sendRaw m t w = (r, w')) :
    ∃ evs, w'.trace = evs ++ w.trace ∧ delivered evs = [] ∧ transmitted evs = [m] := by
  obtain ⟨evs, htr, hd, hx, _⟩ := (sendRaw_adds h).dt
  exact ⟨evs, htr, hd, hx⟩

/-- `_AdbIOManager.send` with the transport lock free: any outcome — nothing delivered, exactly `m` transmitted -/
theorem ioSend_dt {m : Msg} {t : Txn} {w w' : World} {r : Except Err Unit} (h : ioSend m t w = (r, w'))
    (hl : lockTransport ∉ w.locks) :
    ∃ evs, w'.trace = evs ++ w.trace ∧ delivered evs = [] ∧ transmitted evs = [m] := by
  obtain ⟨evs, htr, hd, hx, _⟩ := (ioSend_adds h hl).dt
  exact ⟨evs, htr, hd, hx⟩

/-- a quiet computation (`readPacket`, `storePut`, `storeGet`, `writeAll`, …): nothing delivered, nothing transmitted -/
theorem Qt.dt {α} {x : M α} (hx : Qt x) {w w' : World} {r : Except Err α} (h : x w = (r, w')) :
    ∃ evs, w'.trace = evs ++ w.trace ∧ delivered evs = [] ∧ transmitted evs = [] ∧ yieldedBy evs = [] := by
  obtain ⟨evs, htr, hd, hx, hy, _⟩ := (hx.adds h).dt
  exact ⟨evs, htr, hd, hx, hy⟩

/-- `drainLoop` / `readIter` (result `some p`, `none` or an exception): never transmits; `some p` ⇒ `p` is
    the one delivery, an expected command, with ids matching the transaction (`keyMatchesZ` /
    `keyMatches` on `(p.arg0, p.arg1)`); anything else ⇒ nothing delivered -/
theorem ReadPost.dt {ex : List Cmd} {t : Txn} {az : Bool} {w w' : World} {r : Except Err (Option Pkt)}
    (h : ReadPost ex t az w r w') :
    ∃ evs, w'.trace = evs ++ w.trace ∧ transmitted evs = [] ∧
      (∀ p, r = .ok (some p) → delivered evs = [p] ∧ p.cmd ∈ ex ∧ t.accepts az p = true) ∧
      ((∀ p, r ≠ .ok (some p)) → delivered evs = []) := by
  unfold ReadPost at h
  split at h
  · next p =>
    obtain ⟨evs, htr, hd, hx, _⟩ := h.1.dt
    refine ⟨evs, htr, hx, ?_, ?_⟩
    · intro q hq
      simp only [Except.ok.injEq, Option.some.injEq] at hq
      subst hq
      exact ⟨hd, h.2⟩
    · intro hne; exact absurd rfl (hne p)
  · next hne =>
    obtain ⟨evs, htr, hd, hx, _⟩ := h.dt
    exact ⟨evs, htr, hx, fun p hp => absurd hp (by intro hp; exact hne p hp), fun _ => hd⟩

/-- `_AdbIOManager.read` in `delivered` / `transmitted` form: `.ok p` ⇒ `delivered = [p]`, expected command,
    matching ids; `.error` ⇒ nothing delivered; never transmits -/
theorem ioRead_dt {ex : List Cmd} {t : Txn} {az : Bool} {w w' : World} {r : Except Err Pkt}
    (h : ioRead ex t az w = (r, w')) :
    ∃ evs, w'.trace = evs ++ w.trace ∧ transmitted evs = [] ∧
      (∀ p, r = .ok p → delivered evs = [p] ∧ p.cmd ∈ ex ∧ t.accepts az p = true) ∧
      ((∃ e, r = .error e) → delivered evs = []) := by
  obtain ⟨evs, htr, hx, hok, herr⟩ := ReadPost.dt (ioRead_dlv h)
  refine ⟨evs, htr, hx, fun p hp => hok p (by rw [hp]; rfl), ?_⟩
  rintro ⟨e, rfl⟩
  exact herr (fun p hp => by cases hp)

/-- `_service` is `_streaming_command` followed by a pure join (and decode) of the items -/
theorem service_inv {svc cmd : Bytes} {tt rt total : Timeout} {dec : Bool} {w w' : World} {r : Except Err Val}
    (h : service svc cmd tt rt total dec w = (r, w')) :
    ∃ r0, streamingCommand svc cmd tt rt total w = (r0, w') ∧
      r = r0.map (fun items => if dec then Val.str (Utf8.decodeBS items.flatten) else Val.bytes items.flatten) := by
  unfold service at h
  rcases bind_any_inv h with ⟨e, he, rfl⟩ | ⟨items, w1, hs, hp⟩
  · exact ⟨.error e, he, rfl⟩
  · cases hp
    exact ⟨.ok items, hs, rfl⟩

/-- `_streaming_service` is `_streaming_command` (without overall timeout) with each item decoded on its own -/
theorem streamingService_inv {svc cmd : Bytes} {tt rt : Timeout} {dec : Bool} {w w' : World} {r : Except Err Val}
    (h : streamingService svc cmd tt rt dec w = (r, w')) :
    ∃ r0, streamingCommand svc cmd tt rt none w = (r0, w') ∧
      r = r0.map (fun items => Val.items (items.map fun d => if dec then Item.str (Utf8.decodeBS d) else Item.bytes d)) := by
  unfold streamingService at h
  rcases bind_any_inv h with ⟨e, he, rfl⟩ | ⟨items, w1, hs, hp⟩
  · exact ⟨.error e, he, rfl⟩
  · cases hp
    exact ⟨.ok items, hs, rfl⟩

theorem Except.map_eq_ok {ε α β} {f : α → β} {x : Except ε α} {b : β} (h : x.map f = .ok b) : ∃ a, x = .ok a ∧ b = f a := by
  cases x with
  | error e => simp [Except.map] at h
  | ok a => simp only [Except.map, Except.ok.injEq] at h; exact ⟨a, rfl, h.symm⟩

theorem Except.map_isError {ε α β} {f : α → β} {x : Except ε α} :
    (∃ e, x = .error e) ↔ (∃ e, x.map f = .error e) := by
  cases x <;> simp [Except.map]

theorem run_ok_of_toOption {α} {x : M α} {w : World} {v : α} (h : (x w).1.toOption = some v) :
    x w = (.ok v, (x w).2) := Prod.ext (ok_of_toOption h) rfl

/-- a connected, idle device whose peer will send the given packets (each in its own segment, not
    gated on anything the host sends) -/
def demoWorld (pkts : List Pkt) : World :=
  { cur := some { segs := pkts.map (fun p => ⟨0, p.encode⟩) }, available := true }

/-- a connected, idle device whose peer will answer the next OPEN with OKAY(77,1), then interleave a
    WRTE of a FOREIGN stream (5,9), then split "€!" over two WRTEs in the middle of the multi-byte
    character, then CLSE -/
def demoShellWorld : World :=
  demoWorld [⟨.OKAY, 77, 1, []⟩, ⟨.WRTE, 5, 9, [120]⟩, ⟨.WRTE, 77, 1, [0xE2, 0x82]⟩, ⟨.WRTE, 77, 1, [0xAC, 0x21]⟩,
    ⟨.CLSE, 77, 1, []⟩]

/-- the transaction of an open stream with local id 1 and remote id 77 -/
def demoTxn : Txn := ⟨some 1, some 77, some 10240, some 10240, none⟩

end Adb
