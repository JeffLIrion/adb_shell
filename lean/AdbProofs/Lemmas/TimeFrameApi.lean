import AdbProofs.Lemmas.TimeFrameConnect
import AdbProofs.Lemmas.TimeFrameTotal
/-
  The time frame for every API operation (`ApiOp`), and its reading in terms of the events an operation adds
  to the trace: `rxCount evs` packets delivered, `txCount evs` write waits of the messages sent, `rxBytes evs`
  payload bytes delivered.
-/
namespace Adb

variable {P : TP} {X : Int}

/-- the effective timeouts of the operation are the numbers in `P` (for `push` also: the static loop budget
    `P.F` covers every local file) -/
def ApiOp.Eff (P : TP) : ApiOp → Prop
  | .connect _ tt authT rt _ => ConnEff P tt authT rt
  | .close => True
  | .shell _ tt rt total _ => EffT P tt rt total
  | .execOut _ tt rt total _ => EffT P tt rt total
  | .root tt rt total => EffT P tt rt total
  | .reboot _ tt rt total => EffT P tt rt total
  | .streamingShell _ tt rt _ => EffT P tt rt none
  | .list _ tt rt => EffT P tt rt none
  | .stat _ tt rt => EffT P tt rt none
  | .pull _ _ tt rt => EffT P tt rt none
  | .push _ _ _ _ _ tt rt => EffT P tt rt none ∧ P.FilesFit

/-- what the operation needs of the world it starts in: an idle device object on a conforming transport;
    for `connect`: no lock held and a conforming NEXT connection -/
def ApiOp.Pre (P : TP) : ApiOp → World → Prop
  | .connect .., w => ConnPre P w
  | _, w => TPre P w

/-- number of failing waits an operation can meet: one; `pull` closes its stream after a failure, which may
    wait once more; `close` never waits -/
def ApiOp.failWaits : ApiOp → Nat
  | .pull .. => 2
  | .close => 0
  | _ => 1

theorem tcost_of_trace {w w' : World} {evs : List TEv} (h : w'.trace = evs ++ w.trace) :
    w'.tcost P - w.tcost P = (rxCount evs : Int) * P.W + (txCount evs : Int) * P.S ∧
    w'.tneed P - w.tneed P = (rxCount evs : Int) * P.W + (txCount evs : Int) * P.S + (rxBytes evs : Int) := by
  unfold World.tneed World.tcost
  rw [h, rxCount_append, txCount_append, rxBytes_append]
  simp only [Int.natCast_add, Int.add_mul]
  omega

/-- the loop budget hypothesis in terms of the events `evs` the operation added: it exceeds the packets parked
    in the store + the time justified by the events + the delivered payload bytes + the allowance for the
    failing waits + the read timeout + the static part -/
def EvBudget (P : TP) (c : Nat) (w : World) (evs : List TEv) : Prop :=
  (parkedCount w.store : Int) + ((rxCount evs : Int) * P.W + (txCount evs : Int) * P.S) + (rxBytes evs : Int)
    + (c : Int) * P.W + P.R + P.F < w.fuel

theorem EvBudget.budget {c : Nat} {w w' : World} {evs : List TEv} (h : w'.trace = evs ++ w.trace)
    (hb : EvBudget P c w evs) : Budget P ((c : Int) * P.W) w w' := by
  unfold EvBudget at hb
  unfold Budget
  rw [(tcost_of_trace h).2]
  omega

/-- the frame of every API operation -/
theorem ApiOp.frame (op : ApiOp) (heff : op.Eff P) {w w' : World} {r : Except Err Val} (h : op.run w = (r, w')) :
    Ext w w' ∧ (op.Pre P w → Budget P ((op.failWaits : Int) * P.W) w w' →
      isHang r = false ∧ TPre P w' ∧ w'.fuel = w.fuel ∧ w.now ≤ w'.now ∧
      w'.now - w.now ≤ w'.tcost P - w.tcost P + (if okB r then 0 else (op.failWaits : Int) * P.W)) := by
  have hW := P.W_pos
  have fin : ∀ {X : Int}, TFat P X w r w' → Ext w w' ∧ (TPre P w → Budget P X w w' →
      isHang r = false ∧ TPre P w' ∧ w'.fuel = w.fuel ∧ w.now ≤ w'.now ∧
      w'.now - w.now ≤ w'.tcost P - w.tcost P + (if okB r then 0 else X)) := by
    intro X hf
    refine ⟨hf.1, fun hp hb => ?_⟩
    obtain ⟨a, b⟩ := hf.2 hp hb
    refine ⟨a, b.pre, b.fuel, b.mono, ?_⟩
    have := b.time
    split at this <;> simp_all
  have one : P.W ≤ ((1 : Nat) : Int) * P.W := by omega
  have two : P.W + P.W ≤ ((2 : Nat) : Int) * P.W := by omega
  cases op with
  | connect keys tt authT rt cb =>
    have one' : ((1 : Nat) : Int) * P.W = P.W := by omega
    refine ⟨devConnect_ext h, fun hp hb => ?_⟩
    have hbase := hb.base (devConnect_ext h) (by simp only [ApiOp.failWaits, one']; omega)
    obtain ⟨-, a, b, c, d, e⟩ := devConnect_time heff h hp (by omega)
    simp only [ApiOp.failWaits, one']
    exact ⟨a, b, c, d, e⟩
  | close =>
    refine ⟨devClose_ext h, fun hp _ => ?_⟩
    obtain ⟨-, rfl, hp', hfu, hnow, hc⟩ := devClose_time (P := P) h hp
    refine ⟨rfl, hp', hfu, by omega, ?_⟩
    rw [hnow, hc]; simp
  | shell cmd tt rt total dec =>
    exact fin (TF_devShellLike _ _ cmd tt rt total dec heff one w r w' h)
  | execOut cmd tt rt total dec =>
    exact fin (TF_devShellLike _ _ cmd tt rt total dec heff one w r w' h)
  | root tt rt total =>
    exact fin (TF_devRoot tt rt total heff one w r w' h)
  | reboot fb tt rt total =>
    exact fin (TF_devReboot fb tt rt total heff one w r w' h)
  | streamingShell cmd tt rt dec =>
    exact fin (TF_devStreamingShell cmd tt rt dec heff one w r w' h)
  | list p tt rt =>
    exact fin (TF_devList p tt rt heff one w r w' h)
  | stat p tt rt =>
    exact fin (TF_devStat p tt rt heff one w r w' h)
  | pull p cb tt rt =>
    exact fin (TF_devPull p cb tt rt heff two w r w' h)
  | push src p mode mtime cb tt rt =>
    exact fin (TF_devPush src p mode mtime cb tt rt heff.1 one heff.2 w r w' h)

/-! ### example worlds for the non-vacuity examples of C11Api -/

/-- total silence on an established connection (`available`), every call costs 1 tick -/
def c11ApiSilent : World := { c11Silent with available := true, fuel := 100000 }

/-- a well-behaved shell device: OKAY for the OPEN, two WRTE items, CLSE; every call costs 3 ticks -/
def c11ApiShell : World :=
  { cur := some { dt := 3, segs := [⟨0, (Msg.mk .OKAY 7 1 []).encode ++ (Msg.mk .WRTE 7 1 [65]).encode ++
      (Msg.mk .WRTE 7 1 [66]).encode ++ (Msg.mk .CLSE 7 1 []).encode⟩] }, available := true }

/-- only traffic for another stream (local id 9), 600 ticks per read call -/
def c11ApiFlood : World := { c11Flood with available := true, fuel := 100000 }

/-- a device that answers the OPEN and the STAT request and then falls silent before answering the CLSE -/
def c11ApiStat : World :=
  { cur := some { dt := 2, segs := [⟨0, (Msg.mk .OKAY 7 1 []).encode ++ (Msg.mk .OKAY 7 1 []).encode ++
      (Msg.mk .WRTE 7 1 (le32 SyncId.STAT.wire ++ le32 33188 ++ le32 5 ++ le32 1700000000)).encode⟩] },
    available := true }

/-- pull from a device that answers the OPEN and then falls silent: the failing wait is followed by the
    clean-up CLSE handshake, which waits once more -/
def c11ApiPull : World :=
  { cur := some { dt := 2, segs := [⟨0, (Msg.mk .OKAY 7 1 []).encode⟩] }, available := true }

/-- a device that answers the OPEN and then keeps sending WRTE items; every call costs 300 ticks (an item costs
    900: header, payload, OKAY) -/
def c11ApiStreamT : World :=
  { cur := some { dt := 300, segs := [⟨0, (Msg.mk .OKAY 7 1 []).encode ++
      (List.replicate 5 (Msg.mk .WRTE 7 1 [65]).encode).flatten⟩] }, available := true }

/-- a device object that is not connected; the next connection answers the CNXN with a CNXN (no authentication) -/
def c11ApiConn : World :=
  { conns := [{ dt := 2, segs := [⟨0, (Msg.mk .CNXN 0x01000000 4096 (ascii "device::")).encode⟩] }] }

/-- a device object that is not connected; the next connection accepts the CNXN and never answers -/
def c11ApiConnSilent : World := { conns := [{ dt := 2 }] }

/-- shell with `timeout_s` = 1024 ticks -/
def c11ShellTOp : ApiOp := .shell [108, 115] (some 50) (some 1024) (some 1024) false
/-- connect without keys: transport timeout 50, auth timeout 50, read timeout 1024 -/
def c11ConnOp : ApiOp := .connect [] (some 50) (some 50) (some 1024) false
def c11ShellOp : ApiOp := .shell [108, 115] (some 50) (some 1024) none false
def c11StatOp : ApiOp := .stat [47, 120] (some 50) (some 1024)
def c11PullOp : ApiOp := .pull [47, 120] .none (some 50) (some 1024)


/-- the value of a result, if any (so that concrete results can be compared with `decide`) -/
def c11ValOf {α : Type} : Except Err α → Option α
  | .ok v => some v
  | .error _ => none

theorem eq_ok_of_c11ValOf {α : Type} {x : Except Err α} {v : α} (h : c11ValOf x = some v) : x = .ok v := by
  cases x <;> simp_all [c11ValOf]

/-- read timeout 1024 ticks (1 s), transport timeout 50 ticks, call cost `D`; no default transport timeout,
    no local files -/
def c11P (D : Int) (hD : 1 ≤ D) : TP := ⟨1024, 50, D, none, [], 0, by omega, by omega, hD⟩

theorem c11P_eff (D : Int) (hD : 1 ≤ D) (total : Timeout) (htot : total = none ∨ ∃ T, total = some T ∧ 1024 ≤ T) :
    EffT (c11P D hD) (some 50) (some 1024) total := by
  rcases htot with rfl | ⟨T, rfl, hT⟩
  · exact ⟨⟨none, none, some 50, some 1024, none⟩, rfl, rfl, rfl⟩
  · refine ⟨⟨none, none, some 50, some 1024, some T⟩, ?_, rfl, rfl⟩
    simp only [Txn.make, pyMin, Option.isSome_some, if_true, bind, Except.bind, pure, Except.pure]
    have h1 : min (1024 : Int) T = 1024 := by omega
    have h2 : min (50 : Int) 1024 = 50 := by omega
    simp [h1, h2]

theorem TPre.of_cur {P : TP} {w : World} {c : Conn} (h : w.cur = some c) (h1 : 1 ≤ c.dt) (h2 : c.dt ≤ P.D)
    (hl : w.locks = []) (hd : w.defaultTT = P.dtt) (hf : w.files = P.files) : TPre P w :=
  ⟨fun c' hc' => by rw [h] at hc'; cases hc'; exact ⟨h1, h2⟩, hl, hd, hf⟩

end Adb
