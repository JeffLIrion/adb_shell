import AdbProofs.Lemmas.Transport
import AdbProofs.Lemmas.TxnLemmas
import AdbProofs.Lemmas.Bytes
/-
  Helper lemmas for C03 / C15: the scripted transport (`bulkRead`, `bulkWrite`) seen through the two
  ghost byte streams `World.inboundRest` (what the device will still send) and `World.peerGot`
  (what the peer has received), and the loops `readBytesLoop` / `writeAllLoop` built on them.
-/
namespace Adb

/-- everything the device will still send on the open connection (gating/fragmentation ignored) -/
def World.inboundRest (w : World) : Bytes := match w.cur with | some c => c.inboundRest | none => []

/-- the parts of the world a transport call never touches -/
def SameDevice (w w' : World) : Prop :=
  w'.store = w.store ∧ w'.available = w.available ∧ w'.maxdata = w.maxdata ∧ w'.localId = w.localId ∧ w'.banner = w.banner ∧
  w'.defaultTT = w.defaultTT ∧ w'.locks = w.locks ∧ w'.fuel = w.fuel ∧ w'.conns = w.conns ∧ w'.past = w.past ∧ w'.files = w.files ∧ w'.dirs = w.dirs ∧ w'.sink = w.sink

theorem SameDevice.refl (w : World) : SameDevice w w := by simp [SameDevice]

theorem SameDevice.trans {a b c : World} (h1 : SameDevice a b) (h2 : SameDevice b c) : SameDevice a c := by
  unfold SameDevice at *
  obtain ⟨a1, a2, a3, a4, a5, a6, a7, a8, a9, a10, a11, a12, a13⟩ := h1
  obtain ⟨b1, b2, b3, b4, b5, b6, b7, b8, b9, b10, b11, b12, b13⟩ := h2
  exact ⟨b1.trans a1, b2.trans a2, b3.trans a3, b4.trans a4, b5.trans a5, b6.trans a6, b7.trans a7,
    b8.trans a8, b9.trans a9, b10.trans a10, b11.trans a11, b12.trans a12, b13.trans a13⟩

/-! ### segments -/

/-- all bytes of a segment list, gating ignored -/
def segFlat (segs : List Seg) : Bytes := (segs.map (·.bytes)).flatten

@[simp] theorem segFlat_nil : segFlat [] = [] := rfl
@[simp] theorem segFlat_cons (s : Seg) (rest : List Seg) : segFlat (s :: rest) = s.bytes ++ segFlat rest := by
  simp [segFlat]

theorem Conn.inboundRest_eq (c : Conn) : c.inboundRest = segFlat c.segs := rfl

/-- what a read sees is at most `k` bytes and a prefix of the remaining device stream -/
theorem readablePrefix_spec (out : Nat) (k : Nat) (segs : List Seg) :
    (readablePrefix out k segs).length ≤ k ∧ readablePrefix out k segs <+: segFlat segs := by
  induction segs generalizing k with
  | nil => cases k <;> simp [readablePrefix]
  | cons s rest ih =>
    cases k with
    | zero => simp [readablePrefix]
    | succ n =>
      simp only [readablePrefix]
      split
      · split
        · next hge =>
          refine ⟨by rw [List.length_take]; omega, ?_⟩
          rw [segFlat_cons]
          exact (List.take_prefix _ _).trans (List.prefix_append _ _)
        · next hlt =>
          obtain ⟨h1, h2⟩ := ih (n + 1 - s.bytes.length)
          refine ⟨by simp only [List.length_append]; omega, ?_⟩
          rw [segFlat_cons]
          exact (List.prefix_append_right_inj _).2 h2
      · simp

/-- removing `k` bytes from the segment list removes exactly the first `k` bytes of the stream
    (all of it when `k` exceeds what is there; empty segments are harmless) -/
theorem dropSegs_flat (k : Nat) (segs : List Seg) : segFlat (dropSegs k segs) = (segFlat segs).drop k := by
  induction segs generalizing k with
  | nil => cases k <;> simp [dropSegs]
  | cons s rest ih =>
    cases k with
    | zero => simp [dropSegs]
    | succ n =>
      simp only [dropSegs]
      split
      · next hle =>
        rw [ih, segFlat_cons, List.drop_append]
        simp [List.drop_eq_nil_of_le hle]
      · next hgt =>
        rw [segFlat_cons, segFlat_cons, List.drop_append]
        have : n + 1 - s.bytes.length = 0 := by omega
        simp [this]

/-- a read of the visible prefix followed by dropping it splits the stream exactly -/
theorem readable_split (out k : Nat) (segs : List Seg) :
    segFlat segs = readablePrefix out k segs ++ segFlat (dropSegs (readablePrefix out k segs).length segs) := by
  obtain ⟨_, t, ht⟩ := readablePrefix_spec out k segs
  rw [dropSegs_flat]
  conv => rhs; rw [← ht]
  simp [← ht]

/-! ### bulkRead -/

theorem waitTimeout_inv {α : Type} {tt : Timeout} {w w' : World} {r : Except Err α}
    (h : (waitTimeout tt : M α) w = (r, w')) :
    (∃ e, r = .error e) ∧ w'.cur = w.cur ∧ w'.trace = w.trace ∧ SameDevice w w' := by
  rw [waitTimeout_run] at h
  cases h
  exact ⟨⟨_, rfl⟩, rfl, rfl, SameDevice.refl w⟩

theorem bulkRead_spec (n : Nat) (tt : Timeout) (w : World) (r : Except Err Bytes) (w' : World)
    (h : bulkRead n tt w = (r, w')) :
    SameDevice w w' ∧ w'.peerGot = w.peerGot ∧ w'.trace = w.trace ∧
    (∀ bs, r = .ok bs → bs.length ≤ n ∧ w.inboundRest = bs ++ w'.inboundRest) ∧
    (∀ e, r = .error e → w'.inboundRest = w.inboundRest) := by
  rcases hc : w.cur with _ | c
  · rw [bulkRead_none n tt w hc] at h; cases h
    simp [SameDevice.refl]
  rcases Bool.eq_false_or_eq_true c.isReset with hr | hr
  · rw [bulkRead_reset n tt w c hc hr] at h; cases h
    simp [SameDevice.refl]
  rcases Bool.eq_false_or_eq_true c.isEof with he | he
  · rw [bulkRead_eof n tt w c hc hr he] at h; cases h
    simp [SameDevice, World.peerGot, World.inboundRest, hc]
  rcases hf : nextFault true c.inOff c.faults with _ | f
  · rcases bulkRead_healthy n tt w c hc hr he hf with ⟨-, hb⟩ | ⟨m, fr, hm, hb⟩
    · rw [hb, waitTimeout_run] at h; cases h
      simp [SameDevice, World.peerGot, World.inboundRest]
    · obtain ⟨fl, hb⟩ := hb _ rfl
      rw [hb] at h; cases h
      refine ⟨by simp [SameDevice], by simp [World.peerGot, hc, Conn.peerGot], rfl, ?_, by simp⟩
      intro bs hbs
      cases hbs
      simp only [World.inboundRest, hc, Conn.inboundRest_eq]
      exact ⟨Nat.le_trans (readablePrefix_spec _ _ _).1 (Nat.le_trans (minOpt_le _ _) hm), readable_split _ _ _⟩
  · rw [bulkRead_fault n tt w c f hc hr he hf] at h
    split at h
    · rw [waitTimeout_run] at h; cases h
      simp [SameDevice, World.peerGot, World.inboundRest, hc, Conn.peerGot, Conn.inboundRest]
    · cases h
      simp [SameDevice, World.peerGot, World.inboundRest, hc, Conn.peerGot, Conn.inboundRest]
    · cases h
      simp [SameDevice, World.peerGot, World.inboundRest, hc, Conn.peerGot, Conn.inboundRest]

/-! ### bulkWrite -/

theorem Conn.peerGot_cons (c : Conn) (d : Bytes) :
    ({ c with peerChunks := d :: c.peerChunks } : Conn).peerGot = c.peerGot ++ d := by
  simp [Conn.peerGot]

theorem bulkWrite_spec (data : Bytes) (tt : Timeout) (w : World) (r : Except Err (Option Nat)) (w' : World)
    (h : bulkWrite data tt w = (r, w')) :
    SameDevice w w' ∧ w'.inboundRest = w.inboundRest ∧ w'.trace = w.trace ∧
    (∀ k, r = .ok (some k) → k ≤ data.length ∧ w'.peerGot = w.peerGot ++ data.take k) ∧
    (r = .ok none → w'.peerGot = w.peerGot ++ data) ∧
    (∀ e, r = .error e → w'.peerGot = w.peerGot) := by
  rcases bulkWrite_cases data tt w with ⟨-, hb⟩ | ⟨c, hc, -, ⟨f, -, hb | hb⟩ | ⟨-, hb | ⟨k, fl, fr, hk, -, -, hb⟩⟩⟩
  · rw [hb] at h; cases h
    simp [SameDevice.refl]
  · rw [hb, waitTimeout_run] at h; cases h
    simp [SameDevice, World.peerGot, World.inboundRest, hc, Conn.peerGot, Conn.inboundRest]
  · rw [hb] at h; cases h
    simp [SameDevice, World.peerGot, World.inboundRest, hc, Conn.peerGot, Conn.inboundRest]
  · rw [hb] at h; cases h
    simp [SameDevice, World.peerGot, World.inboundRest, hc, Conn.peerGot, Conn.inboundRest]
  · rw [hb] at h; cases h
    refine ⟨by simp [SameDevice], by simp [World.inboundRest, hc, Conn.inboundRest], rfl, ?_, by simp, by simp⟩
    intro k' hk'
    cases hk'
    exact ⟨hk, by simp [World.peerGot, hc, Conn.peerGot]⟩

/-- running-state sanity: a write fragment in progress has bytes left (`bulkWrite` never stores `some 0`;
    an arbitrary `World` value could) -/
def World.OfragOk (w : World) : Prop := ∀ c, w.cur = some c → c.ofragLeft ≠ some 0

theorem bulkWrite_progress (data : Bytes) (tt : Timeout) (w : World) (r : Except Err (Option Nat)) (w' : World)
    (h : bulkWrite data tt w = (r, w')) (hok : w.OfragOk) :
    w'.OfragOk ∧ (∀ k, r = .ok (some k) → data ≠ [] → 1 ≤ k) := by
  rcases bulkWrite_cases data tt w with ⟨-, hb⟩ | ⟨c, hc, -, ⟨f, -, hb | hb⟩ | ⟨-, hb | ⟨k, fl, fr, -, hpos, hfl, hb⟩⟩⟩
  · rw [hb] at h; cases h
    exact ⟨hok, fun _ hk => nomatch hk⟩
  · rw [hb, waitTimeout_run] at h; cases h
    exact ⟨fun _ hx => by cases hx; exact hok c hc, fun _ hk => nomatch hk⟩
  · rw [hb] at h; cases h
    exact ⟨fun _ hx => by cases hx; exact hok c hc, fun _ hk => nomatch hk⟩
  · rw [hb] at h; cases h
    exact ⟨fun _ hx => by cases hx; exact hok c hc, fun _ hk => nomatch hk⟩
  · rw [hb] at h; cases h
    exact ⟨fun _ hx => by cases hx; exact hfl, fun _ hk hd => by cases hk; exact hpos hd (hok c hc)⟩

/-! ### the loops -/

theorem mem_pair {α} {a b c : α} : c ∈ [a, b] ↔ c = a ∨ c = b := by simp

theorem ok_of_toOption {α} {x : Except Err α} {v : α} (h : x.toOption = some v) : x = .ok v := by
  cases x <;> simp_all [Except.toOption]

/-- the recurring `if time.time() - start > read_timeout_s: raise AdbTimeoutError` followed by `k` -/
theorem timeoutCheck_run {α} (start : Int) (rt : Timeout) (k : M α) (w : World) :
    (do if (← elapsedGt start rt) then M.throw .adbTimeout
        k : M α) w =
      match rt with
      | none => (.error .pyTypeError, w)
      | some l => if w.now - start > l then (.error .adbTimeout, w) else k w := by
  cases rt with
  | none => simp [bind_run, elapsedGt_run]
  | some l =>
    by_cases hl : w.now - start > l <;> simp [bind_run, elapsedGt_run, hl]

theorem writeAllLoop_spec (t : Txn) (start : Int) (fuel : Nat) (data : Bytes) (w : World)
    (r : Except Err Unit) (w' : World) (h : writeAllLoop t start fuel data w = (r, w')) :
    SameDevice w w' ∧ w'.inboundRest = w.inboundRest ∧ w'.trace = w.trace ∧
    (∃ k, k ≤ data.length ∧ w'.peerGot = w.peerGot ++ data.take k) ∧
    (r = .ok () → w'.peerGot = w.peerGot ++ data) := by
  induction fuel generalizing data w with
  | zero =>
    cases h
    exact ⟨SameDevice.refl _, rfl, rfl, ⟨0, by simp⟩, by simp⟩
  | succ fuel ih =>
    rw [writeAllLoop, bind_run] at h
    rcases hb : bulkWrite data t.tt w with ⟨r1, w1⟩
    obtain ⟨sd, hin, htr, hsome, hnone, herr⟩ := bulkWrite_spec _ _ _ _ _ hb
    rw [hb] at h
    cases r1 with
    | error e =>
      cases h
      exact ⟨sd, hin, htr, ⟨0, by simp [herr e rfl]⟩, by simp⟩
    | ok nw =>
      cases nw with
      | none =>
        cases h
        exact ⟨sd, hin, htr, ⟨data.length, Nat.le_refl _, by simp [hnone rfl]⟩, fun _ => hnone rfl⟩
      | some k =>
        obtain ⟨hk, hpg⟩ := hsome k rfl
        simp only at h
        split at h
        · next hge =>
          cases h
          have : data.take k = data := List.take_of_length_le hge
          exact ⟨sd, hin, htr, ⟨k, hk, hpg⟩, fun _ => by rw [hpg, this]⟩
        · next hlt =>
          rw [timeoutCheck_run] at h
          split at h
          · cases h
            exact ⟨sd, hin, htr, ⟨k, hk, hpg⟩, by simp⟩
          · split at h
            · cases h
              exact ⟨sd, hin, htr, ⟨k, hk, hpg⟩, by simp⟩
            · obtain ⟨sd2, hin2, htr2, ⟨k2, hk2, hpg2⟩, hok2⟩ := ih _ _ h
              simp only [List.length_drop] at hk2
              refine ⟨sd.trans sd2, hin2.trans hin, htr2.trans htr, ⟨k + k2, by omega, ?_⟩, ?_⟩
              · rw [hpg2, hpg, List.append_assoc, List.take_add]
              · intro hr
                rw [hok2 hr, hpg, List.append_assoc, List.take_append_drop]

theorem writeAll_spec (data : Bytes) (t : Txn) (w : World) (r : Except Err Unit) (w' : World)
    (h : writeAll data t w = (r, w')) :
    SameDevice w w' ∧ w'.inboundRest = w.inboundRest ∧ w'.trace = w.trace ∧
    (∃ k, k ≤ data.length ∧ w'.peerGot = w.peerGot ++ data.take k) ∧
    (r = .ok () → w'.peerGot = w.peerGot ++ data) := by
  simp only [writeAll, bind_run, now_run, M.get_run] at h
  exact writeAllLoop_spec _ _ _ _ _ _ _ h

theorem sendRaw_spec (m : Msg) (t : Txn) (w : World) (r : Except Err Unit) (w' : World)
    (h : sendRaw m t w = (r, w')) :
    SameDevice w w' ∧ w'.inboundRest = w.inboundRest ∧ w'.trace = .tx m :: w.trace ∧
    (∃ k, k ≤ m.encode.length ∧ w'.peerGot = w.peerGot ++ m.encode.take k) ∧
    (r = .ok () → m.Packable ∧ w'.peerGot = w.peerGot ++ m.encode) := by
  simp only [sendRaw, bind_run, emit_run] at h
  have sd0 : SameDevice w { w with trace := .tx m :: w.trace } := by simp [SameDevice]
  have hin0 : ({ w with trace := .tx m :: w.trace } : World).inboundRest = w.inboundRest := rfl
  have hpg0 : ({ w with trace := .tx m :: w.trace } : World).peerGot = w.peerGot := rfl
  have htr0 : ({ w with trace := .tx m :: w.trace } : World).trace = .tx m :: w.trace := rfl
  generalize ({ w with trace := .tx m :: w.trace } : World) = w0 at h sd0 hin0 hpg0 htr0
  unfold Msg.pack? at h
  by_cases hp : m.Packable
  · simp only [hp, if_true] at h
    have hlen : m.packHdr.length = 24 := by simp [Msg.packHdr]
    rcases h1 : writeAll m.packHdr t w0 with ⟨r1, w1⟩
    obtain ⟨sd1, hin1, htr1, ⟨k1, hk1, hpg1⟩, hok1⟩ := writeAll_spec _ _ _ _ _ h1
    rw [bind_run, h1] at h
    cases r1 with
    | error e =>
      cases h
      refine ⟨sd0.trans sd1, hin1.trans hin0, htr1.trans htr0, ⟨k1, ?_, ?_⟩, by simp⟩
      · simp [Msg.encode]; omega
      · rw [hpg1, hpg0, Msg.encode, List.take_append_of_le_length hk1]
    | ok u =>
      have hpg1' := hok1 rfl
      simp only at h
      by_cases hd : m.data.isEmpty
      · simp only [hd, Bool.not_true, Bool.false_eq_true, if_false, pure_run, Prod.mk.injEq] at h
        obtain ⟨rfl, rfl⟩ := h
        have hd' : m.data = [] := by simpa using hd
        have henc : m.encode = m.packHdr := by simp [Msg.encode, hd']
        refine ⟨sd0.trans sd1, hin1.trans hin0, htr1.trans htr0, ⟨m.encode.length, Nat.le_refl _, ?_⟩, fun _ => ⟨hp, ?_⟩⟩
        · rw [List.take_length, henc, hpg1', hpg0]
        · rw [henc, hpg1', hpg0]
      · simp only [hd, Bool.not_false, if_true] at h
        obtain ⟨sd2, hin2, htr2, ⟨k2, hk2, hpg2⟩, hok2⟩ := writeAll_spec _ _ _ _ _ h
        refine ⟨(sd0.trans sd1).trans sd2, (hin2.trans hin1).trans hin0, (htr2.trans htr1).trans htr0,
          ⟨24 + k2, ?_, ?_⟩, fun hr => ⟨hp, ?_⟩⟩
        · simp [Msg.encode, hlen]; omega
        · rw [hpg2, hpg1', hpg0, Msg.encode, List.append_assoc, ← hlen, List.take_length_add_append]
        · rw [hok2 hr, hpg1', hpg0, Msg.encode, List.append_assoc]
  · simp only [hp, if_false, M.throw_run, Prod.mk.injEq] at h
    obtain ⟨rfl, rfl⟩ := h
    exact ⟨sd0, hin0, htr0, ⟨0, by simp, by simp [hpg0]⟩, by simp⟩

/-- the requests a frame of `rem` missing bytes produces when the successive `bulk_read` calls return `chunks`
    (a failed call counts as an empty chunk): each asks for what is still missing -/
def reqsOf (rem : Nat) : List Bytes → List TEv
  | [] => []
  | c :: cs => .req rem rem :: reqsOf (rem - c.length) cs

/-- Everything `readBytesLoop` can do, for any outcome; `chunks` is what the successive `bulk_read` calls returned
    (a failed call counts as an empty chunk). -/
theorem readBytesLoop_run (t : Txn) (start : Int) (fuel rem : Nat) (acc : Bytes) (w : World)
    (r : Except Err Bytes) (w' : World) (h : readBytesLoop t start fuel rem acc w = (r, w')) :
    ∃ chunks : List Bytes, w'.trace = (reqsOf rem chunks).reverse ++ w.trace ∧
      w.inboundRest = chunks.flatten ++ w'.inboundRest ∧ SameDevice w w' ∧ w'.peerGot = w.peerGot ∧
      chunks.flatten.length ≤ rem ∧ (∀ e ∈ reqsOf rem chunks, ∃ b, e = .req b b ∧ 1 ≤ b ∧ b ≤ rem) ∧
      (∀ bs, r = .ok bs → bs = acc ++ chunks.flatten ∧ chunks.flatten.length = rem) := by
  induction fuel generalizing rem acc w with
  | zero =>
    cases h
    exact ⟨[], rfl, rfl, SameDevice.refl _, rfl, Nat.zero_le _, by simp [reqsOf], by simp⟩
  | succ fuel ih =>
    rw [readBytesLoop] at h
    split at h
    · next h0 =>
      cases h
      exact ⟨[], rfl, rfl, SameDevice.refl _, rfl, Nat.zero_le _, by simp [reqsOf], by simp [h0]⟩
    · next hne =>
      rw [bind_run_ok (emit_run _ w), bind_run] at h
      rcases hb : bulkRead rem t.tt { w with trace := .req rem rem :: w.trace } with ⟨r1, w1⟩
      obtain ⟨sd1, hpg1, htr1, hok1, herr1⟩ := bulkRead_spec _ _ _ _ _ hb
      have sd1' : SameDevice w w1 := SameDevice.trans (by simp [SameDevice]) sd1
      have hpg1' : w1.peerGot = w.peerGot := hpg1
      have htr1' : w1.trace = .req rem rem :: w.trace := htr1
      have hreq : ∀ e ∈ [TEv.req rem rem], ∃ b, e = .req b b ∧ 1 ≤ b ∧ b ≤ rem := fun e he =>
        ⟨rem, List.mem_singleton.1 he, by omega, Nat.le_refl _⟩
      rw [hb] at h
      cases r1 with
      | error e =>
        cases h
        have hin1 : w'.inboundRest = w.inboundRest := herr1 e rfl
        exact ⟨[[]], by simp [reqsOf, htr1'], by simp [hin1], sd1', hpg1', by simp, by simpa [reqsOf] using hreq, by simp⟩
      | ok temp =>
        obtain ⟨hlen, hsplit⟩ := hok1 temp rfl
        have hsplit' : w.inboundRest = temp ++ w1.inboundRest := hsplit
        have hstop : ∀ r : Except Err Bytes, (∀ bs, r = .ok bs → bs = acc ++ temp ∧ temp.length = rem) →
            ∃ chunks : List Bytes, w1.trace = (reqsOf rem chunks).reverse ++ w.trace ∧
              w.inboundRest = chunks.flatten ++ w1.inboundRest ∧ SameDevice w w1 ∧ w1.peerGot = w.peerGot ∧
              chunks.flatten.length ≤ rem ∧ (∀ e ∈ reqsOf rem chunks, ∃ b, e = .req b b ∧ 1 ≤ b ∧ b ≤ rem) ∧
              (∀ bs, r = .ok bs → bs = acc ++ chunks.flatten ∧ chunks.flatten.length = rem) := fun r hr =>
          ⟨[temp], by simp [reqsOf, htr1'], by simpa using hsplit', sd1', hpg1', by simpa using hlen,
            by simpa [reqsOf] using hreq, by simpa using hr⟩
        simp only at h
        split at h
        · next hz =>
          cases h
          exact hstop _ (fun bs hbs => by cases hbs; exact ⟨rfl, by omega⟩)
        · rw [timeoutCheck_run] at h
          split at h
          · cases h; exact hstop _ (by simp)
          · split at h
            · cases h; exact hstop _ (by simp)
            · obtain ⟨chunks, htr2, hsp2, sd2, hpg2, hlen2, hreq2, hok2⟩ := ih _ _ _ h
              refine ⟨temp :: chunks, by rw [htr2, htr1']; simp [reqsOf], by rw [hsplit', hsp2]; simp, sd1'.trans sd2,
                hpg2.trans hpg1', by simp only [List.flatten_cons, List.length_append]; omega, ?_, ?_⟩
              · intro e he
                simp only [reqsOf, List.mem_cons] at he
                rcases he with rfl | he
                · exact hreq _ (List.mem_singleton.2 rfl)
                · obtain ⟨b, hb1, hb2, hb3⟩ := hreq2 e he
                  exact ⟨b, hb1, hb2, by omega⟩
              · intro bs hbs
                obtain ⟨h1, h2⟩ := hok2 bs hbs
                exact ⟨by rw [h1]; simp, by simp only [List.flatten_cons, List.length_append]; omega⟩

theorem readBytes_spec (n : Nat) (t : Txn) (w : World) (r : Except Err Bytes) (w' : World)
    (h : readBytes n t w = (r, w')) :
    SameDevice w w' ∧ w'.peerGot = w.peerGot ∧
    (∃ evs, w'.trace = evs ++ w.trace ∧ ∀ e ∈ evs, ∃ b, e = .req b b ∧ 1 ≤ b ∧ b ≤ n) ∧
    (∃ got, got.length ≤ n ∧ w.inboundRest = got ++ w'.inboundRest ∧
      (∀ bs, r = .ok bs → bs = got ∧ got.length = n)) := by
  simp only [readBytes, bind_run, now_run, M.get_run] at h
  obtain ⟨chunks, htr, hsp, sd, hpg, hlen, hreq, hok⟩ := readBytesLoop_run _ _ _ _ _ _ _ _ h
  exact ⟨sd, hpg, ⟨_, htr, fun e he => hreq e (List.mem_reverse.1 he)⟩, _, hlen, hsp, by simpa using hok⟩

/-- a complete read: exactly `n` bytes, the front of the device's stream -/
theorem readBytes_ok {n : Nat} {t : Txn} {w w' : World} {bs : Bytes} (h : readBytes n t w = (.ok bs, w')) :
    bs.length = n ∧ w.inboundRest = bs ++ w'.inboundRest := by
  obtain ⟨-, -, -, got, -, hg, hok⟩ := readBytes_spec _ _ _ _ _ h
  obtain ⟨rfl, hl⟩ := hok bs rfl
  exact ⟨hl, hg⟩

theorem readBytes_requests (n : Nat) (t : Txn) (w : World) (r : Except Err Bytes) (w' : World)
    (h : readBytes n t w = (r, w')) :
    ∃ chunks : List Bytes, w'.trace = (reqsOf n chunks).reverse ++ w.trace ∧
      w.inboundRest = chunks.flatten ++ w'.inboundRest := by
  simp only [readBytes, bind_run, now_run, M.get_run] at h
  obtain ⟨chunks, htr, hsp, -⟩ := readBytesLoop_run _ _ _ _ _ _ _ _ h
  exact ⟨chunks, htr, hsp⟩

theorem readPacket_inv {t : Txn} {w w' : World} {r : Except Err Pkt} (h : readPacket t w = (r, w')) :
    (∃ r1, readBytes Generated.MESSAGE_SIZE t w = (r1, w') ∧ ∀ p, r = .ok p → ∃ msg hd, r1 = .ok msg ∧
      unpack msg = some hd ∧ Cmd.ofWire? hd.cmd = some p.cmd ∧ hd.arg0 = p.arg0 ∧ hd.arg1 = p.arg1 ∧ hd.len = 0 ∧ p.data = []) ∨
    (∃ msg w1 hd r2, readBytes Generated.MESSAGE_SIZE t w = (.ok msg, w1) ∧ unpack msg = some hd ∧
      readBytes hd.len t w1 = (r2, w') ∧ ∀ p, r = .ok p → r2 = .ok p.data ∧
        Cmd.ofWire? hd.cmd = some p.cmd ∧ hd.arg0 = p.arg0 ∧ hd.arg1 = p.arg1 ∧ checksum p.data = hd.sum) := by
  unfold readPacket at h
  rcases bind_any_inv h with ⟨e, h1, rfl⟩ | ⟨msg, w1, h1, h⟩
  · exact Or.inl ⟨_, h1, by simp⟩
  · cases hu : unpack msg with
    | none => rw [hu] at h; cases h; exact Or.inl ⟨_, h1, by simp⟩
    | some hd =>
      rw [hu] at h
      cases hc : Cmd.ofWire? hd.cmd with
      | none => simp only [hc] at h; cases h; exact Or.inl ⟨_, h1, by simp⟩
      | some c =>
        simp only [hc] at h
        split at h
        · next hz =>
          cases h
          refine Or.inl ⟨_, h1, fun p hp => ?_⟩
          cases hp
          exact ⟨msg, hd, rfl, hu, hc, rfl, rfl, hz, rfl⟩
        · rcases bind_any_inv h with ⟨e, h2, rfl⟩ | ⟨data, w2, h2, h⟩
          · exact Or.inr ⟨msg, w1, hd, _, h1, hu, h2, by simp⟩
          · by_cases hck : checksum data = hd.sum
            · simp only [hck, ne_eq, not_true_eq_false, if_false, pure_run] at h
              cases h
              refine Or.inr ⟨msg, w1, hd, _, h1, hu, h2, fun p hp => ?_⟩
              cases hp
              exact ⟨rfl, hc, rfl, rfl, hck⟩
            · simp only [hck, ne_eq, not_false_eq_true, if_true, bind_run, M.throw_run] at h
              cases h
              exact Or.inr ⟨msg, w1, hd, _, h1, hu, h2, by simp⟩

def WireRead (w w' : World) : Prop :=
  SameDevice w w' ∧ w'.peerGot = w.peerGot ∧ (∃ got, w.inboundRest = got ++ w'.inboundRest) ∧
    ∃ evs, w'.trace = evs ++ w.trace ∧ ∀ e ∈ evs, ∃ a b, e = TEv.req a b

theorem WireRead.trans {a b c : World} (h1 : WireRead a b) (h2 : WireRead b c) : WireRead a c := by
  obtain ⟨sd1, pg1, ⟨g1, hg1⟩, e1, ht1, hr1⟩ := h1
  obtain ⟨sd2, pg2, ⟨g2, hg2⟩, e2, ht2, hr2⟩ := h2
  refine ⟨sd1.trans sd2, pg2.trans pg1, ⟨g1 ++ g2, by rw [hg1, hg2, List.append_assoc]⟩, e2 ++ e1,
    by rw [ht2, ht1, List.append_assoc], fun e he => ?_⟩
  rcases List.mem_append.1 he with he | he
  · exact hr2 e he
  · exact hr1 e he

theorem readBytes_wire {n : Nat} {t : Txn} {w w' : World} {r : Except Err Bytes} (h : readBytes n t w = (r, w')) :
    WireRead w w' := by
  obtain ⟨sd, pg, ⟨evs, ht, hr⟩, got, -, hg, -⟩ := readBytes_spec n t w r w' h
  exact ⟨sd, pg, ⟨got, hg⟩, evs, ht, fun e he => by obtain ⟨b, hb, -⟩ := hr e he; exact ⟨b, b, hb⟩⟩

theorem readPacket_wire {t : Txn} {w w' : World} {r : Except Err Pkt} (h : readPacket t w = (r, w')) : WireRead w w' := by
  rcases readPacket_inv h with ⟨r1, h1, -⟩ | ⟨msg, w1, hd, r2, h1, -, h2, -⟩
  · exact readBytes_wire h1
  · exact (readBytes_wire h1).trans (readBytes_wire h2)

theorem readPacket_frame (t : Txn) (w : World) (r : Except Err Pkt) (w' : World)
    (h : readPacket t w = (r, w')) :
    SameDevice w w' ∧ w'.peerGot = w.peerGot ∧ ∃ got, w.inboundRest = got ++ w'.inboundRest :=
  ⟨(readPacket_wire h).1, (readPacket_wire h).2.1, (readPacket_wire h).2.2.1⟩

theorem readPacket_ok (t : Txn) (w : World) (p : Pkt) (w' : World)
    (h : readPacket t w = (.ok p, w')) :
    ∃ hb hd, hb.length = 24 ∧ unpack hb = some hd ∧ Cmd.ofWire? hd.cmd = some p.cmd ∧ hd.arg0 = p.arg0 ∧
      hd.arg1 = p.arg1 ∧ hd.len = p.data.length ∧ (p.data ≠ [] → checksum p.data = hd.sum) ∧
      w.inboundRest = hb ++ p.data ++ w'.inboundRest := by
  rcases readPacket_inv h with ⟨r1, h1, hp⟩ | ⟨msg, w1, hd, r2, h1, hu, h2, hp⟩
  · obtain ⟨msg, hd, rfl, hu, hc, a0, a1, hz, hdat⟩ := hp p rfl
    obtain ⟨hl, hg⟩ := readBytes_ok h1
    exact ⟨msg, hd, hl, hu, hc, a0, a1, by rw [hz, hdat]; rfl, fun hne => absurd hdat hne, by rw [hdat, List.append_nil]; exact hg⟩
  · obtain ⟨rfl, hc, a0, a1, hck⟩ := hp p rfl
    obtain ⟨hl, hg⟩ := readBytes_ok h1
    obtain ⟨hl2, hg2⟩ := readBytes_ok h2
    exact ⟨msg, hd, hl, hu, hc, a0, a1, hl2.symm, fun _ => hck, by rw [hg, hg2, List.append_assoc]⟩


/-! ### progress of `writeAll` on a fault-free connection -/

/-- an open connection that is not reset, has no scripted faults left and a sane write-fragment state -/
def World.WriteHealthy (w : World) : Prop :=
  ∃ c, w.cur = some c ∧ c.isReset = false ∧ c.faults = [] ∧ c.ofragLeft ≠ some 0

theorem bulkWrite_healthy (data : Bytes) (tt : Timeout) (w : World) (r : Except Err (Option Nat)) (w' : World)
    (h : bulkWrite data tt w = (r, w')) (hh : w.WriteHealthy) :
    w'.WriteHealthy ∧ (r = .ok none ∨ ∃ k, r = .ok (some k) ∧ (data ≠ [] → 1 ≤ k)) := by
  obtain ⟨c0, hc0, hr0, hf0, ho0⟩ := hh
  rcases bulkWrite_cases data tt w with ⟨h0, -⟩ | ⟨c, hc, -, ⟨f, hf, -⟩ | ⟨-, hb | ⟨k, fl, fr, -, hpos, hfl, hb⟩⟩⟩
  · rw [h0 c0 hc0] at hr0; cases hr0
  · cases hc0.symm.trans hc
    rw [hf0] at hf; cases hf
  · cases hc0.symm.trans hc
    rw [hb] at h; cases h
    exact ⟨⟨_, rfl, hr0, hf0, ho0⟩, Or.inl rfl⟩
  · cases hc0.symm.trans hc
    rw [hb] at h; cases h
    exact ⟨⟨_, rfl, hr0, hf0, hfl⟩, Or.inr ⟨k, rfl, fun hd => hpos hd ho0⟩⟩

theorem writeAllLoop_no_hang (t : Txn) (start : Int) (fuel : Nat) (data : Bytes) (w : World)
    (r : Except Err Unit) (w' : World) (h : writeAllLoop t start fuel data w = (r, w'))
    (hh : w.WriteHealthy) (hf : data.length < fuel) : r ≠ .error .hang := by
  induction fuel generalizing data w with
  | zero => omega
  | succ fuel ih =>
    rw [writeAllLoop, bind_run] at h
    rcases hb : bulkWrite data t.tt w with ⟨r1, w1⟩
    obtain ⟨hh1, hr1⟩ := bulkWrite_healthy _ _ _ _ _ hb hh
    rw [hb] at h
    rcases hr1 with rfl | ⟨k, rfl, hk⟩
    · simp only [pure_run, Prod.mk.injEq] at h; obtain ⟨rfl, -⟩ := h; simp
    · simp only at h
      split at h
      · simp only [pure_run, Prod.mk.injEq] at h; obtain ⟨rfl, -⟩ := h; simp
      · next hlt =>
        rw [timeoutCheck_run] at h
        split at h
        · simp only [Prod.mk.injEq] at h; obtain ⟨rfl, -⟩ := h; simp
        · split at h
          · simp only [Prod.mk.injEq] at h; obtain ⟨rfl, -⟩ := h; simp
          · have hne : data ≠ [] := by
              intro h0; rw [h0] at hlt; simp at hlt
            have := hk hne
            exact ih _ _ h hh1 (by simp only [List.length_drop]; omega)

end Adb
