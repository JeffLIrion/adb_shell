import AdbModel
import AdbModel.Py
import AdbModel.Generated.Src
import AdbProofs.Lemmas.SrcEnc
import AdbProofs.Lemmas.Assoc
/-
  Encoding of the packet-store model (`Adb.Store`) as `Py.Val` and the lemmas relating the Python-subset
  operations (`Py.*`) on encoded values to the association-list functions of the model. Used by
  `AdbProofs/Properties/C19Src.lean` (generated `_AdbPacketStore` = hand-written `Store`).
-/
namespace Adb
open Py

/-! ### encoders -/

/-- the command id as the `bytes` object the Python code carries (`b'WRTE'` …) -/
def Cmd.bytes (c : Cmd) : Bytes := ascii c.name

/-- a `{int: X}` dict whose keys are the (non-negative) model keys, in the same order -/
def encAL {β : Type} (f : β → Py.Val) (l : List (Nat × β)) : List (Py.Key × Py.Val) :=
  l.map fun kv => (Py.Key.int kv.1, f kv.2)

def encQItem (x : QItem) : Py.Val := .tuple [.bytes x.1.bytes, .bytes x.2]
def encQueue (q : List QItem) : Py.Val := .queue (q.map encQItem)
def encInner (i : Inner) : Py.Val := .dict (encAL encQueue i)
def encDict (s : Store) : Py.Val := .dict (encAL encInner s)
def encStore (cls : String) (s : Store) : Py.Val := .obj cls [("_dict", encDict s)]
def encOptKey : Option (Nat × Nat) → Py.Val
  | none => .none
  | some (a, b) => .tuple [.int a, .int b]

/-- the encoders written out (the form given in the task statement) -/
theorem encInner_def (i : Inner) : encInner i = .dict (i.map fun kq => (Py.Key.int kq.1, encQueue kq.2)) := rfl
theorem encDict_def (s : Store) : encDict s = .dict (s.map fun ki => (Py.Key.int ki.1, encInner ki.2)) := rfl

/-- `dict.items()` / `dict.values()` of an encoded dict -/
def itemsAL {β : Type} (f : β → Py.Val) (l : List (Nat × β)) : List Py.Val :=
  l.map fun kv => .tuple [.int kv.1, f kv.2]
def valuesAL {β : Type} (f : β → Py.Val) (l : List (Nat × β)) : List Py.Val :=
  l.map fun kv => f kv.2

/-! ### command bytes -/

theorem Cmd.bytes_eq_CLSE (c : Cmd) : c.bytes = ascii "CLSE" ↔ c = .CLSE := by
  cases c <;> decide

theorem Cmd.bytes_beq_CLSE (c : Cmd) : (c.bytes == ([67, 76, 83, 69] : List UInt8)) = decide (c = .CLSE) := by
  cases c <;> decide

/-! ### association lists vs. Python dict primitives -/

section AL
variable {β : Type} (f : β → Py.Val)

theorem dlookup_encAL (k : Nat) (l : List (Nat × β)) :
    Py.dlookup (.int k) (encAL f l) = (alookup k l).map f := by
  induction l with
  | nil => simp [encAL, Py.dlookup, alookup]
  | cons p rest ih =>
    obtain ⟨k', v'⟩ := p
    simp only [encAL, List.map_cons] at ih ⊢
    by_cases h : k' = k
    · subst h; simp [Py.dlookup, alookup]
    · have hc : ¬ ((k' : Int) = (k : Int)) := by omega
      simp [Py.dlookup, alookup, h, hc, ih]

theorem dset_encAL (k : Nat) (v : β) (l : List (Nat × β)) :
    Py.dset (.int k) (f v) (encAL f l) = encAL f (aset k v l) := by
  induction l with
  | nil => simp [encAL, Py.dset, aset]
  | cons p rest ih =>
    obtain ⟨k', v'⟩ := p
    simp only [encAL, List.map_cons] at ih ⊢
    by_cases h : k' = k
    · subst h; simp [Py.dset, aset]
    · have hc : ¬ ((k' : Int) = (k : Int)) := by omega
      simp [Py.dset, aset, h, hc, ih]

theorem ddel_encAL (k : Nat) (l : List (Nat × β)) :
    Py.ddel (.int k) (encAL f l) = encAL f (adel k l) := by
  induction l with
  | nil => simp [encAL, Py.ddel, adel]
  | cons p rest ih =>
    obtain ⟨k', v'⟩ := p
    simp only [encAL, List.map_cons] at ih ⊢
    by_cases h : k' = k
    · subst h; simp [Py.ddel, adel]
    · have hc : ¬ ((k' : Int) = (k : Int)) := by omega
      simp [Py.ddel, adel, h, hc, ih]

theorem encAL_isEmpty (l : List (Nat × β)) : (encAL f l).isEmpty = l.isEmpty := by
  cases l <;> simp [encAL]

theorem items_encAL (l : List (Nat × β)) : Py.items (.dict (encAL f l)) = .ok (itemsAL f l) := by
  simp [Py.items, encAL, itemsAL, Py.Key.toVal, pure, Except.pure, Function.comp_def]

theorem values_encAL (l : List (Nat × β)) : Py.values (.dict (encAL f l)) = .ok (valuesAL f l) := by
  simp [Py.values, encAL, valuesAL, pure, Except.pure, Function.comp_def]

theorem contains_encAL (k : Nat) (l : List (Nat × β)) :
    Py.contains (.dict (encAL f l)) (.int k) = .ok (alookup k l).isSome := by
  simp [Py.contains, Py.toKey, dlookup_encAL, bind, Except.bind, pure, Except.pure]

theorem getItem_encAL (k : Nat) (l : List (Nat × β)) :
    Py.getItem (.dict (encAL f l)) (.int k) =
      match alookup k l with
      | some v => .ok (f v)
      | none => .error .keyError := by
  simp only [Py.getItem, Py.toKey, bind, Except.bind, pure, Except.pure, dlookup_encAL]
  cases alookup k l <;> rfl

/-- a `next((… for k, v in d.items() …), default)` loop over an encoded dict whose body is a total function
    of the model-level entry -/
theorem firstM_itemsAL (l : List (Nat × β)) (g : Py.Val → Py.M (Option Py.Val)) (h : Nat → β → Option Py.Val)
    (H : ∀ k v, g (.tuple [.int (k : Nat), f v]) = .ok (h k v)) :
    Py.firstM (itemsAL f l) g = .ok (l.findSome? fun kv => h kv.1 kv.2) := by
  induction l with
  | nil => simp [itemsAL, Py.firstM, pure, Except.pure]
  | cons p rest ih =>
    simp only [itemsAL, List.map_cons] at ih ⊢
    simp only [Py.firstM, H, bind, Except.bind, List.findSome?_cons]
    cases h p.1 p.2 with
    | none => simpa using ih
    | some v => simp [pure, Except.pure]

/-- a comprehension over `d.values()` of an encoded dict whose body is a total function of the model-level value -/
theorem flatMapM_valuesAL (l : List (Nat × β)) (g : Py.Val → Py.M (List Py.Val)) (h : β → List Py.Val)
    (H : ∀ v, g (f v) = .ok (h v)) :
    Py.flatMapM (valuesAL f l) g = .ok (l.flatMap fun kv => h kv.2) := by
  induction l with
  | nil => simp [valuesAL, Py.flatMapM, pure, Except.pure]
  | cons p rest ih =>
    simp only [valuesAL, List.map_cons] at ih ⊢
    simp [Py.flatMapM, H, ih, bind, Except.bind, pure, Except.pure]

theorem aset_aset_self (k : Nat) (v w : β) (l : List (Nat × β)) : aset k v (aset k w l) = aset k v l := by
  induction l with
  | nil => simp [aset]
  | cons p rest ih =>
    obtain ⟨k', v'⟩ := p
    by_cases h : k' = k <;> simp [aset, h, ih]

theorem adel_aset_self (k : Nat) (v : β) (l : List (Nat × β)) : adel k (aset k v l) = adel k l := by
  induction l with
  | nil => simp [aset, adel]
  | cons p rest ih =>
    obtain ⟨k', v'⟩ := p
    by_cases h : k' = k <;> simp [aset, adel, h, ih]

end AL

/-! ### truth values of scalars and tuples -/

@[simp] theorem truthy_bool (b : Bool) : Py.truthy (.bool b) = .ok b := rfl
@[simp] theorem truthy_none : Py.truthy .none = .ok false := rfl
@[simp] theorem truthy_tuple (l : List Py.Val) : Py.truthy (.tuple l) = .ok (!l.isEmpty) := rfl
@[simp] theorem truthy_encOptKey (o : Option (Nat × Nat)) : Py.truthy (encOptKey o) = .ok o.isSome := by
  cases o <;> rfl

/-! ### queues -/

theorem queue_nil_enc : Py.Val.queue [] = encQueue [] := rfl

@[simp] theorem queueEmpty_enc (q : List QItem) : Py.queueEmpty (encQueue q) = .ok (.bool q.isEmpty) := by
  cases q <;> simp [Py.queueEmpty, encQueue, pure, Except.pure]

@[simp] theorem queuePut_enc (q : List QItem) (c : Cmd) (d : Bytes) :
    Py.queuePut (encQueue q) (.tuple [.bytes c.bytes, .bytes d]) = .ok (encQueue (q ++ [(c, d)])) := by
  simp [Py.queuePut, encQueue, encQItem, pure, Except.pure]

theorem queueGet_enc_nil : Py.queueGet (encQueue []) = .error .queueEmpty := rfl

theorem queueGet_enc_cons (c : Cmd) (d : Bytes) (q : List QItem) :
    Py.queueGet (encQueue ((c, d) :: q)) = .ok (.tuple [.bytes c.bytes, .bytes d], encQueue q) := rfl

/-! ### the inner dict `{arg0: Queue}` -/

@[simp] theorem truthy_encInner (i : Inner) : Py.truthy (encInner i) = .ok (!i.isEmpty) := by
  simp [encInner, Py.truthy, encAL_isEmpty, pure, Except.pure]

@[simp] theorem items_encInner (i : Inner) : Py.items (encInner i) = .ok (itemsAL encQueue i) := items_encAL _ _
@[simp] theorem values_encInner (i : Inner) : Py.values (encInner i) = .ok (valuesAL encQueue i) := values_encAL _ _

@[simp] theorem contains_encInner (i : Inner) (k : Nat) :
    Py.contains (encInner i) (.int k) = .ok (alookup k i).isSome := contains_encAL _ _ _

@[simp] theorem getItem_encInner (i : Inner) (k : Nat) :
    Py.getItem (encInner i) (.int k) =
      match alookup k i with
      | some q => .ok (encQueue q)
      | none => .error .keyError := by
  rw [encInner, getItem_encAL]; cases alookup k i <;> rfl

@[simp] theorem setAcc_encInner (i : Inner) (k : Nat) (q : List QItem) :
    Py.setAcc (encInner i) (.idx (.int k)) (encQueue q) = .ok (encInner (aset k q i)) := by
  simp [Py.setAcc, encInner, Py.toKey, dset_encAL, bind, Except.bind, pure, Except.pure]

@[simp] theorem setAcc_dict_nil (k : Nat) (q : List QItem) :
    Py.setAcc (.dict []) (.idx (.int k)) (encQueue q) = .ok (encInner [(k, q)]) := by
  simp [Py.setAcc, encInner, encAL, Py.toKey, Py.dset, bind, Except.bind, pure, Except.pure]

/-! ### the outer dict `{arg1: {arg0: Queue}}` -/

theorem dict_nil_enc : Py.Val.dict [] = encDict [] := rfl

@[simp] theorem truthy_encDict (s : Store) : Py.truthy (encDict s) = .ok (!s.isEmpty) := by
  simp [encDict, Py.truthy, encAL_isEmpty, pure, Except.pure]

@[simp] theorem items_encDict (s : Store) : Py.items (encDict s) = .ok (itemsAL encInner s) := items_encAL _ _
@[simp] theorem values_encDict (s : Store) : Py.values (encDict s) = .ok (valuesAL encInner s) := values_encAL _ _

@[simp] theorem contains_encDict (s : Store) (k : Nat) :
    Py.contains (encDict s) (.int k) = .ok (alookup k s).isSome := contains_encAL _ _ _

@[simp] theorem getItem_encDict (s : Store) (k : Nat) :
    Py.getItem (encDict s) (.int k) =
      match alookup k s with
      | some i => .ok (encInner i)
      | none => .error .keyError := by
  rw [encDict, getItem_encAL]; cases alookup k s <;> rfl

@[simp] theorem setAcc_encDict (s : Store) (k : Nat) (i : Inner) :
    Py.setAcc (encDict s) (.idx (.int k)) (encInner i) = .ok (encDict (aset k i s)) := by
  simp [Py.setAcc, encDict, Py.toKey, dset_encAL, bind, Except.bind, pure, Except.pure]

/-! ### the store object -/

@[simp] theorem getAttr_encStore (cls : String) (s : Store) : Py.getAttr (encStore cls s) "_dict" = .ok (encDict s) := by
  simp [encStore, Py.getAttr, Py.alookupS, pure, Except.pure]

@[simp] theorem setAttr_encStore (cls : String) (s s' : Store) :
    Py.setAttr (encStore cls s) "_dict" (encDict s') = .ok (encStore cls s') := by
  simp [encStore, Py.setAttr, Py.asetS, pure, Except.pure]

@[simp] theorem setPath_dict_encStore (cls : String) (s s' : Store) :
    Py.setPath (encStore cls s) [.attr "_dict"] (encDict s') = .ok (encStore cls s') := by
  simp [Py.setPath, Py.setAcc]

@[simp] theorem setPath_dict_newObj (cls : String) (s' : Store) :
    Py.setPath (.obj cls []) [.attr "_dict"] (encDict s') = .ok (encStore cls s') := by
  simp [Py.setPath, Py.setAcc, Py.setAttr, Py.asetS, encStore, pure, Except.pure]

/-- `self._dict[y][x]` -/
@[simp] theorem getPath2_encStore (cls : String) (s : Store) (x y : Nat) :
    Py.getPath (encStore cls s) [.attr "_dict", .idx (.int y), .idx (.int x)] =
      match alookup y s with
      | none => .error .keyError
      | some inner =>
        match alookup x inner with
        | none => .error .keyError
        | some q => .ok (encQueue q) := by
  simp only [Py.getPath, Py.getAcc, getAttr_encStore, getItem_encDict, bind, Except.bind]
  cases alookup y s with
  | none => rfl
  | some inner =>
    simp only [getItem_encInner]
    cases alookup x inner <;> rfl

/-- `self._dict[y][x] = <queue>` -/
@[simp] theorem setPath2_encStore (cls : String) (s : Store) (x y : Nat) (q : List QItem) :
    Py.setPath (encStore cls s) [.attr "_dict", .idx (.int y), .idx (.int x)] (encQueue q) =
      match alookup y s with
      | none => .error .keyError
      | some inner => .ok (encStore cls (aset y (aset x q inner) s)) := by
  simp only [Py.setPath, Py.getAcc, getAttr_encStore, getItem_encDict, bind, Except.bind]
  cases alookup y s with
  | none => rfl
  | some inner =>
    simp only [setAcc_encInner, setAcc_encDict]
    simp [Py.setAcc]

/-- `self._dict[y] = <inner dict>` -/
@[simp] theorem setPath1_encStore (cls : String) (s : Store) (y : Nat) (i : Inner) :
    Py.setPath (encStore cls s) [.attr "_dict", .idx (.int y)] (encInner i) = .ok (encStore cls (aset y i s)) := by
  simp only [Py.setPath, Py.getAcc, getAttr_encStore, bind, Except.bind, setAcc_encDict]
  simp [Py.setAcc]

theorem delPath_encInner (i : Inner) (x : Nat) :
    Py.delPath (encInner i) [.idx (.int x)] =
      if (alookup x i).isSome then .ok (encInner (adel x i)) else .error .keyError := by
  simp only [Py.delPath, encInner, Py.toKey, pure, Except.pure, bind, Except.bind, dlookup_encAL, ddel_encAL]
  cases alookup x i <;> simp [throw, throwThe, MonadExceptOf.throw]

theorem delPath_encDict (s : Store) (y : Nat) :
    Py.delPath (encDict s) [.idx (.int y)] =
      if (alookup y s).isSome then .ok (encDict (adel y s)) else .error .keyError := by
  simp only [Py.delPath, encDict, Py.toKey, pure, Except.pure, bind, Except.bind, dlookup_encAL, ddel_encAL]
  cases alookup y s <;> simp [throw, throwThe, MonadExceptOf.throw]

theorem delPath_cons (root : Py.Val) (a b : Py.Acc) (rest : List Py.Acc) :
    Py.delPath root (a :: b :: rest) = (do
      let inner ← Py.getAcc root a
      let inner' ← Py.delPath inner (b :: rest)
      Py.setAcc root a inner') := by
  cases a <;> rfl

/-- `del self._dict[y][x]` -/
@[simp] theorem delPath2_encStore (cls : String) (s : Store) (x y : Nat) :
    Py.delPath (encStore cls s) [.attr "_dict", .idx (.int y), .idx (.int x)] =
      match alookup y s with
      | none => .error .keyError
      | some inner =>
        match alookup x inner with
        | none => .error .keyError
        | some _ => .ok (encStore cls (aset y (adel x inner) s)) := by
  rw [delPath_cons]
  simp only [Py.getAcc, getAttr_encStore, bind, Except.bind]
  rw [delPath_cons]
  simp only [Py.getAcc, getItem_encDict, bind, Except.bind]
  cases alookup y s with
  | none => rfl
  | some inner =>
    simp only [delPath_encInner]
    cases alookup x inner with
    | none => rfl
    | some q =>
      simp only [Option.isSome_some, if_true, setAcc_encDict]
      simp [Py.setAcc]

/-- `del self._dict[y]` -/
@[simp] theorem delPath1_encStore (cls : String) (s : Store) (y : Nat) :
    Py.delPath (encStore cls s) [.attr "_dict", .idx (.int y)] =
      if (alookup y s).isSome then .ok (encStore cls (adel y s)) else .error .keyError := by
  rw [delPath_cons]
  simp only [Py.getAcc, getAttr_encStore, bind, Except.bind, delPath_encDict]
  cases alookup y s <;> simp [Py.setAcc]

/-! ### the two loop shapes of `find`, and `__len__` -/

theorem findSome_inner (p : Nat → Bool) (F : Nat → Py.Val) (inner : Inner) :
    (inner.findSome? fun kq => if p kq.1 && !kq.2.isEmpty then some (F kq.1) else none)
      = (Store.firstNonEmptyInner p inner).map F := by
  induction inner with
  | nil => simp [Store.firstNonEmptyInner]
  | cons kq rest ih =>
    obtain ⟨k, q⟩ := kq
    simp only [List.findSome?_cons, Store.firstNonEmptyInner]
    by_cases h : (p k && !q.isEmpty) = true
    · simp [h]
    · simp only [h]; exact ih

theorem findSome_outer (p : Nat → Bool) (F : Nat → Nat → Py.Val) (s : Store) :
    (s.findSome? fun ki => (Store.firstNonEmptyInner p ki.2).map (fun k0 => F k0 ki.1))
      = (Store.firstNonEmpty p s).map (fun k => F k.1 k.2) := by
  induction s with
  | nil => simp [Store.firstNonEmpty]
  | cons ki rest ih =>
    obtain ⟨k, i⟩ := ki
    simp only [List.findSome?_cons, Store.firstNonEmpty]
    cases Store.firstNonEmptyInner p i with
    | none => simpa using ih
    | some k0 => simp

/-- inner loop of `find`: `next(((key0, …) for key0, val0 in inner.items() if p key0 and not val0.empty()), None)` -/
theorem firstM_inner (p : Nat → Bool) (F : Nat → Py.Val) (i : Inner) (g : Py.Val → Py.M (Option Py.Val))
    (H : ∀ (k0 : Nat) (q : List QItem),
      g (.tuple [.int (k0 : Nat), encQueue q]) = .ok (if p k0 && !q.isEmpty then some (F k0) else none)) :
    Py.firstM (itemsAL encQueue i) g = .ok ((Store.firstNonEmptyInner p i).map F) := by
  rw [firstM_itemsAL encQueue i g (fun k0 q => if p k0 && !q.isEmpty then some (F k0) else none) H]
  exact congrArg Except.ok (findSome_inner p F i)

/-- outer loop of `find` over `self._dict.items()` -/
theorem firstM_outer (p : Nat → Bool) (F : Nat → Nat → Py.Val) (s : Store) (g : Py.Val → Py.M (Option Py.Val))
    (H : ∀ (k1 : Nat) (i : Inner),
      g (.tuple [.int (k1 : Nat), encInner i]) = .ok ((Store.firstNonEmptyInner p i).map (fun k0 => F k0 k1))) :
    Py.firstM (itemsAL encInner s) g = .ok ((Store.firstNonEmpty p s).map (fun k => F k.1 k.2)) := by
  rw [firstM_itemsAL encInner s g (fun k1 i => (Store.firstNonEmptyInner p i).map (fun k0 => F k0 k1)) H]
  exact congrArg Except.ok (findSome_outer p F s)

/-- the `(key0, key1)` tuple `find` returns -/
def pairV (k0 k1 : Nat) : Py.Val := .tuple [.int k0, .int k1]

theorem encOptKey_map_pairV (o : Option (Nat × Nat)) :
    (o.map fun k => pairV k.1 k.2).getD .none = encOptKey o := by
  cases o <;> simp [encOptKey, pairV]

theorem encOptKey_map (o : Option (Nat × Nat)) :
    (o.map fun k => Py.Val.tuple [.int k.1, .int k.2]).getD .none = encOptKey o := by
  cases o <;> simp [encOptKey]

theorem sumInts_append (a b : List Py.Val) (x y : Int) (ha : Py.sumInts a = .ok x) (hb : Py.sumInts b = .ok y) :
    Py.sumInts (a ++ b) = .ok (x + y) := by
  induction a generalizing x with
  | nil =>
    simp [Py.sumInts, pure, Except.pure] at ha
    subst ha; simpa using hb
  | cons v vs ih =>
    simp only [Py.sumInts, bind, Except.bind, List.cons_append] at ha ⊢
    cases hv : Py.asInt v with
    | error e => simp [hv] at ha
    | ok n =>
      simp only [hv] at ha ⊢
      cases hs : Py.sumInts vs with
      | error e => simp [hs] at ha
      | ok m =>
        simp only [hs, pure, Except.pure, Except.ok.injEq] at ha
        simp [ih m hs, pure, Except.pure, ← ha, Int.add_assoc]

theorem sumInts_inner (i : Inner) :
    Py.sumInts (i.flatMap fun kq => [Py.Val.bool (!kq.2.isEmpty)])
      = .ok ((i.filter (fun (_, q) => !q.isEmpty)).length : Nat) := by
  induction i with
  | nil => simp [Py.sumInts, pure, Except.pure]
  | cons kq rest ih =>
    obtain ⟨k, q⟩ := kq
    simp only [List.flatMap_cons, List.singleton_append, Py.sumInts, Py.asInt, ih, bind, Except.bind, pure, Except.pure]
    cases q <;> simp <;> omega

theorem sumInts_len (s : Store) :
    Py.sumInts (s.flatMap fun ki => ki.2.flatMap fun kq => [Py.Val.bool (!kq.2.isEmpty)])
      = .ok (Store.len s : Nat) := by
  induction s with
  | nil => simp [Py.sumInts, Store.len, pure, Except.pure]
  | cons ki rest ih =>
    obtain ⟨k, i⟩ := ki
    simp only [List.flatMap_cons]
    rw [sumInts_append _ _ _ _ (sumInts_inner i) ih]
    simp [Store.len]

end Adb
