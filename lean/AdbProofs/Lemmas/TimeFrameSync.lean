import AdbProofs.Lemmas.TimeFrameOps
/-
  The time frame (`TF`, see TimeFrame.lean) for the FileSync layer (`_filesync_flush`, `_filesync_send`,
  `_filesync_read_buffered`, `_filesync_read`, `_push`) and the API operations `stat`, `list`, `pull`, `push`.
  Record loops (`list`, `_pull`) may complete iterations from the receive buffer without any transport
  activity: those iterations take no time, and the loop fuel they need is paid by the delivered payload bytes
  (`Room`, `rxBytes`).
-/
namespace Adb

variable {P : TP} {X : Int}

/-! ### `_filesync_flush` -/

theorem TFc_fsFlushLoop (t : Txn) (ht : TxnOf P t) (hX : P.W ≤ X) :
    ∀ n fi, TFc (Room n 0) P X (fsFlushLoop t n fi) := by
  intro n
  induction n with
  | zero => intro fi; exact TFc_room_zero
  | succ n ih =>
    intro fi
    unfold fsFlushLoop
    exact TFc_bind_readUntil _ t ht hX fun v => by tfc ih []

theorem TF_fsFlush (t : Txn) (fi : FsInfo) (ht : TxnOf P t) (hX : P.W ≤ X) :
    TF P X (fsFlush t fi) := by
  unfold fsFlush
  refine TF_bind (TF_ioSend _ t ht (by tf_side)) fun _ => ?_
  exact TF_get_world (by tf_side) fun wg => TFc_fsFlushLoop t ht hX wg.fuel fi

theorem TF_fsSend (id : SyncId) (t : Txn) (fi : FsInfo) (data : Bytes) (size : Option Nat)
    (ht : TxnOf P t) (hX : P.W ≤ X) : TF P X (fsSend id t fi data size) := by
  unfold fsSend
  tf [TF_fsFlush]

/-! ### `_filesync_read_buffered`, `_filesync_read` -/

theorem TFc_fsReadBufferedLoop (size : Nat) (t : Txn) (ht : TxnOf P t) (hX : P.W ≤ X) :
    ∀ n fi, TFc (Room n 0) P X (fsReadBufferedLoop size t n fi) := by
  intro n
  induction n with
  | zero => intro fi; exact TFc_room_zero
  | succ n ih =>
    intro fi
    unfold fsReadBufferedLoop
    exact TFc_ite (TFc_bind_readUntil _ t ht hX fun v => by tfc ih []) (TF.tfc (by tf))

theorem TF_fsReadBuffered (size : Nat) (t : Txn) (fi : FsInfo) (ht : TxnOf P t)
    (hX : P.W ≤ X) : TF P X (fsReadBuffered size t fi) := by
  unfold fsReadBuffered
  exact TF_get_world (by tf_side) fun wg => TFc_fsReadBufferedLoop size t ht hX wg.fuel fi

theorem TQ_fsReadCheck (ex : List SyncId) (cid : SyncId) (header : List Nat) (data : Bytes) (fi : FsInfo) :
    TQ (fsReadCheck ex cid header data fi) := by
  unfold fsReadCheck
  tq

theorem TF_fsReadTail (ex : List SyncId) (t : Txn) (fi : FsInfo) (ht : TxnOf P t)
    (hX : P.W ≤ X) : TF P X (fsReadTail ex t fi) := by
  unfold fsReadTail
  tf [TF_fsReadBuffered, TQ_fsReadCheck]

theorem TF_fsRead (ex : List SyncId) (t : Txn) (fi : FsInfo) (ht : TxnOf P t)
    (hX : P.W ≤ X) : TF P X (fsRead ex t fi) := by
  rw [fsRead_eq_tail]
  exact TF_bind (by tf [TF_fsFlush]) fun _ => TF_fsReadTail ex t _ ht hX

/-! ### the receive buffer never holds more than what was delivered -/

theorem fsFlushLoop_buf (t : Txn) : ∀ n (fi fi' : FsInfo) (w w1 : World),
    fsFlushLoop t n fi w = (.ok fi', w1) → w.locks = [] →
    fi'.recvBuf.length + w.rxTotal ≤ fi.recvBuf.length + w1.rxTotal := by
  intro n
  induction n with
  | zero => intro fi fi' w w1 h; simp [fsFlushLoop] at h
  | succ n ih =>
    intro fi fi' w w1 h hl
    unfold fsFlushLoop at h
    obtain ⟨⟨c, d⟩, w2, hu, hrest⟩ := bind_ok_inv h
    have hp := readUntil_rxTotal hl hu
    have hl2 : w2.locks = [] := by rw [Fr.locks_of (Fr_readUntil _ t) hu]; exact hl
    simp only at hrest
    split at hrest
    · simp only [pure_run, Prod.mk.injEq, Except.ok.injEq] at hrest
      obtain ⟨rfl, rfl⟩ := hrest
      simp only; omega
    · have := ih _ _ _ _ hrest hl2
      simp only [List.length_append] at this
      omega

theorem fsFlush_buf {t : Txn} {fi fi' : FsInfo} {w w1 : World} (h : fsFlush t fi w = (.ok fi', w1)) (hl : w.locks = []) :
    fi'.recvBuf.length + w.rxTotal ≤ fi.recvBuf.length + w1.rxTotal := by
  unfold fsFlush at h
  obtain ⟨_, w2, hs, hrest⟩ := bind_ok_inv h
  have hl2 : w2.locks = [] := by rw [Fr.locks_of (Fr_ioSend _ t) hs]; exact hl
  have he := ((Fr_ioSend _ t).ext hs).rxTotal_le
  rw [bind_run_ok (M.get_run _)] at hrest
  have := fsFlushLoop_buf t _ _ _ _ _ hrest hl2
  omega

theorem fsSend_buf {id : SyncId} {t : Txn} {fi fi' : FsInfo} {data : Bytes} {size : Option Nat} {w w1 : World}
    (h : fsSend id t fi data size w = (.ok fi', w1)) (hl : w.locks = []) :
    fi'.recvBuf.length + w.rxTotal ≤ fi.recvBuf.length + w1.rxTotal := by
  unfold fsSend at h
  split at h <;>
  ( obtain ⟨fi1, w2, hs, hrest⟩ := bind_ok_inv h
    have h1 : fi1.recvBuf.length + w.rxTotal ≤ fi.recvBuf.length + w2.rxTotal := by
      first
        | exact fsFlush_buf hs hl
        | ( simp only [pure_run, Prod.mk.injEq, Except.ok.injEq] at hs
            obtain ⟨rfl, rfl⟩ := hs
            omega )
    simp only at hrest
    split at hrest
    · simp [bind_run] at hrest
    · simp only [pure_run, Prod.mk.injEq, Except.ok.injEq] at hrest
      obtain ⟨rfl, rfl⟩ := hrest
      simpa using h1 )

theorem fsReadBufferedLoop_buf (size : Nat) (t : Txn) : ∀ n (fi fi' : FsInfo) (out : Bytes) (w w1 : World),
    fsReadBufferedLoop size t n fi w = (.ok (out, fi'), w1) → w.locks = [] →
    fi'.recvBuf.length + size + w.rxTotal ≤ fi.recvBuf.length + w1.rxTotal := by
  intro n
  induction n with
  | zero => intro fi fi' out w w1 h; simp [fsReadBufferedLoop] at h
  | succ n ih =>
    intro fi fi' out w w1 h hl
    unfold fsReadBufferedLoop at h
    split at h
    · obtain ⟨⟨c, d⟩, w2, hu, hrest⟩ := bind_ok_inv h
      have hp := readUntil_rxTotal hl hu
      have hl2 : w2.locks = [] := by rw [Fr.locks_of (Fr_readUntil _ t) hu]; exact hl
      have := ih _ _ _ _ _ hrest hl2
      simp only [List.length_append] at this
      omega
    · next hge =>
      simp only [pure_run, Prod.mk.injEq, Except.ok.injEq] at h
      obtain ⟨⟨rfl, rfl⟩, rfl⟩ := h
      simp only [List.length_drop]
      omega

theorem fsReadBuffered_buf {size : Nat} {t : Txn} {fi fi' : FsInfo} {out : Bytes} {w w1 : World}
    (h : fsReadBuffered size t fi w = (.ok (out, fi'), w1)) (hl : w.locks = []) :
    fi'.recvBuf.length + size + w.rxTotal ≤ fi.recvBuf.length + w1.rxTotal := by
  unfold fsReadBuffered at h
  rw [bind_run_ok (M.get_run _)] at h
  exact fsReadBufferedLoop_buf size t _ _ _ _ _ _ h hl

theorem SyncFmt.size_pos (f : SyncFmt) : 1 ≤ f.size := by cases f <;> decide

theorem fsReadCheck_ok {ex : List SyncId} {cid : SyncId} {header : List Nat} {data : Bytes} {fi fi' : FsInfo} {r : SyncRec}
    {w w1 : World} (h : fsReadCheck ex cid header data fi w = (.ok (r, fi'), w1)) : fi' = fi ∧ w1 = w := by
  unfold fsReadCheck at h
  dsimp only at h
  split at h
  · split at h <;> simp [bind_run] at h
  · split at h <;>
    ( simp only [pure_run, Prod.mk.injEq, Except.ok.injEq] at h
      exact ⟨h.1.2.symm, h.2.symm⟩ )

theorem fsReadTail_buf {ex : List SyncId} {t : Txn} {fi fi' : FsInfo} {r : SyncRec} {w w1 : World}
    (h : fsReadTail ex t fi w = (.ok (r, fi'), w1)) (hl : w.locks = []) :
    fi'.recvBuf.length + 1 + w.rxTotal ≤ fi.recvBuf.length + w1.rxTotal := by
  unfold fsReadTail at h
  obtain ⟨⟨hdr, fi2⟩, w3, hb, hrest⟩ := bind_ok_inv h
  have h2 := fsReadBuffered_buf hb hl
  have hl3 : w3.locks = [] := by rw [Fr.locks_of (Fr_fsReadBuffered _ t fi) hb]; exact hl
  have hsz := SyncFmt.size_pos fi.fmt
  dsimp only at hrest
  rcases hcid : SyncId.ofWire? ((unpackWords (fi2.fmt.size / 4) hdr).headD 0) with _ | cid <;> rw [hcid] at hrest
  · simp at hrest
  · dsimp only at hrest
    split at hrest <;> obtain ⟨⟨data, fi3⟩, w4, hd, hrest⟩ := bind_ok_inv hrest <;>
        obtain ⟨rfl, rfl⟩ := fsReadCheck_ok hrest
    · have h3 := fsReadBuffered_buf hd hl3
      omega
    · simp only [pure_run, Prod.mk.injEq, Except.ok.injEq] at hd
      obtain ⟨⟨-, rfl⟩, rfl⟩ := hd
      omega

/-- a record read consumes at least one byte of what is buffered or delivered meanwhile -/
theorem fsRead_buf {ex : List SyncId} {t : Txn} {fi fi' : FsInfo} {r : SyncRec} {w w1 : World}
    (h : fsRead ex t fi w = (.ok (r, fi'), w1)) (hl : w.locks = []) :
    fi'.recvBuf.length + 1 + w.rxTotal ≤ fi.recvBuf.length + w1.rxTotal := by
  rw [fsRead_eq_tail] at h
  obtain ⟨fi1, w2, hs, hrest⟩ := bind_ok_inv h
  split at hs
  · have h1 := fsFlush_buf hs hl
    have hl2 : w2.locks = [] := by rw [Fr.locks_of (Fr_fsFlush t fi) hs]; exact hl
    have := fsReadTail_buf hrest hl2
    omega
  · simp only [pure_run, Prod.mk.injEq, Except.ok.injEq] at hs
    obtain ⟨rfl, rfl⟩ := hs
    exact fsReadTail_buf hrest hl

/-! ### `_push` -/

theorem TQ_callProgress (cb : CbMode) (path : Bytes) (n total : Nat) : TQ (callProgress cb path n total) := by
  unfold callProgress
  tq

theorem TQ_lookupFile (id : Nat) : TQ (lookupFile id) := by
  intro w
  unfold lookupFile
  split <;> exact .refl w rfl

/-- the data loop of `_push` runs once per chunk: loop fuel above the content length suffices -/
theorem TF_pushDataLoop (devPath : Bytes) (cb : CbMode) (total chunk : Nat) (t : Txn) (ht : TxnOf P t)
    (hX : P.W ≤ X) (hchunk : 1 ≤ chunk) :
    ∀ n content fi, content.length < n → TF P X (pushDataLoop devPath cb total chunk t n content fi) := by
  intro n
  induction n with
  | zero => intro content fi h; omega
  | succ n ih =>
    intro content fi hlen
    unfold pushDataLoop
    by_cases hd : (content.take chunk).isEmpty
    · simp only [hd, if_true]
      tf
    · simp only [hd]
      have hne : content ≠ [] := by
        intro h; subst h; simp at hd
      have hlt : (content.drop chunk).length < n := by
        have : 0 < content.length := List.length_pos_iff.2 hne
        simp only [List.length_drop]; omega
      have ih' := ih (content.drop chunk)
      refine TF_bind (TF_fsSend _ t fi _ _ ht hX) fun fi1 =>
        TF_bind ((TQ_callProgress _ _ _ _).tf (by tf_side)) fun _ => ih' fi1 hlt

theorem TF_pushStatus (t : Txn) (fi : FsInfo) (ht : TxnOf P t) (hX : P.W ≤ X) :
    TF P X (pushStatus t fi) := by
  unfold pushStatus
  tf [TF_fsRead]

theorem maxChunkSize_pos (m : Nat) : 1 ≤ maxChunkSize m := by
  unfold maxChunkSize
  simp only
  split
  · decide
  · omega

theorem TF_pushOne (content devPath : Bytes) (mode mtime : Nat) (cb : CbMode) (t : Txn) (fi : FsInfo)
    (ht : TxnOf P t) (hX : P.W ≤ X) (hlen : content.length ≤ P.F) :
    TF P X (pushOne content devPath mode mtime cb t fi) := by
  unfold pushOne
  refine TF_bind (TF_fsSend _ t fi _ _ ht hX) fun fi1 => ?_
  refine TF_get_world_ge (by tf_side) (fun wg => ?_) fun wg hF => ?_
  · exact Fr_bind (Fr_pushDataLoop _ _ _ _ _ _ _ _) fun _ => Fr_bind Fr_get fun _ =>
      Fr_bind (Fr_fsSend _ _ _ _ _) fun _ => Fr_pushStatus _ _
  · dsimp only
    refine TF_bind
      (TF_pushDataLoop devPath cb content.length _ t ht hX (maxChunkSize_pos _) wg.fuel content fi1 (by omega))
      fun fi2 => ?_
    tf [TF_fsSend, TF_pushStatus]

/-! ### `stat`, `list` -/

theorem TF_devStat (devPath : Bytes) (tt rt : Timeout) (heff : EffT P tt rt none) (hX : P.W ≤ X) :
    TF P X (devStat devPath tt rt) := by
  unfold devStat
  refine TF_bind ((TQ_runGuards _ _).tf (by tf_side)) fun _ => ?_
  refine TF_openStream_bind _ tt rt none heff hX (fun t => Fr_bind Fr_get fun _ =>
    Fr_bind (Fr_fsSend _ _ _ _ _) fun _ => Fr_bind (Fr_fsRead _ _ _) fun _ => Fr_bind (Fr_clse _) fun _ => Fr_pure _) ?_
  intro t ht _
  tf [TF_fsSend, TF_fsRead, TF_clse]

/-- a loop iteration that begins with `_filesync_read`: the record consumes a buffered or delivered byte, which
    pays for one unit of loop fuel -/
theorem TFc_bind_fsRead {β} {n : Nat} (ex : List SyncId) (t : Txn) (fi : FsInfo) (ht : TxnOf P t)
    (hX : P.W ≤ X) {f : SyncRec × FsInfo → M β}
    (hf : ∀ v, TFc (Room n v.2.recvBuf.length) P X (f v)) :
    TFc (Room (n + 1) fi.recvBuf.length) P X (fsRead ex t fi >>= f) :=
  TFc_bind_progress (TF_fsRead ex t fi ht hX) (fun w v w1 hp h => by have := fsRead_buf (r := v.1) (fi' := v.2) h hp.locks; omega) hf

theorem TFc_listLoop (t : Txn) (ht : TxnOf P t) (hX : P.W ≤ X) :
    ∀ n fi acc, TFc (Room n fi.recvBuf.length) P X (listLoop t n fi acc) := by
  intro n
  induction n with
  | zero => intro fi acc; exact TFc_room_zero
  | succ n ih =>
    intro fi acc
    unfold listLoop
    exact TFc_bind_fsRead _ t fi ht hX fun v => by tfc ih []

/-- `x` produces the FileSync state, then a record loop runs with fuel `n`: what `x` left in the receive buffer
    was delivered during `x`, so the room of the whole covers the loop -/
theorem TFc_send_then_loop {β} {n : Nat} {x : M FsInfo} {f : FsInfo → M β} (hx : TF P X x)
    (hbuf : ∀ w fi w1, TPre P w → x w = (.ok fi, w1) → fi.recvBuf.length + w.rxTotal ≤ w1.rxTotal)
    (hf : ∀ fi, TFc (Room n fi.recvBuf.length) P X (f fi)) : TFc (Room n 0) P X (x >>= f) :=
  TFc_bind hx (fun w fi w1 w' hp hxa _ hc => by
    have := hbuf w fi w1 hp hxa
    unfold Room at hc ⊢; omega) hf

theorem TF_devList (devPath : Bytes) (tt rt : Timeout) (heff : EffT P tt rt none) (hX : P.W ≤ X) :
    TF P X (devList devPath tt rt) := by
  unfold devList
  refine TF_bind ((TQ_runGuards _ _).tf (by tf_side)) fun _ => ?_
  refine TF_openStream_bind _ tt rt none heff hX (fun t => Fr_bind Fr_get fun _ =>
    Fr_bind (Fr_fsSend _ _ _ _ _) fun _ => Fr_bind (Fr_listLoop _ _ _ _) fun _ => Fr_bind (Fr_clse _) fun _ => Fr_pure _) ?_
  intro t ht _
  refine TF_get_world (by tf_side) fun wg => ?_
  dsimp only
  refine TFc_send_then_loop (TF_fsSend _ t _ _ _ ht hX) (fun w fi w1 hp h => ?_) fun fi => ?_
  · have := fsSend_buf h hp.locks
    simpa using this
  · refine TFc_bind_left_room (TFc_listLoop t ht hX wg.fuel fi []) fun files => ?_
    tf [TF_clse]

/-! ### `pull` -/

theorem TFc_pullLoop (devPath : Bytes) (cb : CbMode) (total : Nat) (t : Txn) (ht : TxnOf P t) (hX : P.W ≤ X) :
    ∀ n fi, TFc (Room n fi.recvBuf.length) P X (pullLoop devPath cb total t n fi) := by
  intro n
  induction n with
  | zero => intro fi; exact TFc_room_zero
  | succ n ih =>
    intro fi
    unfold pullLoop
    exact TFc_bind_fsRead _ t fi ht hX fun v => by tfc ih [TQ_callProgress]

/-- `x` produces the FileSync state, then `let w ← get` and a record loop with fuel `w.fuel` -/
theorem TF_send_get_loop {β} {x : M FsInfo} {g : Nat → FsInfo → M β} (hX : 0 ≤ X) (hx : TF P X x) (hFx : Fr x)
    (hbuf : ∀ w fi w1, TPre P w → x w = (.ok fi, w1) → fi.recvBuf.length + w.rxTotal ≤ w1.rxTotal)
    (hg : ∀ n fi, TFc (Room n fi.recvBuf.length) P X (g n fi)) :
    TF P X (x >>= fun fi => M.get >>= fun w => g w.fuel fi) := by
  refine (TFc_bind (C := fun w w' => Room w.fuel 0 w w') (C' := fun fi w1 w' => Room w1.fuel fi.recvBuf.length w1 w')
    hx (fun w fi w1 w' hp hxa _ hc => ?_) fun fi w1 r w' h => ?_).tf fun w w' he _ hb => Room.of_budget he hb hX
  · have hfu : w1.fuel = w.fuel := by have := (hFx w).fuel; rw [hxa] at this; exact this
    have := hbuf w fi w1 hp hxa
    unfold Room at hc ⊢; rw [hfu]; omega
  · rw [bind_run_ok (M.get_run _)] at h
    exact hg w1.fuel fi w1 r w' h

theorem TF_pullRest (devPath : Bytes) (cb : CbMode) (t : Txn) (fi : FsInfo) (total : Nat) (ht : TxnOf P t)
    (hX : P.W ≤ X) (hfi : fi.recvBuf = []) : TF P X (pullRest devPath cb t fi total) := by
  refine TF_send_get_loop (g := fun n fi => pullLoop devPath cb total t n fi) (by tf_side) (TF_fsSend _ t fi _ _ ht hX) (Fr_fsSend _ _ _ _ _)
    (fun w fi1 w1 hp h => ?_) (fun n fi => TFc_pullLoop devPath cb total t ht hX n fi)
  have := fsSend_buf h hp.locks
  rw [hfi] at this
  simpa using this

theorem EffT.le {tt rt total : Timeout} (h : EffT P tt rt total) : P.τ ≤ P.R := by
  obtain ⟨t0, h0, h1, h2⟩ := h
  generalize (if tt.isSome then tt else P.dtt) = a at h0
  cases a <;> cases rt <;> cases total <;>
    simp [Txn.make, pyMin, bind, Except.bind, pure, Except.pure] at h0 <;>
    subst h0 <;> simp at h1 h2 <;> omega

/-- re-opening a stream with the stored timeouts of a transaction gives the same effective timeouts -/
theorem EffT.self (h : P.τ ≤ P.R) : EffT P (some P.τ) (some P.R) none :=
  ⟨⟨none, none, some P.τ, some P.R, none⟩, by
    simp [Txn.make, pyMin, bind, Except.bind, pure, Except.pure]; omega, rfl, rfl⟩

theorem TF_pullInner (devPath : Bytes) (cb : CbMode) (t : Txn) (fi : FsInfo) (ht : TxnOf P t)
    (hX : P.W ≤ X) (hfi : fi.recvBuf = []) (hle : P.τ ≤ P.R) :
    TF P X (pullInner devPath cb t fi) := by
  have heff : EffT P t.tt t.rt none := by rw [ht.rt, ht.tt]; exact EffT.self hle
  have h0 : 0 ≤ X := by tf_side
  rw [pullInner_eq]
  refine TF_bind (TF_ite (TF_bind (TF_devStat devPath _ _ heff hX) fun v => ?_) ((TQ_pure 0).tf h0)) fun total =>
    TF_pullRest devPath cb t fi total ht hX hfi
  split <;> exact (TQ_pure _).tf h0

theorem TF_devPull (devPath : Bytes) (cb : CbMode) (tt rt : Timeout) (heff : EffT P tt rt none) (hX : P.W + P.W ≤ X) :
    TF P X (devPull devPath cb tt rt) := by
  have hW := P.W_pos
  unfold devPull
  refine TF_bind ((TQ_runGuards _ _).tf (by omega)) fun _ => ?_
  refine TF_bind (by tf) fun _ => ?_
  refine TF_openStream_bind _ tt rt none heff (by omega) (fun t => Fr_bind Fr_get fun _ =>
    Fr_bind (Fr_tryFinally (Fr_pullInner _ _ _ _) (Fr_clse _)) fun _ => Fr_pure _) ?_
  intro t ht _
  refine TF_bind (by tf) fun wg => ?_
  refine TF_bind ?_ fun _ => by tf
  exact (TF_tryFinally (X1 := P.W) (X2 := P.W) (by omega) (by omega)
    (TF_pullInner devPath cb t _ ht (Int.le_refl _) rfl heff.le)
    (TF_clse t ht (Int.le_refl _))).mono hX

/-! ### `push` -/

/-- the static budget `F` covers every local file -/
def TP.FilesFit (P : TP) : Prop := ∀ e ∈ P.files, e.2.length ≤ P.F

theorem lookupFile_fit (hfit : P.FilesFit) {id : Nat} {w w1 : World} {content : Bytes} (hp : TPre P w)
    (h : lookupFile id w = (.ok content, w1)) : content.length ≤ P.F := by
  unfold lookupFile at h
  split at h
  · next e c hfind =>
    simp only [Prod.mk.injEq, Except.ok.injEq] at h
    obtain ⟨rfl, _⟩ := h
    have hm := List.mem_of_find?_eq_some hfind
    rw [hp.files] at hm
    exact hfit _ hm
  · simp at h

theorem TF_pushFile (fid : Nat) (devPath : Bytes) (mode mtime : Nat) (cb : CbMode) (tt rt : Timeout)
    (heff : EffT P tt rt none) (hX : P.W ≤ X) (hfit : P.FilesFit) :
    TF P X (pushFile fid devPath mode mtime cb tt rt) := by
  unfold pushFile
  refine TF_bind_val (Q := fun content => content.length ≤ P.F) ((TQ_lookupFile _).tf (by tf_side))
    (fun w content w1 hp h => lookupFile_fit hfit hp h) (fun content => Fr_bind (Fr_openStream _ _ _ _) fun _ =>
      Fr_bind Fr_get fun _ => Fr_bind (Fr_pushOne _ _ _ _ _ _ _) fun _ => Fr_clse _) ?_
  intro content hlen
  refine TF_openStream_bind _ tt rt none heff hX (fun t => Fr_bind Fr_get fun _ =>
    Fr_bind (Fr_pushOne _ _ _ _ _ _ _) fun _ => Fr_clse _) ?_
  intro t ht _
  tf [TF_pushOne, TF_clse]

theorem TF_pushFiles (devPath : Bytes) (mode mtime : Nat) (cb : CbMode) (tt rt : Timeout)
    (heff : EffT P tt rt none) (hX : P.W ≤ X) (hfit : P.FilesFit) :
    ∀ es, TF P X (pushFiles devPath mode mtime cb tt rt es) := by
  intro es
  induction es with
  | nil => unfold pushFiles; tf
  | cons e es ih => obtain ⟨n, f⟩ := e; unfold pushFiles; tf [TF_pushFile]

theorem TF_devPush (src : LocalRef) (devPath : Bytes) (mode mtime : Nat) (cb : CbMode) (tt rt : Timeout)
    (heff : EffT P tt rt none) (hX : P.W ≤ X) (hfit : P.FilesFit) :
    TF P X (devPush src devPath mode mtime cb tt rt) := by
  unfold devPush
  tf [TQ_runGuards, TF_pushFile, TF_devShellLike, TF_pushFiles]

end Adb
