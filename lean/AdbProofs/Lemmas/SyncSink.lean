import AdbProofs.Lemmas.FrameOps
/-
  Sink discipline for C08: `Sk x` says that running `x` in any world, whatever its outcome, leaves
  `World.sink` (the destination of the current pull) as it was: `Pres` (Pres.lean) at the relation
  `SkR`.  Only the `stream.write(data)` step of `_pull` and the truncating `open()` of `pull` touch the
  sink, so every model function below `pullLoop` has it.
-/
namespace Adb.SR
open Adb

def Sk {α : Type} (x : M α) : Prop := ∀ w, (x w).2.sink = w.sink

def SkR (w w' : World) : Prop := w'.sink = w.sink

theorem SkR.wrel : WRel SkR where
  refl _ := rfl
  trans h1 h2 := Eq.trans h2 h1
  lock _ h := h
  transport _ _ _ _ _ := rfl
  store _ _ := rfl
  event _ _ _ := rfl

theorem SkR.admits (e : TEv) : Admits SkR e := fun _ => rfl
theorem SkR.alloc (w : World) : SkR w { w with localId := nextId w.localId } := rfl

theorem Sk.of_run {α} {x : M α} (h : Sk x) {w w' : World} {r : Except Err α} (hx : x w = (r, w')) : w'.sink = w.sink :=
  Pres.run (R := SkR) h hx

theorem Sk_Mpure {α} (a : α) : Sk (M.pure a : M α) := fun _ => rfl
theorem Sk_waitTimeout {α} (tt : Timeout) : Sk (waitTimeout tt : M α) := Pres_waitTimeout SkR.wrel tt
theorem Sk_openStream (dest : Bytes) (tt rt total : Timeout) : Sk (openStream dest tt rt total) :=
  Pres_openStream SkR.wrel SkR.admits SkR.alloc dest tt rt total
theorem Sk_clse (t : Txn) : Sk (clse t) := Pres_clse SkR.wrel SkR.admits t
theorem Sk_fsSend (id : SyncId) (t : Txn) (fi : FsInfo) (data : Bytes) (size : Option Nat) : Sk (fsSend id t fi data size) :=
  Pres_fsSend SkR.wrel SkR.admits id t fi data size
theorem Sk_fsRead (ex : List SyncId) (t : Txn) (fi : FsInfo) : Sk (fsRead ex t fi) := Pres_fsRead SkR.wrel SkR.admits ex t fi
theorem Sk_callProgress (cb : CbMode) (path : Bytes) (n total : Nat) : Sk (callProgress cb path n total) :=
  Pres_callProgress SkR.wrel cb path n total
theorem Sk_devStat (p : Bytes) (tt rt : Timeout) : Sk (devStat p tt rt) := Pres_devStat SkR.wrel SkR.admits SkR.alloc p tt rt
theorem Sk_listLoop (t : Txn) : ∀ fuel fi acc, Sk (listLoop t fuel fi acc) := Pres_listLoop SkR.wrel SkR.admits t

end Adb.SR
