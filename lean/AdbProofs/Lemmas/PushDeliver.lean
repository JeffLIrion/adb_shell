import AdbProofs.Lemmas.PushSpecs
/-
  What the read side hands to its caller: `_AdbIOManager.read` returns exactly the one packet it
  records as delivered, and its command is an expected one.  Used for the receive-buffer half of
  the flush law of C07 (device WRTEs that arrive before the OKAY are kept, in order).
-/
namespace Adb.Push
open Adb

/-- anything but a `deliver` -/
def QNoDeliv : TEv → Prop
  | .deliver _ => False
  | _ => True

theorem QNoDeliv.house : House QNoDeliv := by
  intro e h; cases e <;> first | trivial | exact Bool.noConfusion h
theorem QNoDeliv.txAll : TxAll QNoDeliv := fun _ => trivial
theorem QNoDeliv.delivered {evs : List TEv} (h : ∀ e ∈ evs, QNoDeliv e) : delivered evs = [] :=
  delivered_eq_nil fun _ hm => h _ hm

theorem ite_jp {β} (c : Prop) [Decidable c] (x : M Unit) (k : Unit → M β) :
    (if c then x >>= k else k ()) = ((if c then x else pure ()) >>= k) := by
  split <;> rfl

/-- a normal return `a` of `x` comes with the delivery of exactly the packet `g a` (if there is one), an expected one -/
def Hands (ex : List Cmd) {α : Type} (g : α → Option Pkt) (x : M α) : Prop :=
  ∀ ⦃w w' : World⦄ ⦃a : α⦄, x w = (.ok a, w') →
    ∃ evs, w'.trace = evs ++ w.trace ∧ delivered evs = (g a).toList ∧ ∀ p, g a = some p → ex.contains p.cmd = true

section Hands
variable {ex : List Cmd} {α β : Type} {g : α → Option Pkt}

theorem Hands.nothing {a : α} (ha : g a = none) : Hands ex g (pure a) := by
  intro w w' a' h
  cases h
  exact ⟨[], rfl, by rw [ha]; rfl, by simp [ha]⟩

theorem Hands.throw (e : Err) : Hands ex g (M.throw e) := by
  intro w w' a h
  cases h

theorem Hands.deliver {p : Pkt} {a : α} (hg : g a = some p) (hc : ex.contains p.cmd = true) :
    Hands ex g (do emit (.deliver p); pure a) := by
  intro w w' a' h
  cases h
  refine ⟨[.deliver p], rfl, by rw [hg]; rfl, fun q hq => ?_⟩
  rw [hg, Option.some.injEq] at hq
  exact hq ▸ hc

/-- a step that delivers nothing in front -/
theorem Hands.quiet_bind {x : M β} {f : β → M α} (hx : Tr QNoDeliv x) (hf : ∀ b, Hands ex g (f b)) :
    Hands ex g (x >>= f) := by
  intro w w' a h
  obtain ⟨b, w1, h1, h2⟩ := bind_ok_inv h
  obtain ⟨e1, he1, hq⟩ := hx.step h1
  obtain ⟨e2, he2, hd, hc⟩ := hf b h2
  refine ⟨e2 ++ e1, by rw [he2, he1, List.append_assoc], ?_, hc⟩
  rw [delivered_append, QNoDeliv.delivered hq, hd]
  rfl

/-- a reading step in front: a packet it returns is handed on as the result, otherwise `f none` goes on reading -/
theorem Hands.bind {x : M (Option Pkt)} {f : Option Pkt → M α} (hx : Hands ex id x)
    (hs : ∀ p, ∃ a, f (some p) = pure a ∧ g a = some p) (hn : Hands ex g (f none)) : Hands ex g (x >>= f) := by
  intro w w' a h
  obtain ⟨o, w1, h1, h2⟩ := bind_ok_inv h
  obtain ⟨e1, he1, hd1, hc1⟩ := hx h1
  cases o with
  | some p =>
    obtain ⟨a', hfa, hga⟩ := hs p
    rw [hfa] at h2
    cases h2
    rw [hga]
    exact ⟨e1, he1, hd1, hc1⟩
  | none =>
    obtain ⟨e2, he2, hd2, hc2⟩ := hn h2
    refine ⟨e2 ++ e1, by rw [he2, he1, List.append_assoc], ?_, hc2⟩
    rw [delivered_append, hd1, hd2]
    rfl

theorem Hands.withLock (l : Nat) {body : M α} (hb : Hands ex g body) : Hands ex g (withLock l body) := by
  intro w w' a h
  obtain ⟨-, w1, h1, rfl⟩ := withLock_ok_inv h
  obtain ⟨evs, he, hd⟩ := hb h1
  exact ⟨evs, he, hd⟩

theorem Hands.get_bind {f : World → M α} (hf : ∀ w, Hands ex g (f w)) : Hands ex g (M.get >>= f) :=
  fun w _ _ h => hf w h

end Hands

theorem drainLoop_ok {ex : List Cmd} {t : Txn} {az : Bool} (fuel : Nat) : Hands ex id (drainLoop ex t az fuel) := by
  induction fuel with
  | zero => exact Hands.throw _
  | succ f ih =>
    unfold drainLoop
    refine Hands.quiet_bind (Tr_storeFind t az) fun o => ?_
    cases o with
    | none => exact Hands.nothing rfl
    | some k =>
      refine Hands.quiet_bind (Tr_storeGet k) fun p => ?_
      split
      · next hc => exact Hands.deliver rfl hc
      · exact Hands.quiet_bind (Tr_emit trivial) fun _ => ih

theorem readIterRest_ok {ex : List Cmd} {t : Txn} {az : Bool} {p : Pkt} : Hands ex id (readIterRest ex t az p) := by
  unfold readIterRest
  split
  · exact Hands.quiet_bind (Tr_withLock _ (Tr_storePut QNoDeliv.house p)) fun _ => Hands.nothing rfl
  · dsimp only
    rw [ite_jp]
    refine Hands.quiet_bind (Tr_ite (Tr_withLock _ (Tr_storeClear _ _)) (Tr_pure ())) fun _ => ?_
    split
    · next hc => exact Hands.deliver rfl hc
    · exact Hands.quiet_bind (Tr_emit trivial) fun _ => Hands.nothing rfl

theorem readIter_ok {ex : List Cmd} {t : Txn} {az : Bool} : Hands ex id (readIter ex t az) := by
  rw [readIter_eq_body]
  refine Hands.withLock _ (Hands.get_bind fun w => ?_)
  exact Hands.bind ((drainLoop_ok _).withLock _) (fun p => ⟨_, rfl, rfl⟩)
    (Hands.quiet_bind (Tr_readPacket QNoDeliv.house t) fun _ => readIterRest_ok)

theorem readLoop_ok {ex : List Cmd} {t : Txn} {az : Bool} {start : Int} (fuel : Nat) :
    Hands ex some (readLoop ex t az start fuel) := by
  induction fuel with
  | zero => exact Hands.throw _
  | succ f ih =>
    unfold readLoop
    refine Hands.bind readIter_ok (fun p => ⟨_, rfl, rfl⟩) (Hands.quiet_bind (Tr_elapsedGt _ _) fun b => ?_)
    split
    · exact Hands.quiet_bind (Tr_throw _) fun _ => ih
    · exact ih

/-- `_AdbIOManager.read` returns exactly the packet it records as delivered, and its command was expected -/
theorem ioRead_ok {ex : List Cmd} {t : Txn} {az : Bool} : Hands ex some (ioRead ex t az) := by
  unfold ioRead
  refine Hands.get_bind fun w => ?_
  exact Hands.bind ((drainLoop_ok _).withLock _) (fun p => ⟨_, rfl, rfl⟩) (Hands.quiet_bind Tr_now fun _ => readLoop_ok _)

/-- `_read_until`: the returned `(cmd, data)` are those of the one packet delivered (an expected one) -/
theorem readUntil_ok {ex : List Cmd} {t : Txn} {w w' : World} {c : Cmd} {d : Bytes}
    (h : readUntil ex t w = (.ok (c, d), w')) :
    ∃ evs p, w'.trace = evs ++ w.trace ∧ delivered evs = [p] ∧ p.cmd = c ∧ p.data = d ∧ ex.contains c = true := by
  unfold readUntil at h
  obtain ⟨p, w1, h1, h2⟩ := bind_ok_inv h
  obtain ⟨e1, he1, hd1, hx1⟩ := ioRead_ok h1
  dsimp only at h2
  rw [ite_jp] at h2
  obtain ⟨u, w2, h3, h4⟩ := bind_ok_inv h2
  simp only [pure_run, Prod.mk.injEq, Except.ok.injEq] at h4
  obtain ⟨⟨rfl, rfl⟩, rfl⟩ := h4
  obtain ⟨e2, he2, hq2⟩ := (Tr_ite (c := p.cmd = Cmd.WRTE) (Tr_okay (Q := QNoDeliv) (fun m _ => QNoDeliv.txAll m) t) (Tr_pure ())).step h3
  refine ⟨e2 ++ e1, p, by rw [he2, he1, List.append_assoc], ?_, rfl, rfl, hx1 p rfl⟩
  rw [delivered_append, hd1, QNoDeliv.delivered hq2]
  rfl

/-- the flush loop appends to the receive buffer exactly the payloads of the WRTE packets it was handed -/
theorem fsFlushLoop_recv {t : Txn} : ∀ {fuel : Nat} {fi fi' : FsInfo} {w w' : World},
    fsFlushLoop t fuel fi w = (.ok fi', w') →
    ∃ evs, w'.trace = evs ++ w.trace ∧ fi'.recvBuf = fi.recvBuf ++ deliveredWrteData evs := by
  intro fuel
  induction fuel with
  | zero => intro fi fi' w w' h; simp [fsFlushLoop] at h
  | succ f ih =>
    intro fi fi' w w' h
    unfold fsFlushLoop at h
    obtain ⟨⟨cmd, data⟩, w1, h1, h2⟩ := bind_ok_inv h
    obtain ⟨e1, p, he1, hd1, rfl, rfl, hx⟩ := readUntil_ok h1
    dsimp only at h2
    split at h2
    · next hc =>
      simp only [pure_run, Prod.mk.injEq, Except.ok.injEq] at h2
      obtain ⟨rfl, rfl⟩ := h2
      refine ⟨e1, he1, ?_⟩
      simp [deliveredWrteData, hd1, hc]
    · next hc =>
      obtain ⟨e2, he2, hr2⟩ := ih h2
      refine ⟨e2 ++ e1, by rw [he2, he1, List.append_assoc], ?_⟩
      have hw : p.cmd = Cmd.WRTE := (mem_pair.1 (List.contains_iff_mem.1 hx)).resolve_left hc
      rw [hr2, deliveredWrteData_append]
      simp [deliveredWrteData, hd1, hw, List.append_assoc]


/-- `_filesync_flush`: the receive buffer grows by exactly the device's WRTE payloads read while waiting for OKAY -/
theorem fsFlush_recv {t : Txn} {fi fi' : FsInfo} {w w' : World} {evs : List TEv}
    (h : fsFlush t fi w = (.ok fi', w')) (hev : w'.trace = evs ++ w.trace) :
    fi'.recvBuf = fi.recvBuf ++ deliveredWrteData evs := by
  unfold fsFlush at h
  obtain ⟨u, w1, h1, h2⟩ := bind_ok_inv h
  have ht1 := ioSend_ok_trace h1
  rw [get_bind_run] at h2
  obtain ⟨e2, he2, hr⟩ := fsFlushLoop_recv h2
  have hevs : evs = e2 ++ [TEv.tx ⟨.WRTE, t.localId.getD 0, t.remoteId.getD 0, fi.sendBuf⟩] :=
    evs_split (e1 := [_]) ht1 he2 hev
  subst hevs
  rw [hr, deliveredWrteData_append]
  simp [deliveredWrteData]

end Adb.Push
