import AdbModel
/- Python-dict-like association lists: lookup/set/delete algebra. -/
namespace Adb

variable {β : Type}

@[simp] theorem alookup_nil (k : Nat) : alookup k ([] : List (Nat × β)) = none := rfl

@[simp] theorem alookup_aset_self (k : Nat) (v : β) (l : List (Nat × β)) :
    alookup k (aset k v l) = some v := by
  induction l with
  | nil => simp [aset, alookup]
  | cons p rest ih =>
    obtain ⟨k', v'⟩ := p
    by_cases h : k' = k <;> simp [aset, alookup, h, ih]

theorem alookup_aset_ne {k k' : Nat} (h : k ≠ k') (v : β) (l : List (Nat × β)) :
    alookup k' (aset k v l) = alookup k' l := by
  induction l with
  | nil => simp [aset, alookup, h]
  | cons p rest ih =>
    obtain ⟨k'', v''⟩ := p
    by_cases h1 : k'' = k
    · subst h1; simp [aset, alookup, h]
    · by_cases h2 : k'' = k'
      · subst h2; simp [aset, alookup, h1]
      · simp [aset, alookup, h1, h2, ih]

theorem alookup_adel_ne {k k' : Nat} (h : k ≠ k') (l : List (Nat × β)) :
    alookup k' (adel k l) = alookup k' l := by
  induction l with
  | nil => simp [adel]
  | cons p rest ih =>
    obtain ⟨k'', v''⟩ := p
    by_cases h1 : k'' = k
    · subst h1; simp [adel, alookup, h]
    · by_cases h2 : k'' = k'
      · subst h2; simp [adel, alookup, h1]
      · simp [adel, alookup, h1, h2, ih]

theorem alookup_none_of_not_mem {k : Nat} {l : List (Nat × β)} (h : k ∉ akeys l) : alookup k l = none := by
  induction l with
  | nil => rfl
  | cons p rest ih =>
    obtain ⟨k', v'⟩ := p
    simp [akeys] at h
    simp [alookup, Ne.symm h.1]
    exact ih (by simpa [akeys] using h.2)

theorem alookup_some_mem {k : Nat} {v : β} {l : List (Nat × β)} (h : alookup k l = some v) : (k, v) ∈ l := by
  induction l with
  | nil => simp at h
  | cons p rest ih =>
    obtain ⟨k', v'⟩ := p
    by_cases h1 : k' = k
    · simp [alookup, h1] at h; simp [h1, h]
    · simp [alookup, h1] at h; simp [ih h]

theorem mem_akeys_of_alookup {k : Nat} {v : β} {l : List (Nat × β)} (h : alookup k l = some v) : k ∈ akeys l := by
  have := alookup_some_mem h
  simp only [akeys, List.mem_map]
  exact ⟨(k, v), this, rfl⟩

theorem alookup_isSome_of_mem {k : Nat} {l : List (Nat × β)} (h : k ∈ akeys l) : ∃ v, alookup k l = some v := by
  induction l with
  | nil => simp [akeys] at h
  | cons p rest ih =>
    obtain ⟨k', v'⟩ := p
    by_cases h1 : k' = k
    · exact ⟨v', by simp [alookup, h1]⟩
    · simp [akeys] at h
      rcases h with h | h
      · exact absurd h.symm h1
      · obtain ⟨v, hv⟩ := ih (by simpa [akeys] using h)
        exact ⟨v, by simp [alookup, h1, hv]⟩

theorem adel_sublist (k : Nat) (l : List (Nat × β)) : (adel k l).Sublist l := by
  induction l with
  | nil => exact .slnil
  | cons p rest ih =>
    rw [adel]
    split
    · exact List.sublist_cons_self _ _
    · exact ih.cons_cons _

theorem nodup_adel {k : Nat} {l : List (Nat × β)} (h : (akeys l).Nodup) : (akeys (adel k l)).Nodup :=
  h.sublist ((adel_sublist k l).map _)

/-- `d[k] = v` keeps the keys, or appends `k` when it is new -/
theorem akeys_aset (k : Nat) (v : β) (l : List (Nat × β)) :
    akeys (aset k v l) = if k ∈ akeys l then akeys l else akeys l ++ [k] := by
  induction l with
  | nil => rfl
  | cons p rest ih =>
    obtain ⟨k', v'⟩ := p
    rw [aset]
    by_cases h1 : k' = k
    · rw [if_pos h1, if_pos (by rw [h1]; exact List.mem_cons_self ..)]; rfl
    · rw [if_neg h1]
      show k' :: akeys (aset k v rest) = if k ∈ k' :: akeys rest then _ else _
      rw [ih]
      by_cases hk : k ∈ akeys rest
      · rw [if_pos hk, if_pos (List.mem_cons_of_mem _ hk)]; rfl
      · rw [if_neg hk, if_neg fun h => (List.mem_cons.1 h).elim (fun e => h1 e.symm) hk]; rfl

theorem akeys_aset_mem (k : Nat) (v : β) (l : List (Nat × β)) : ∀ x, x ∈ akeys (aset k v l) ↔ x = k ∨ x ∈ akeys l := by
  intro x
  rw [akeys_aset]
  split
  · exact ⟨Or.inr, fun h => h.elim (fun e => e ▸ ‹_›) id⟩
  · rw [List.mem_append, List.mem_singleton, or_comm]

theorem nodup_aset {k : Nat} {v : β} {l : List (Nat × β)} (h : (akeys l).Nodup) : (akeys (aset k v l)).Nodup := by
  rw [akeys_aset]
  split
  · exact h
  · rename_i hk
    exact List.nodup_append.2 ⟨h, List.nodup_cons.2 ⟨List.not_mem_nil, List.nodup_nil⟩, fun a ha b hb => by
      rw [List.mem_singleton.1 hb]; exact fun e => hk (e ▸ ha)⟩

theorem alookup_adel_self {k : Nat} {l : List (Nat × β)} (h : (akeys l).Nodup) : alookup k (adel k l) = none := by
  induction l with
  | nil => simp [adel]
  | cons p rest ih =>
    obtain ⟨k', v'⟩ := p
    simp [akeys] at h
    by_cases h1 : k' = k
    · subst h1
      simp only [adel, if_true]
      exact alookup_none_of_not_mem (by simpa [akeys] using h.1)
    · simp [adel, alookup, h1]
      exact ih (by simpa [akeys] using h.2)

theorem adel_isEmpty_iff {k : Nat} {l : List (Nat × β)} (hn : (akeys l).Nodup) (hk : k ∈ akeys l) :
    (adel k l).isEmpty = true ↔ akeys l = [k] := by
  induction l with
  | nil => simp [akeys] at hk
  | cons p rest ih =>
    obtain ⟨k', v'⟩ := p
    by_cases h1 : k' = k
    · subst h1
      simp [adel, akeys]
    · simp [adel, h1, akeys]

end Adb
