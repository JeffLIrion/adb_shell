import AdbProofs.Lemmas.NextId
/-
  "The stream-id counter is left alone": `IdEq x` says that running `x` in any world, whatever the
  outcome, ends in a world with the same `localId`: `Pres` (Pres.lean) at the relation `IdEqR`.
  Everything except `openStream` (`_open`) has this property.
-/
namespace Adb

def IdEq {α : Type} (x : M α) : Prop := ∀ w, (x w).2.localId = w.localId

def IdEqR (w w' : World) : Prop := w'.localId = w.localId

theorem IdEqR.wrel : WRel IdEqR where
  refl _ := rfl
  trans h1 h2 := Eq.trans h2 h1
  lock _ h := h
  transport _ _ _ _ _ := rfl
  store _ _ := rfl
  event _ _ _ := rfl

theorem IdEqR.admits (e : TEv) : Admits IdEqR e := fun _ => rfl

theorem IdEq.of {α} {x : M α} (h : IdEq x) {w w' : World} {r : Except Err α} (hx : x w = (r, w')) : w'.localId = w.localId :=
  Pres.run (R := IdEqR) h hx

theorem IdEq_pure {α} (a : α) : IdEq (pure a : M α) := fun _ => rfl
theorem IdEq_Mpure {α} (a : α) : IdEq (M.pure a : M α) := fun _ => rfl
theorem IdEq_get : IdEq M.get := fun _ => rfl
theorem IdEq_bind {α β} {x : M α} {f : α → M β} (hx : IdEq x) (hf : ∀ a, IdEq (f a)) : IdEq (x >>= f) :=
  Pres.bind IdEqR.wrel hx hf
theorem IdEq_tryFinally {α} {x : M α} {fin : M Unit} (hx : IdEq x) (hf : IdEq fin) : IdEq (M.tryFinally x fin) :=
  Pres.tryFinally IdEqR.wrel hx hf
theorem IdEq_of_QuietM {α} {x : M α} (h : QuietM x) : IdEq x := fun w => (h w).1
theorem IdEq_modify {f : World → World} (hf : ∀ w, (f w).localId = w.localId) : IdEq (M.modify f) := hf

theorem IdEq_clse (t : Txn) : IdEq (clse t) :=
  Pres_clse IdEqR.wrel IdEqR.admits t
theorem IdEq_readUntilClose (t : Txn) : IdEq (readUntilClose t) :=
  Pres_readUntilClose IdEqR.wrel IdEqR.admits t
theorem IdEq_fsSend (id : SyncId) (t : Txn) (fi : FsInfo) (data : Bytes) (size : Option Nat) : IdEq (fsSend id t fi data size) :=
  Pres_fsSend IdEqR.wrel IdEqR.admits id t fi data size
theorem IdEq_fsRead (ex : List SyncId) (t : Txn) (fi : FsInfo) : IdEq (fsRead ex t fi) :=
  Pres_fsRead IdEqR.wrel IdEqR.admits ex t fi
theorem IdEq_lookupFile (id : Nat) : IdEq (lookupFile id) :=
  Pres_lookupFile IdEqR.wrel id
theorem IdEq_pushOne (content devPath : Bytes) (mode mtime : Nat) (cb : CbMode) (t : Txn) (fi : FsInfo) : IdEq (pushOne content devPath mode mtime cb t fi) :=
  Pres_pushOne IdEqR.wrel IdEqR.admits content devPath mode mtime cb t fi
theorem IdEq_runGuards : ∀ gs p, IdEq (runGuards gs p) :=
  Pres_runGuards IdEqR.wrel
theorem IdEq_listLoop (t : Txn) : ∀ fuel fi acc, IdEq (listLoop t fuel fi acc) :=
  Pres_listLoop IdEqR.wrel IdEqR.admits t
end Adb
