import AdbProofs.Lemmas.TimeLemmas
import AdbProofs.Lemmas.Deliver
/-
  The TIME FRAME: the per-wait bounds of TimeLemmas.lean lifted to whole operations, compositionally.

  Accounting.  `P.W = R + 2 * (R + max D τ)` bounds one wait of `_AdbIOManager.read`, `P.S = R + max D τ`
  bounds one byte-level write wait (`_write_all`); a message with a payload needs two of them.
  Every successful wait delivers exactly one packet to the operation (a `TEv.deliver` event) and every
  `_send` is one `TEv.tx` event, so the "justified time" of a world is a POTENTIAL read off its trace:
      `w.tcost P = (#deliver events) * W + (#write waits of the tx events) * S`.
  The frame `TFat P X w r w'` says: the trace only grew, and if `w` is idle (`TPre`: conforming transport,
  no lock held) and the loop budget exceeds `parked + (growth of the potential) + X + R`, then the result is
  not `hang`, `w'` is idle again, the budget is untouched, and
      `w'.now - w.now ≤ w'.tcost - w.tcost + (0 if the result is normal, X otherwise)`
  (`X` = allowance for the failing wait(s): `W` for one operation, `2 * W` for `pull`, whose clean-up handshake
  may wait once more).  `TF P X x` is "`TFat` for every run of `x`"; it composes over `>>=`, `tryFinally`,
  `if`, `match`.
-/
namespace Adb

/-- numeric non-negative effective timeouts `R` (read), `τ` (transport), the call-cost bound `D`, and the device
    object's default transport timeout (an invariant of every operation but the constructor) -/
structure TP where
  R : Int
  τ : Int
  D : Int
  dtt : Timeout      -- the device object's default transport timeout
  files : List (Nat × Bytes) := []   -- the local files (`World.files`), an invariant of every operation
  F : Nat := 0       -- static part of the loop budget: exceeds the length of every local file that `push` reads
  hR : 0 ≤ R
  hτ : 0 ≤ τ
  hD : 1 ≤ D

/-- bound of one byte-level wait (`_write_all`, `_read_bytes_from_device`) -/
def TP.S (P : TP) : Int := P.R + max P.D P.τ
/-- bound of one wait of `_AdbIOManager.read` / `_read_expected_packet_from_device` -/
def TP.W (P : TP) : Int := P.R + 2 * (P.R + max P.D P.τ)

theorem TP.S_pos (P : TP) : 1 ≤ P.S := by have := P.hR; have := P.hD; unfold TP.S; omega
theorem TP.W_eq (P : TP) : P.W = P.R + 2 * P.S := rfl
theorem TP.W_pos (P : TP) : 2 ≤ P.W := by have := P.S_pos; have := P.hR; rw [P.W_eq]; omega

/-! ### potentials read off the trace -/

/-- write waits of one `_send`: the header, and the payload when there is one -/
def msgWaits (m : Msg) : Nat := if m.data.isEmpty then 1 else 2

/-- packets delivered so far -/
def rxCount (tr : List TEv) : Nat := (delivered tr).length
/-- write waits of the messages handed to `_send` so far -/
def txCount (tr : List TEv) : Nat := ((transmitted tr).map msgWaits).sum
/-- payload bytes delivered so far -/
def rxBytes (tr : List TEv) : Nat := ((delivered tr).map (fun p => p.data.length)).sum

theorem rxCount_append (a b : List TEv) : rxCount (a ++ b) = rxCount b + rxCount a := by
  simp [rxCount, delivered_append]
theorem txCount_append (a b : List TEv) : txCount (a ++ b) = txCount b + txCount a := by
  simp [txCount, transmitted_append]
theorem rxBytes_append (a b : List TEv) : rxBytes (a ++ b) = rxBytes b + rxBytes a := by
  simp [rxBytes, delivered_append]

/-- a message costs at most two write waits -/
theorem txCount_le (tr : List TEv) : txCount tr ≤ 2 * (transmitted tr).length := by
  unfold txCount
  generalize transmitted tr = L
  induction L with
  | nil => simp
  | cons m L ih =>
    simp only [List.map_cons, List.sum_cons, List.length_cons]
    have : msgWaits m ≤ 2 := by unfold msgWaits; split <;> omega
    omega

/-- the time justified by the deliveries and transmissions recorded in the trace -/
def World.tcost (P : TP) (w : World) : Int := (rxCount w.trace : Int) * P.W + (txCount w.trace : Int) * P.S

/-- loop-budget potential: justified time plus delivered payload bytes (the FileSync record loops run once
    per buffered record, i.e. at most once per 8 delivered bytes, without any transport activity) -/
def World.tneed (P : TP) (w : World) : Int := w.tcost P + (rxBytes w.trace : Int)

/-- the trace only grew -/
def Ext (w w' : World) : Prop := ∃ evs, w'.trace = evs ++ w.trace

theorem Ext.refl (w : World) : Ext w w := ⟨[], rfl⟩
theorem Ext.trans {a b c : World} (h1 : Ext a b) (h2 : Ext b c) : Ext a c := by
  obtain ⟨e1, h1⟩ := h1; obtain ⟨e2, h2⟩ := h2
  exact ⟨e2 ++ e1, by simp [h2, h1]⟩
theorem Frame.ext {w w' : World} (h : Frame w w') : Ext w w' := h.trace
theorem Fr.ext {α} {x : M α} (hx : Fr x) {w w' : World} {r : Except Err α} (h : x w = (r, w')) : Ext w w' :=
  (Pres.run (R := Frame) hx h).trace
theorem Adds.ext {w w' : World} {X Y} (h : Adds w w' X Y) : Ext w w' := by
  obtain ⟨evs, h, _⟩ := h; exact ⟨evs, h⟩

theorem Ext.counts_le {w w' : World} (h : Ext w w') :
    rxCount w.trace ≤ rxCount w'.trace ∧ txCount w.trace ≤ txCount w'.trace ∧ rxBytes w.trace ≤ rxBytes w'.trace := by
  obtain ⟨evs, h⟩ := h
  rw [h, rxCount_append, txCount_append, rxBytes_append]
  omega

theorem Ext.mono (P : TP) {w w' : World} (h : Ext w w') : w.tcost P ≤ w'.tcost P ∧ w.tneed P ≤ w'.tneed P := by
  obtain ⟨h1, h2, h3⟩ := h.counts_le
  have hW : 0 ≤ P.W := by have := P.W_pos; omega
  have hS : 0 ≤ P.S := by have := P.S_pos; omega
  have h4 : (rxCount w.trace : Int) * P.W ≤ (rxCount w'.trace : Int) * P.W :=
    Int.mul_le_mul_of_nonneg_right (by exact_mod_cast h1) hW
  have h5 : (txCount w.trace : Int) * P.S ≤ (txCount w'.trace : Int) * P.S :=
    Int.mul_le_mul_of_nonneg_right (by exact_mod_cast h2) hS
  unfold World.tneed World.tcost
  omega

theorem Adds.counts {w w' : World} {X : List Xfer} {Y : List Bytes} (h : Adds w w' X Y) :
    rxCount w'.trace = rxCount w.trace + (rxs X).length ∧
    txCount w'.trace = txCount w.trace + ((txs X).map msgWaits).sum ∧
    rxBytes w'.trace = rxBytes w.trace + ((rxs X).map (fun p => p.data.length)).sum := by
  obtain ⟨evs, htr, hd, ht, _, _⟩ := h.dt
  rw [htr, rxCount_append, txCount_append, rxBytes_append]
  simp [rxCount, txCount, rxBytes, hd, ht]

theorem Adds.pot (P : TP) {w w' : World} {X : List Xfer} {Y : List Bytes} (h : Adds w w' X Y) :
    w'.tcost P = w.tcost P + ((rxs X).length : Int) * P.W + ((((txs X).map msgWaits).sum : Nat) : Int) * P.S := by
  obtain ⟨h1, h2, _⟩ := h.counts
  unfold World.tcost
  rw [h1, h2]
  simp only [Int.natCast_add, Int.add_mul]
  omega

/-! ### the frame -/

/-- idle device object on a conforming transport -/
structure TPre (P : TP) (w : World) : Prop where
  cost : w.CallCost P.D
  locks : w.locks = []
  dtt : w.defaultTT = P.dtt
  files : w.files = P.files

def okB {α : Type} : Except Err α → Bool
  | .ok _ => true
  | .error _ => false

def isHang {α : Type} : Except Err α → Bool
  | .error .hang => true
  | _ => false

@[simp] theorem okB_ok {α} (a : α) : okB (.ok a : Except Err α) = true := rfl
@[simp] theorem okB_error {α} (e : Err) : okB (.error e : Except Err α) = false := rfl
@[simp] theorem isHang_ok {α} (a : α) : isHang (.ok a : Except Err α) = false := rfl
theorem isHang_error {α} (e : Err) : isHang (.error e : Except Err α) = decide (e = .hang) := by
  cases e <;> rfl
theorem isHang_false_iff {α} {r : Except Err α} : isHang r = false ↔ r ≠ .error .hang := by
  cases r with
  | ok a => simp
  | error e => cases e <;> simp [isHang]

/-- the loop budget exceeds: parked packets + growth of the budget potential + allowance `X` + read timeout
    + the static part `F` -/
def Budget (P : TP) (X : Int) (w w' : World) : Prop :=
  (parkedCount w.store : Int) + (w'.tneed P - w.tneed P) + X + P.R + P.F < w.fuel

structure TPost (P : TP) (X : Int) (w : World) (ok : Bool) (w' : World) : Prop where
  pre : TPre P w'
  fuel : w'.fuel = w.fuel
  mono : w.now ≤ w'.now
  park : (parkedCount w'.store : Int) - w'.now ≤ parkedCount w.store - w.now
  time : w'.now - w.now ≤ w'.tcost P - w.tcost P + (if ok then 0 else X)

/-- the time frame of one run `w ⟶ (r, w')` -/
def TFat {α : Type} (P : TP) (X : Int) (w : World) (r : Except Err α) (w' : World) : Prop :=
  Ext w w' ∧ (TPre P w → Budget P X w w' → isHang r = false ∧ TPost P X w (okB r) w')

/-- `x` respects the time frame in every world -/
def TF {α : Type} (P : TP) (X : Int) (x : M α) : Prop := ∀ w r w', x w = (r, w') → TFat P X w r w'

theorem TFat.ext {α} {P : TP} {X : Int} {w w' : World} {r : Except Err α} (h : TFat P X w r w') : Ext w w' := h.1

/-- the frame only looks at "normal / exception / hang" of the result -/
theorem TFat.congr {α β} {P : TP} {X : Int} {w w' : World} {r : Except Err α} {r' : Except Err β}
    (h : TFat P X w r w') (h1 : okB r' = okB r) (h2 : isHang r' = isHang r) : TFat P X w r' w' := by
  obtain ⟨e, h⟩ := h
  refine ⟨e, fun hp hb => ?_⟩
  rw [h1, h2]; exact h hp hb

theorem TFat.mono {α} {P : TP} {X Y : Int} {w w' : World} {r : Except Err α} (h : TFat P X w r w') (hXY : X ≤ Y) :
    TFat P Y w r w' := by
  obtain ⟨e, h⟩ := h
  refine ⟨e, fun hp hb => ?_⟩
  obtain ⟨h1, h2⟩ := h hp (by unfold Budget at hb ⊢; omega)
  refine ⟨h1, h2.pre, h2.fuel, h2.mono, h2.park, ?_⟩
  have := h2.time
  split <;> simp_all <;> omega

theorem TF.mono {α} {P : TP} {X Y : Int} {x : M α} (h : TF P X x) (hXY : X ≤ Y) : TF P Y x :=
  fun w r w' hx => (h w r w' hx).mono hXY

/-- sequential composition of two runs `w ⟶ w1 ⟶ w'`; `X1`, `X2` are the allowances of the parts, `X` of the
    whole.  The second part runs whatever the outcome of the first (as in `tryFinally`); for `>>=` the first
    part returned normally, so its allowance is not used and `X1 = X2 = X` will do. -/
theorem TFat.seq {α β γ} {P : TP} {X1 X2 X : Int} {w w1 w' : World}
    {r1 : Except Err α} {r2 : Except Err β} {r : Except Err γ}
    (h1 : TFat P X1 w r1 w1) (h2 : TFat P X2 w1 r2 w')
    (hX1 : X1 ≤ X) (hX : (if okB r1 then 0 else X1) + X2 ≤ X)
    (hfin : (if okB r1 then 0 else X1) + (if okB r2 then 0 else X2) ≤ (if okB r then 0 else X))
    (hh : isHang r1 = false → isHang r2 = false → isHang r = false) : TFat P X w r w' := by
  obtain ⟨e1, h1⟩ := h1
  obtain ⟨e2, h2⟩ := h2
  refine ⟨e1.trans e2, fun hp hb => ?_⟩
  obtain ⟨-, -, hby⟩ := e1.counts_le
  obtain ⟨-, m2n⟩ := e2.mono P
  unfold Budget at hb
  obtain ⟨a1, a2⟩ := h1 hp (by unfold Budget; omega)
  have t1 := a2.time
  have p1 := a2.park
  have f1 := a2.fuel
  -- the allowances enter linearly: no case distinction on the outcomes is needed
  generalize (if okB r1 = true then (0 : Int) else X1) = A1 at hX hfin t1
  obtain ⟨b1, b2⟩ := h2 a2.pre (by unfold Budget World.tneed at *; omega)
  have t2 := b2.time
  generalize (if okB r2 = true then (0 : Int) else X2) = A2 at hfin t2
  refine ⟨hh a1 b1, b2.pre, b2.fuel.trans f1, by have := a2.mono; have := b2.mono; omega,
    by have := b2.park; omega, ?_⟩
  generalize (if okB r = true then (0 : Int) else X) = A at hfin ⊢
  omega

theorem TFat.bind {α β} {P : TP} {X : Int} {w w1 w' : World} {a : α} {r : Except Err β}
    (h1 : TFat P X w (.ok a) w1) (h2 : TFat P X w1 r w') : TFat P X w r w' :=
  TFat.seq h1 h2 (Int.le_refl _) (by simp) (by simp) (fun _ h => h)

/-! ### combinators -/

/-- the time frame of every run of `x` that satisfies the side condition `C` -/
def TFc {α : Type} (C : World → World → Prop) (P : TP) (X : Int) (x : M α) : Prop :=
  ∀ w r w', x w = (r, w') →
    Ext w w' ∧ (C w w' → TPre P w → Budget P X w w' → isHang r = false ∧ TPost P X w (okB r) w')

theorem TF.tfc {α} {C : World → World → Prop} {P : TP} {X : Int} {x : M α} (h : TF P X x) : TFc C P X x :=
  fun w r w' hx => ⟨(h w r w' hx).1, fun _ => (h w r w' hx).2⟩

theorem TFc.tf {α} {C : World → World → Prop} {P : TP} {X : Int} {x : M α} (h : TFc C P X x)
    (hC : ∀ w w', Ext w w' → TPre P w → Budget P X w w' → C w w') : TF P X x :=
  fun w r w' hx => ⟨(h w r w' hx).1, fun hp hb => (h w r w' hx).2 (hC w w' (h w r w' hx).1 hp hb) hp hb⟩

theorem TFc_bind {α β} {P : TP} {X : Int} {C : World → World → Prop} {C' : α → World → World → Prop}
    {x : M α} {f : α → M β} (hx : TF P X x)
    (hC : ∀ w a w1 w', TPre P w → x w = (.ok a, w1) → Ext w1 w' → C w w' → C' a w1 w')
    (hf : ∀ a, TFc (C' a) P X (f a)) : TFc C P X (x >>= f) := by
  intro w r w' h
  rcases bind_any_inv h with ⟨e, he, rfl⟩ | ⟨a, w1, hxa, hfa⟩
  · have := (hx w _ w' he).congr (r' := (Except.error e : Except Err β)) rfl (by rw [isHang_error, isHang_error])
    exact ⟨this.1, fun _ => this.2⟩
  · have h1 := hx w _ w1 hxa
    obtain ⟨e2, h2⟩ := hf a w1 r w' hfa
    refine ⟨h1.ext.trans e2, fun hc hp hb => ?_⟩
    have c' := hC w a w1 w' hp hxa e2 hc
    exact (h1.bind ⟨e2, h2 c'⟩).2 hp hb

theorem TF_bind {α β} {P : TP} {X : Int} {x : M α} {f : α → M β} (hx : TF P X x) (hf : ∀ a, TF P X (f a)) :
    TF P X (x >>= f) :=
  (TFc_bind (C := fun _ _ => True) (C' := fun _ _ _ => True) hx (fun _ _ _ _ _ _ _ _ => trivial)
    fun a => (hf a).tfc).tf fun _ _ _ _ _ => trivial

theorem TF_ite {α} {P : TP} {X : Int} {c : Prop} [Decidable c] {a b : M α} (ha : TF P X a) (hb : TF P X b) :
    TF P X (if c then a else b) := by
  split <;> assumption

/-- `pull`'s clean-up discipline: the allowances add up (the clean-up may meet one more failing wait) -/
theorem TF_tryFinally {α} {P : TP} {X1 X2 : Int} (h1 : 0 ≤ X1) (h2 : 0 ≤ X2) {x : M α} {fin : M Unit}
    (hx : TF P X1 x) (hf : TF P X2 fin) : TF P (X1 + X2) (M.tryFinally x fin) := by
  intro w r w' h
  obtain ⟨rx, w1, rf, hxw, hfw, rfl⟩ := tryFinally_inv h
  have a := hx w rx w1 hxw
  have b := hf w1 rf w' hfw
  cases rx with
  | ok v =>
    cases rf with
    | ok u => exact TFat.seq a b (by omega) (by simp; omega) (by simp) (fun _ _ => rfl)
    | error e =>
      exact TFat.seq a b (by omega) (by simp; omega) (by simp; omega) (fun _ h => by rw [isHang_error] at h ⊢; exact h)
  | error e =>
    cases rf with
    | ok u =>
      exact TFat.seq a b (by omega) (by simp) (by simp; omega) (fun h _ => by rw [isHang_error] at h ⊢; exact h)
    | error e2 =>
      exact TFat.seq a b (by omega) (by simp) (by simp) (fun h _ => by rw [isHang_error] at h ⊢; exact h)

/-! ### quiet computations: no time, no transport, no store, no lock, no delivery / transmission, never `hang` -/

structure TQuiet0 (w : World) (hang : Bool) (w' : World) : Prop where
  now : w'.now = w.now
  cur : w'.cur = w.cur
  store : w'.store = w.store
  fuel : w'.fuel = w.fuel
  locks : w'.locks = w.locks
  dtt : w'.defaultTT = w.defaultTT
  files : w'.files = w.files
  avail : w'.available = w.available
  adds : ∃ Y, Adds w w' [] Y
  nohang : hang = false

def TQ {α : Type} (x : M α) : Prop := ∀ w, TQuiet0 w (isHang (x w).1) (x w).2

theorem TQ.at {α} {x : M α} (hx : TQ x) {w w' : World} {r : Except Err α} (h : x w = (r, w')) : TQuiet0 w (isHang r) w' := by
  have := hx w; rw [h] at this; exact this

theorem TQuiet0.tpre {P : TP} {w w' : World} {b : Bool} (q : TQuiet0 w b w') (hp : TPre P w) : TPre P w' :=
  ⟨hp.cost.of_cur_eq q.cur, by rw [q.locks, hp.locks], by rw [q.dtt, hp.dtt], by rw [q.files, hp.files]⟩

theorem TQuiet0.tfat {α} {P : TP} {X : Int} (hX : 0 ≤ X) {w w' : World} {r : Except Err α} (h : TQuiet0 w (isHang r) w') :
    TFat P X w r w' := by
  obtain ⟨Y, hadds⟩ := h.adds
  refine ⟨hadds.ext, fun hp _ => ⟨h.nohang, h.tpre hp, h.fuel, by rw [h.now]; omega,
    by rw [h.now, h.store]; omega, ?_⟩⟩
  have hc := hadds.pot P
  rw [hc, h.now]
  split <;> simp <;> omega

theorem TQ.tf {α} {P : TP} {X : Int} {x : M α} (hx : TQ x) (hX : 0 ≤ X) : TF P X x :=
  fun _ _ _ h => (hx.at h).tfat hX

theorem TQuiet0.trans {a b c : World} {h1 h2 h : Bool} (q1 : TQuiet0 a h1 b) (q2 : TQuiet0 b h2 c) (hh : h = false) :
    TQuiet0 a h c :=
  ⟨q2.now.trans q1.now, q2.cur.trans q1.cur, q2.store.trans q1.store, q2.fuel.trans q1.fuel, q2.locks.trans q1.locks, q2.dtt.trans q1.dtt, q2.files.trans q1.files, q2.avail.trans q1.avail,
    by obtain ⟨Y1, a1⟩ := q1.adds; obtain ⟨Y2, a2⟩ := q2.adds; exact ⟨_, by simpa using a1.trans a2⟩, hh⟩

theorem TQuiet0.of_eq {w w' : World} (h1 : w'.now = w.now) (h2 : w'.cur = w.cur) (h3 : w'.store = w.store)
    (h4 : w'.fuel = w.fuel) (h5 : w'.locks = w.locks) (h7 : w'.defaultTT = w.defaultTT) (h8 : w'.files = w.files)
    (h9 : w'.available = w.available) (h6 : w'.trace = w.trace) : TQuiet0 w false w' :=
  ⟨h1, h2, h3, h4, h5, h7, h8, h9, ⟨_, Adds.of_trace_eq h6⟩, rfl⟩

theorem TQuiet0.refl (w : World) {h : Bool} (hh : h = false) : TQuiet0 w h w :=
  ⟨rfl, rfl, rfl, rfl, rfl, rfl, rfl, rfl, ⟨_, Adds.rfl' w⟩, hh⟩

theorem TQ_pure {α} (a : α) : TQ (pure a : M α) := fun w => .refl w rfl
theorem TQ_Mpure {α} (a : α) : TQ (M.pure a : M α) := fun w => .refl w rfl
theorem TQ_throw {α} (e : Err) (he : e ≠ .hang) : TQ (M.throw e : M α) := fun w =>
  .refl w (isHang_false_iff.2 fun h => he (by cases h; rfl))
theorem TQ_get : TQ M.get := fun w => .refl w rfl
theorem TQ_now : TQ now := fun w => .refl w rfl
theorem TQ_liftExcept {α} (x : Except Err α) (hx : x ≠ .error .hang) : TQ (liftExcept x) := fun w =>
  .refl w (isHang_false_iff.2 hx)
theorem TQ_emit (e : TEv) (he : e.silent = true ∨ ∃ d, e = .yielded d) : TQ (emit e) := fun w => by
  refine ⟨rfl, rfl, rfl, rfl, rfl, rfl, rfl, rfl, ?_, rfl⟩
  rcases he with he | ⟨d, rfl⟩
  · exact ⟨_, Adds.silent he rfl⟩
  · exact ⟨_, Adds.yielded rfl⟩
theorem TQ_elapsedGt (s : Int) (l : Timeout) : TQ (elapsedGt s l) := fun w => by
  cases l <;> exact .refl w rfl

theorem TQ_bind {α β} {x : M α} {f : α → M β} (hx : TQ x) (hf : ∀ a, TQ (f a)) : TQ (x >>= f) := by
  intro w
  rcases h : (x >>= f) w with ⟨r, w'⟩
  rcases bind_any_inv h with ⟨e, he, rfl⟩ | ⟨a, w1, hxa, hfa⟩
  · have := hx.at he
    rw [isHang_error] at this ⊢
    exact this
  · exact (hx.at hxa).trans (hf a |>.at hfa) (hf a |>.at hfa).nohang

theorem TQ_ite {α} {c : Prop} [Decidable c] {a b : M α} (ha : TQ a) (hb : TQ b) : TQ (if c then a else b) := by
  split <;> assumption

theorem TQ_swallow {x : M Unit} (hx : TQ x) : TQ (M.swallow x) := by
  intro w
  unfold M.swallow
  rcases h : x w with ⟨r, w'⟩
  have q := hx.at h
  exact ⟨q.now, q.cur, q.store, q.fuel, q.locks, q.dtt, q.files, q.avail, q.adds, rfl⟩

theorem TQ_modify {f : World → World} (hf : ∀ w, TQuiet0 w false (f w)) : TQ (M.modify f) := fun w => hf w

theorem TQ_getTT (tt : Timeout) : TQ (getTT tt) := fun w => .refl w rfl

/-- closes `TQuiet0 w false w'` when `w'` is an explicit record update of `w` on untimed fields -/
macro "tquiet_rfl" : tactic => `(tactic| exact TQuiet0.of_eq rfl rfl rfl rfl rfl rfl rfl rfl rfl)

/-- a goal `TQ e` where `e` is one of the basic actions, or a hypothesis -/
macro "tq_leaf" : tactic => `(tactic| first
    | with_reducible exact TQ_pure _
    | with_reducible exact TQ_Mpure _
    | (with_reducible refine TQ_throw _ ?_); intro h; cases h
    | with_reducible exact TQ_get
    | with_reducible exact TQ_now
    | (with_reducible refine TQ_emit _ ?_); first | exact Or.inl rfl | exact Or.inr ⟨_, rfl⟩
    | with_reducible exact TQ_elapsedGt _ _
    | with_reducible exact TQ_getTT _
    | with_reducible assumption)

/-- `tq [lemmas]` proves `TQ e` by recursion on `e`: the combinator for its head symbol, or, when `e` is a single
    action, `tq_leaf` or one of the `lemmas`.  No step is undone, so the work is linear in the size of `e`. -/
syntax "tq" ("[" term,* "]")? : tactic
macro_rules
  | `(tactic| tq) => `(tactic| tq [])
  | `(tactic| tq [$ts,*]) => `(tactic| repeat' first
    | with_reducible refine TQ_bind ?_ (fun _ => ?_)
    | with_reducible refine TQ_ite ?_ ?_
    | tq_leaf
    $[| with_reducible apply $ts]*
    | with_reducible refine TQ_swallow ?_
    | (with_reducible refine TQ_modify (fun _ => ?_)); tquiet_rfl
    | split
    | dsimp only)

/-! ### the two transport leaves: `_AdbIOManager.send` and `_AdbIOManager.read` -/

theorem isHang_of_mem {α} {r : Except Err α} {L : List Err} (h : ∀ e, r = .error e → e ∈ L) (hL : Err.hang ∉ L) :
    isHang r = false := by
  rw [isHang_false_iff]
  intro hr; exact hL (h _ hr)

theorem hang_not_mem_sendErrs : Err.hang ∉ sendErrs := by simp [sendErrs]

theorem Budget.base {P : TP} {X : Int} {w w' : World} (hb : Budget P X w w') (he : Ext w w') (hX : 0 ≤ X) :
    (parkedCount w.store : Int) + P.R + P.F < w.fuel := by
  obtain ⟨_, hn⟩ := he.mono P
  unfold Budget at hb
  omega

/-- a `_send` is paid for by its own `tx` event: two write waits, one when there is no payload -/
theorem Adds.send_time {P : TP} {w w' : World} {m : Msg} {s : Int} (h : Adds w w' [.tx m] []) (hs : s ≤ P.S)
    (h2 : w'.now - w.now ≤ 2 * s) (h1 : m.data = [] → w'.now - w.now ≤ s) :
    w'.now - w.now ≤ w'.tcost P - w.tcost P := by
  have hc := h.pot P
  rw [hc]
  simp only [rxs_cons_tx, rxs_nil, List.length_nil, txs_cons_tx, txs_nil, List.map_cons, List.map_nil, List.sum_cons,
    List.sum_nil, msgWaits]
  by_cases hd : m.data = []
  · have := h1 hd
    simp [hd]; omega
  · have : m.data.isEmpty = false := by simpa using hd
    simp [this]; omega

structure TxnOf (P : TP) (t : Txn) : Prop where
  rt : t.rt = some P.R
  tt : t.tt = some P.τ

/-- the `tx` event pays for a `send` whether it succeeds or fails, so any allowance `X ≥ 0` will do -/
theorem TF_ioSend {P : TP} {X : Int} (m : Msg) (t : Txn) (ht : TxnOf P t) (hX : 0 ≤ X) :
    TF P X (ioSend m t) := by
  intro w r w' h
  have hfr := Fr_ioSend m t w
  rw [h] at hfr
  refine ⟨hfr.ext, fun hp hb => ?_⟩
  have hbase := hb.base hfr.ext hX
  have hlk : lockTransport ∉ w.locks := by simp [hp.locks]
  obtain ⟨a1, a2, a3, a4, a5, a6, a7, a8, a9⟩ :=
    ioSend_time h ht.rt ht.tt P.hR P.hτ hp.cost (by omega) hlk
  have := (ioSend_adds h hlk).send_time (P := P) (Int.le_refl _) a3 a4
  refine ⟨isHang_of_mem a5 hang_not_mem_sendErrs, ⟨a1, by rw [a9, hp.locks], by rw [hfr.defaultTT, hp.dtt], by rw [hfr.files, hp.files]⟩, a8, a2, by rw [a7]; omega, ?_⟩
  split <;> omega

theorem tcost_of_wait {P : TP} {w w' : World} {r : Except Err Pkt} (hok : ∀ p, r = .ok p → Adds w w' [.rx p] [])
    (herr : ∀ e, r = .error e → Adds w w' [] []) : w'.tcost P = w.tcost P + (if okB r then P.W else 0) := by
  cases r with
  | ok p => rw [(hok p rfl).pot P]; simp
  | error e => rw [(herr e rfl).pot P]; simp

/-- one `read`: a delivered packet pays for the wait; a failing wait uses the allowance `W` -/
theorem TF_ioRead {P : TP} {X : Int} (ex : List Cmd) (t : Txn) (az : Bool) (ht : TxnOf P t)
    (hX : P.W ≤ X) : TF P X (ioRead ex t az) := by
  intro w r w' h
  have hfr := Fr_ioRead ex t az w
  rw [h] at hfr
  have hW := P.W_pos
  refine ⟨hfr.ext, fun hp hb => ?_⟩
  have hbase := hb.base hfr.ext (by omega)
  obtain ⟨a1, a2, a3, a4, a5, a6, a7, a8⟩ :=
    ioRead_time h ht.rt ht.tt P.hR P.hτ hp.cost hp.locks (by omega)
  refine ⟨isHang_of_mem a4 hang_not_mem_ioReadErrs, ⟨a1, a8, by rw [hfr.defaultTT, hp.dtt], by rw [hfr.files, hp.files]⟩, a7, a2, by omega, ?_⟩
  have hd := ioRead_dlv h
  have hWe : P.W = P.R + 2 * (P.R + max P.D P.τ) := rfl
  rw [tcost_of_wait (r := r) (fun p hr => by subst hr; exact hd.1) (fun e hr => by subst hr; exact hd)]
  by_cases hr : okB r = true
  · rw [if_pos hr, if_pos hr]; omega
  · rw [if_neg hr, if_neg hr]; omega

/-- a `read` that returns delivered exactly one packet, whose payload is counted in `rxBytes` -/
theorem ioRead_progress {ex : List Cmd} {t : Txn} {az : Bool} {w w' : World} {p : Pkt}
    (h : ioRead ex t az w = (.ok p, w')) :
    rxCount w'.trace = rxCount w.trace + 1 ∧ rxBytes w'.trace = rxBytes w.trace + p.data.length := by
  have hd := ioRead_dlv h
  obtain ⟨h1, _, h3⟩ := hd.1.counts
  simpa using And.intro h1 h3

/-! ### what the budget buys: more loop fuel than deliveries, and than delivered bytes -/

theorem Budget.rx_lt {P : TP} {X : Int} {w w' : World} (hb : Budget P X w w') (he : Ext w w') (hX : 0 ≤ X) :
    (rxCount w'.trace : Int) + rxBytes w'.trace - (rxCount w.trace + rxBytes w.trace) < w.fuel := by
  obtain ⟨evs, htr⟩ := he
  have hW := P.W_pos
  have hS := P.S_pos
  have hR := P.hR
  unfold Budget World.tneed World.tcost at hb
  simp only [htr, rxCount_append, txCount_append, rxBytes_append, Int.natCast_add, Int.add_mul] at hb ⊢
  have h1 : (rxCount evs : Int) ≤ (rxCount evs : Int) * P.W := by
    have : (rxCount evs : Int) * 1 ≤ (rxCount evs : Int) * P.W :=
      Int.mul_le_mul_of_nonneg_left (by omega) (by omega)
    omega
  have h2 : 0 ≤ (txCount evs : Int) * P.S := Int.mul_nonneg (by omega) (by omega)
  omega

/-! ### binding a value-dependent continuation -/

/-- `>>=` where the continuation's frame needs a fact `Q a` about the value (e.g. the timeouts stored in the
    transaction that `_open` returned); `Q a` may be derived under the idleness precondition -/
theorem TF_bind_val {α β} {P : TP} {X : Int} {x : M α} {f : α → M β} {Q : α → Prop}
    (hx : TF P X x) (hq : ∀ w a w1, TPre P w → x w = (.ok a, w1) → Q a)
    (hFr : ∀ a, Fr (f a)) (hf : ∀ a, Q a → TF P X (f a)) : TF P X (x >>= f) :=
  (TFc_bind (C := fun _ _ => True) (C' := fun a _ _ => Q a) hx (fun w a w1 _ hp hxa _ _ => hq w a w1 hp hxa)
    fun a w r w' h => ⟨(hFr a).ext h, fun q => (hf a q w r w' h).2⟩).tf fun _ _ _ _ _ => trivial

/-! ### the `tf` tactic -/

theorem TP.W_nonneg (P : TP) : 0 ≤ P.W := by have := P.W_pos; omega

/-- side goals of the frame lemmas: hypotheses on the transaction, `0 ≤ X`, `P.W ≤ X` -/
macro "tf_side" : tactic =>
  `(tactic| first
    | assumption | exact TP.W_nonneg _ | exact Int.le_refl _ | exact Int.le_trans (TP.W_nonneg _) (by assumption)
    | (have := TP.W_pos ‹TP›; omega))

/-- a goal `TF P X e` where `e` is `send`, `read`, a basic quiet action, or covered by a hypothesis -/
macro "tf_leaf" : tactic => `(tactic| first
    | (with_reducible apply TF_ioSend) <;> tf_side
    | (with_reducible apply TF_ioRead) <;> tf_side
    | with_reducible assumption
    | exact TQ.tf (by tq_leaf) (by tf_side)
    | (with_reducible refine TQ.tf (TQ_modify (fun _ => ?_)) (by tf_side)); tquiet_rfl)

/-- `tf [lemmas]` proves `TF P X e` by recursion on `e`, as `tq` does; the `lemmas` are the frames (`TF` or `TQ`)
    of the functions that `e` calls -/
syntax "tf" ("[" term,* "]")? : tactic
macro_rules
  | `(tactic| tf) => `(tactic| tf [])
  | `(tactic| tf [$ts,*]) => `(tactic| repeat' first
    | with_reducible refine TF_bind ?_ (fun _ => ?_)
    | with_reducible refine TF_ite ?_ ?_
    $[| (with_reducible apply $ts) <;> tf_side]*
    | tf_leaf
    | (refine TQ.tf ?_ (by tf_side); first $[| with_reducible apply $ts]* | fail)
    | split
    | dsimp only)

/-! ### loops: the frame under a "room" condition on the loop fuel

  A loop called with fuel `n` does not run out of fuel when `n` exceeds the number of packets and payload bytes
  delivered during the loop (plus the bytes `b` already buffered): every continuing iteration of the stream
  and FileSync loops delivers a packet or consumes a buffered record. -/

theorem TFc_ite {α} {C : World → World → Prop} {P : TP} {X : Int} {c : Prop} [Decidable c] {a b : M α}
    (ha : TFc C P X a) (hb : TFc C P X b) : TFc C P X (if c then a else b) := by
  split <;> assumption

/-- deliveries + delivered bytes so far -/
def World.rxTotal (w : World) : Nat := rxCount w.trace + rxBytes w.trace

theorem Ext.rxTotal_le {w w' : World} (h : Ext w w') : w.rxTotal ≤ w'.rxTotal := by
  obtain ⟨a, _, b⟩ := h.counts_le
  unfold World.rxTotal; omega

/-- loop fuel `n` exceeds the `b` buffered bytes plus everything delivered from `w` to `w'` -/
def Room (n b : Nat) (w w' : World) : Prop := b + w'.rxTotal < w.rxTotal + n

theorem Room.of_budget {P : TP} {X : Int} {w w' : World} (he : Ext w w') (hb : Budget P X w w') (hX : 0 ≤ X) :
    Room w.fuel 0 w w' := by
  have := hb.rx_lt he hX
  unfold Room World.rxTotal; omega

/-- a prefix that may deliver nothing keeps the room -/
theorem TFc_bind_room {α β} {P : TP} {X : Int} {n b : Nat} {x : M α} {f : α → M β}
    (hx : TF P X x) (hf : ∀ a, TFc (Room n b) P X (f a)) : TFc (Room n b) P X (x >>= f) :=
  TFc_bind hx (fun w a w1 w' _ hxa _ hc => by
    have := ((hx w _ w1 hxa).ext).rxTotal_le
    unfold Room at hc ⊢; omega) hf

/-- a prefix that makes progress (delivers, or consumes buffered bytes) pays for one unit of loop fuel -/
theorem TFc_bind_progress {α β} {P : TP} {X : Int} {n b : Nat} {b' : α → Nat} {x : M α} {f : α → M β}
    (hx : TF P X x)
    (hprog : ∀ w a w1, TPre P w → x w = (.ok a, w1) → b' a + w.rxTotal + 1 ≤ b + w1.rxTotal)
    (hf : ∀ a, TFc (Room n (b' a)) P X (f a)) : TFc (Room (n + 1) b) P X (x >>= f) :=
  TFc_bind hx (fun w a w1 w' hp hxa _ hc => by
    have := hprog w a w1 hp hxa
    unfold Room at hc ⊢; omega) hf

/-- out of fuel: vacuous, because the room condition fails -/
theorem TFc_room_zero {α} {P : TP} {X : Int} {b : Nat} : TFc (Room 0 b) P X (M.throw .hang : M α) := by
  intro w r w' h
  cases h
  exact ⟨Ext.refl _, fun hc => by unfold Room at hc; omega⟩

/-- a loop (or anything under a room condition) followed by an unconditional rest -/
theorem TFc_bind_left_room {α β} {P : TP} {X : Int} {n b : Nat} {x : M α} {f : α → M β}
    (hx : TFc (Room n b) P X x) (hf : ∀ a, TF P X (f a)) : TFc (Room n b) P X (x >>= f) := by
  intro w r w' h
  rcases bind_any_inv h with ⟨e, he, rfl⟩ | ⟨a, w1, hxa, hfa⟩
  · obtain ⟨e1, h1⟩ := hx w _ w' he
    refine ⟨e1, fun hc hp hb => ?_⟩
    have := h1 hc hp hb
    simpa [isHang_error] using this
  · obtain ⟨e1, h1⟩ := hx w _ w1 hxa
    have h2 := hf a w1 r w' hfa
    refine ⟨e1.trans h2.ext, fun hc hp hb => ?_⟩
    have hc1 : Room n b w w1 := by
      have := h2.ext.rxTotal_le
      unfold Room at hc ⊢; omega
    exact (TFat.bind (a := a) ⟨e1, h1 hc1⟩ h2).2 hp hb

/-- `let w ← get; g w` where `g` runs loops with fuel `w.fuel`: the budget provides the room -/
theorem TF_get_world {α} {P : TP} {X : Int} (hX : 0 ≤ X) {g : World → M α}
    (hg : ∀ wg, TFc (Room wg.fuel 0) P X (g wg)) : TF P X (M.get >>= g) := by
  intro w r w' h
  rw [bind_run_ok (M.get_run _)] at h
  obtain ⟨e, hc⟩ := hg w w r w' h
  exact ⟨e, fun hp hb => hc (Room.of_budget e hb hX) hp hb⟩

/-- `let w ← get; g w` where `g` runs a loop with fuel `w.fuel` that needs more fuel than the static budget `F`
    (the `push` data loop) -/
theorem TF_get_world_ge {α} {P : TP} {X : Int} (hX : 0 ≤ X) {g : World → M α} (hFr : ∀ wg, Fr (g wg))
    (hg : ∀ wg, P.F < wg.fuel → TF P X (g wg)) : TF P X (M.get >>= g) := by
  intro w r w' h
  rw [bind_run_ok (M.get_run _)] at h
  have e : Ext w w' := (hFr w).ext h
  refine ⟨e, fun hp hb => ?_⟩
  have := hb.base e hX
  have hR := P.hR
  exact (hg w (by omega) w r w' h).2 hp hb

/-- `tfc ih [lemmas]`: the body of a loop after its first action, as `tf [lemmas]`, with the induction hypothesis
    `ih` for the recursive calls; what runs before a recursive call keeps the room (`TFc_bind_room`) -/
macro "tfc" ih:term:max "[" ts:term,* "]" : tactic => `(tactic| repeat' first
    | with_reducible exact $ih _
    | with_reducible exact $ih _ _
    | with_reducible refine TFc_bind_room ?_ (fun _ => ?_)
    | with_reducible refine TFc_ite ?_ ?_
    | (refine TF.tfc ?_; first
        $[| (with_reducible apply $ts) <;> tf_side]*
        | tf_leaf
        | (refine TQ.tf ?_ (by tf_side); first $[| with_reducible apply $ts]* | fail))
    | with_reducible refine TF_bind ?_ (fun _ => ?_)
    | with_reducible refine TF_ite ?_ ?_
    $[| (with_reducible apply $ts) <;> tf_side]*
    | tf_leaf
    | (refine TQ.tf ?_ (by tf_side); first $[| with_reducible apply $ts]* | fail)
    | split
    | dsimp only)

end Adb
