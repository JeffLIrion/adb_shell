import AdbProofs.Lemmas.WireLemmas
import AdbProofs.Lemmas.FrameOps
import AdbProofs.Lemmas.Blocks
/-
  Helper lemmas for C11 (bounded waiting): how much virtual time (`World.now`, ticks) the transport calls
  and the wait loops built on them can consume, and that they never end in `hang` when both timeouts are
  numbers and the loop budget exceeds the read timeout.
-/
namespace Adb

/-- "conforming transport": every completed call on the open connection takes between 1 and `D` ticks -/
def World.CallCost (w : World) (D : Int) : Prop := ∀ c, w.cur = some c → 1 ≤ c.dt ∧ c.dt ≤ D

/-- errors of a byte-level wait (`_read_bytes_from_device`, `_write_all`) -/
def waitErrs : List Err := [.adbTimeout, .transportTimeout, .transportError]

/-- errors of a packet-level wait (`_read_packet_from_device`, `_read_expected_packet_from_device`) -/
def pktErrs : List Err :=
  [.adbTimeout, .transportTimeout, .transportError, .invalidCommand, .invalidChecksum, .pyValueError]

/-- errors of `_AdbIOManager.read`: the packet-level ones plus the packet store's own exceptions -/
def ioReadErrs : List Err := pktErrs ++ [.pyKeyError, .pyQueueEmpty]

theorem waitErrs_sub_pktErrs {e : Err} (h : e ∈ waitErrs) : e ∈ pktErrs := by
  simp only [waitErrs, List.mem_cons, List.not_mem_nil, or_false] at h
  rcases h with rfl | rfl | rfl <;> simp [pktErrs]

theorem hang_not_mem_waitErrs : Err.hang ∉ waitErrs := by simp [waitErrs]
theorem hang_not_mem_pktErrs : Err.hang ∉ pktErrs := by simp [pktErrs]
theorem hang_not_mem_ioReadErrs : Err.hang ∉ ioReadErrs := by simp [ioReadErrs, pktErrs]

/-! ### one transport call -/

theorem waitTimeout_some_run {α : Type} (τ : Int) (w : World) (hτ : 0 ≤ τ) :
    (waitTimeout (some τ) : M α) w = (.error .transportTimeout, { w with now := w.now + τ }) := by
  rw [waitTimeout_run]
  by_cases h : τ > 0
  · simp [h]
  · have : τ = 0 := by omega
    subst this; simp

/-- One transport call (`bulk_read`, `bulk_write`) as the clock sees it; `blocked` is the situation in which it waits. -/
def CallOutcome {α : Type} (blocked : Conn → Prop) (tt : Timeout) (w : World) (r : Except Err α) (w' : World) : Prop :=
  (∀ c', w'.cur = some c' → ∃ c, w.cur = some c ∧ c'.dt = c.dt) ∧
  ((r = .error .transportError ∧ w'.now = w.now) ∨
   (∃ c a, w.cur = some c ∧ r = .ok a ∧ w'.now = w.now + c.dt) ∨
   (∃ c w0, w.cur = some c ∧ blocked c ∧ w0.now = w.now ∧ (waitTimeout tt : M α) w0 = (r, w')))

/-- when `bulk_read` waits -/
def Conn.readBlocked (c : Conn) : Prop :=
  c.isReset = false ∧ c.isEof = false ∧
    ((∃ f, nextFault true c.inOff c.faults = some f ∧ f.kind = .timeout) ∨
     (nextFault true c.inOff c.faults = none ∧ anyReadable c.outOff c.segs = false))

theorem CallOutcome.wait {α : Type} {B : Conn → Prop} {tt : Timeout} {w w0 w' : World} {r : Except Err α} {c c0 : Conn}
    (hw : (waitTimeout tt : M α) w0 = (r, w')) (hcur : w.cur = some c) (h0 : w0.cur = some c0) (hd : c0.dt = c.dt)
    (hn : w0.now = w.now) (hb : B c) : CallOutcome B tt w r w' :=
  ⟨fun c' hc' => ⟨c, hcur, by rw [(waitTimeout_inv hw).2.1, h0] at hc'; cases hc'; exact hd⟩,
    Or.inr (Or.inr ⟨c, w0, hcur, hb, hn, hw⟩)⟩

theorem bulkRead_call (n : Nat) (tt : Timeout) (w : World) (r : Except Err Bytes) (w' : World)
    (h : bulkRead n tt w = (r, w')) : CallOutcome Conn.readBlocked tt w r w' := by
  rcases hc : w.cur with _ | c
  · rw [bulkRead_none n tt w hc] at h; cases h
    exact ⟨fun c' hc' => ⟨c', hc', rfl⟩, Or.inl ⟨rfl, rfl⟩⟩
  rcases Bool.eq_false_or_eq_true c.isReset with hr | hr
  · rw [bulkRead_reset n tt w c hc hr] at h; cases h
    exact ⟨fun c' hc' => ⟨c', hc', rfl⟩, Or.inl ⟨rfl, rfl⟩⟩
  rcases Bool.eq_false_or_eq_true c.isEof with he | he
  · rw [bulkRead_eof n tt w c hc hr he] at h; cases h
    exact ⟨fun c' hc' => ⟨c', hc', rfl⟩, Or.inr (Or.inl ⟨c, _, hc, rfl, rfl⟩)⟩
  rcases hf : nextFault true c.inOff c.faults with _ | f
  · rcases bulkRead_healthy n tt w c hc hr he hf with ⟨hnr, hb⟩ | ⟨m, fr, -, hb⟩
    · rw [hb] at h
      exact .wait h hc hc rfl rfl ⟨hr, he, Or.inr ⟨hf, hnr⟩⟩
    · obtain ⟨fl, hb⟩ := hb _ rfl
      rw [hb] at h; cases h
      exact ⟨fun c' hc' => ⟨c, hc, by cases hc'; rfl⟩, Or.inr (Or.inl ⟨c, _, hc, rfl, rfl⟩)⟩
  · rw [bulkRead_fault n tt w c f hc hr he hf] at h
    split at h
    · next hk => exact .wait h hc rfl rfl rfl ⟨hr, he, Or.inl ⟨f, hf, hk⟩⟩
    · cases h
      exact ⟨fun c' hc' => ⟨c, hc, by cases hc'; rfl⟩, Or.inl ⟨rfl, rfl⟩⟩
    · cases h
      exact ⟨fun c' hc' => ⟨c, hc, by cases hc'; rfl⟩, Or.inr (Or.inl ⟨c, _, hc, rfl, rfl⟩)⟩

theorem bulkWrite_call (data : Bytes) (tt : Timeout) (w : World) (r : Except Err (Option Nat)) (w' : World)
    (h : bulkWrite data tt w = (r, w')) : CallOutcome (fun _ => True) tt w r w' := by
  rcases bulkWrite_cases data tt w with ⟨-, hb⟩ | ⟨c, hc, -, ⟨f, -, hb | hb⟩ | ⟨-, hb | ⟨k, fl, fr, -, -, -, hb⟩⟩⟩
  · rw [hb] at h; cases h
    exact ⟨fun c' hc' => ⟨c', hc', rfl⟩, Or.inl ⟨rfl, rfl⟩⟩
  · rw [hb] at h
    exact .wait h hc rfl rfl rfl trivial
  · rw [hb] at h; cases h
    exact ⟨fun c' hc' => ⟨c, hc, by cases hc'; rfl⟩, Or.inl ⟨rfl, rfl⟩⟩
  · rw [hb] at h; cases h
    exact ⟨fun c' hc' => ⟨c, hc, by cases hc'; rfl⟩, Or.inr (Or.inl ⟨c, _, hc, rfl, rfl⟩)⟩
  · rw [hb] at h; cases h
    exact ⟨fun c' hc' => ⟨c, hc, by cases hc'; rfl⟩, Or.inr (Or.inl ⟨c, _, hc, rfl, rfl⟩)⟩

theorem CallOutcome.time {α : Type} {B : Conn → Prop} {τ D : Int} {w w' : World} {r : Except Err α}
    (h : CallOutcome B (some τ) w r w') (hτ : 0 ≤ τ) (hc : w.CallCost D) :
    w'.CallCost D ∧
    (∀ a, r = .ok a → 1 ≤ w'.now - w.now ∧ w'.now - w.now ≤ D) ∧
    (∀ e, r = .error e → (e = .transportTimeout ∧ w'.now - w.now = τ) ∨ (e = .transportError ∧ w'.now = w.now)) := by
  obtain ⟨hk, h⟩ := h
  refine ⟨fun c' hc' => ?_, ?_⟩
  · obtain ⟨c, h1, h2⟩ := hk c' hc'
    rw [h2]; exact hc c h1
  rcases h with ⟨rfl, hn⟩ | ⟨c, a, hcur, rfl, hn⟩ | ⟨c, w0, -, -, hn, hw⟩
  · exact ⟨fun _ h => (nomatch h), fun e he => by cases he; exact Or.inr ⟨rfl, hn⟩⟩
  · have := hc c hcur
    exact ⟨fun _ _ => by omega, fun _ h => (nomatch h)⟩
  · rw [waitTimeout_some_run _ _ hτ] at hw
    cases hw
    exact ⟨fun _ h => (nomatch h), fun e he => by cases he; exact Or.inl ⟨rfl, by simp only; omega⟩⟩

theorem CallOutcome.hang {α : Type} {B : Conn → Prop} {w w' : World}
    (h : CallOutcome B none w (.error .hang : Except Err α) w') : w'.now = w.now ∧ ∃ c, w.cur = some c ∧ B c := by
  rcases h.2 with ⟨h, -⟩ | ⟨c, a, -, h, -⟩ | ⟨c, w0, hcur, hb, hn, hw⟩
  · cases h
  · cases h
  · cases hw
    exact ⟨hn, c, hcur, hb⟩

theorem CallOutcome.within {α : Type} {B : Conn → Prop} {τ D : Int} {w w' : World} {r : Except Err α}
    (h : CallOutcome B (some τ) w r w') (hτ : 0 ≤ τ) (hc : w.CallCost D) :
    w'.CallCost D ∧ w.now ≤ w'.now ∧ w'.now - w.now ≤ max D τ ∧
    (∀ a, r = .ok a → 1 ≤ w'.now - w.now) ∧ (∀ e, r = .error e → e ∈ waitErrs) := by
  obtain ⟨hc1, hok, herr⟩ := h.time hτ hc
  cases r with
  | ok a =>
    have := hok a rfl
    exact ⟨hc1, by omega, by omega, fun _ _ => this.1, by simp⟩
  | error e =>
    rcases herr e rfl with ⟨rfl, ht⟩ | ⟨rfl, ht⟩
    · exact ⟨hc1, by omega, by omega, by simp, by simp [waitErrs]⟩
    · exact ⟨hc1, by omega, by omega, by simp, by simp [waitErrs]⟩

/-- The deadline loops (`step; if time.time() - start > L: raise AdbTimeoutError; loop`): an iteration that goes on moves the
    clock, so a loop entered with more fuel than ticks left until the deadline never runs out of fuel.  `Inv` and `Q` may mention
    the world in which the loop was entered. -/
theorem deadlineLoop {σ β : Type} {loop : Nat → σ → M β} {start L B : Int} {Inv : σ → World → Prop}
    {Q : Except Err β → World → Prop}
    (iter : ∀ {fuel s w r w'}, loop (fuel + 1) s w = (r, w') → Inv s w → w.now - start ≤ L →
      (w.now ≤ w'.now ∧ w'.now - w.now ≤ B ∧ Q r w') ∨
      ∃ s1 w1, loop fuel s1 w1 = (r, w') ∧ Inv s1 w1 ∧ w.now < w1.now ∧ w1.now - start ≤ L)
    {fuel : Nat} {s : σ} {w : World} (hi : Inv s w) (hnow : w.now - start ≤ L) (hfuel : L - (w.now - start) < fuel) :
    ∀ r w', loop fuel s w = (r, w') → w.now ≤ w'.now ∧ w'.now - start ≤ L + B ∧ Q r w' := by
  intro r w' h
  induction fuel generalizing s w with
  | zero => omega
  | succ fuel ih =>
    rcases iter h hi hnow with ⟨h1, h2, hq⟩ | ⟨s1, w1, h1, hi1, hlt, hn1⟩
    · exact ⟨h1, by omega, hq⟩
    · obtain ⟨h2, h3, hq⟩ := ih hi1 hn1 (by omega) h1
      exact ⟨by omega, h3, hq⟩

/-! ### byte-level wait loops -/

/-- `readBytesLoop` entered at a loop head that lies within the read timeout (`now - start ≤ R`) with more
    fuel than ticks left until the deadline: it never runs out of fuel, ends at most `max D τ` after the
    deadline `start + R`, and fails only with the three wait errors. -/
theorem readBytesLoop_time {t : Txn} {start R τ D : Int} {fuel rem : Nat} {acc : Bytes} {w : World}
    (hrt : t.rt = some R) (htt : t.tt = some τ) (hτ : 0 ≤ τ) (hc : w.CallCost D)
    (hnow : w.now - start ≤ R) (hfuel : R - (w.now - start) < fuel) :
    ∀ r w', readBytesLoop t start fuel rem acc w = (r, w') →
      w.now ≤ w'.now ∧ w'.now - start ≤ R + max D τ ∧ w'.CallCost D ∧
      (∀ e, r = .error e → e ∈ waitErrs) ∧ (rem ≠ 0 → ∀ bs, r = .ok bs → 1 ≤ w'.now - w.now) := by
  -- a loop head with nothing left to read, other than the first one with `rem = 0`, comes after a completed call
  refine deadlineLoop (loop := fun n (s : Nat × Bytes) => readBytesLoop t start n s.1 s.2) (s := (rem, acc))
    (Inv := fun s w0 => w0.CallCost D ∧ w.now ≤ w0.now ∧ (s.1 = 0 → rem ≠ 0 → 1 ≤ w0.now - w.now))
    ?_ ⟨hc, Int.le_refl _, fun h0 hne => absurd h0 hne⟩ hnow hfuel
  intro fuel s w0 r w' h ⟨hc, hm, hp⟩ hnow
  obtain ⟨rem0, acc0⟩ := s
  simp only at h hp
  rw [readBytesLoop] at h
  split at h
  · next h0 =>
    cases h
    exact .inl ⟨Int.le_refl _, by omega, hc, by simp, fun hne _ _ => hp h0 hne⟩
  · rw [bind_run, emit_run] at h
    simp only at h
    rw [bind_run, htt] at h
    rcases hb : bulkRead rem0 (some τ) { w0 with trace := .req rem0 rem0 :: w0.trace } with ⟨r1, w1⟩
    obtain ⟨hc1, hm1, hb1, hok1, herr1⟩ := (bulkRead_call _ _ _ _ _ hb).within hτ hc
    rw [hb] at h
    cases r1 with
    | error e =>
      cases h
      exact .inl ⟨hm1, hb1, hc1, herr1, by simp⟩
    | ok temp =>
      have hp1 : 1 ≤ w1.now - w0.now := hok1 temp rfl
      simp only at h
      split at h
      · cases h
        exact .inl ⟨hm1, hb1, hc1, by simp, fun _ _ _ => by omega⟩
      · rw [timeoutCheck_run, hrt] at h
        simp only at h
        split at h
        · cases h
          exact .inl ⟨hm1, hb1, hc1, by simp [waitErrs], by simp⟩
        · next hpass =>
          exact .inr ⟨(_, _), _, h, ⟨hc1, Int.le_trans hm hm1, fun _ _ => by omega⟩, Int.lt_of_sub_pos hp1,
            Int.not_lt.mp hpass⟩

theorem readBytes_time {n : Nat} {t : Txn} {R τ D : Int} {w : World} {r : Except Err Bytes} {w' : World}
    (h : readBytes n t w = (r, w')) (hrt : t.rt = some R) (htt : t.tt = some τ) (hR : 0 ≤ R) (hτ : 0 ≤ τ)
    (hc : w.CallCost D) (hf : R < w.fuel) :
    w'.CallCost D ∧ w.now ≤ w'.now ∧ w'.now - w.now ≤ R + max D τ ∧
    (∀ e, r = .error e → e ∈ waitErrs) ∧
    (n ≠ 0 → ∀ bs, r = .ok bs → 1 ≤ w'.now - w.now) ∧ w'.fuel = w.fuel := by
  have hfr := (Fr_readBytes n t w).fuel
  rw [h] at hfr
  simp only [readBytes, bind_run, now_run, M.get_run] at h
  obtain ⟨h1, h2, h3, h4, h5⟩ := readBytesLoop_time hrt htt hτ hc (by omega) (by omega) _ _ h
  exact ⟨h3, h1, by omega, h4, h5, hfr⟩

theorem writeAllLoop_time {t : Txn} {start R τ D : Int} {fuel : Nat} {data : Bytes} {w : World}
    (hrt : t.rt = some R) (htt : t.tt = some τ) (hτ : 0 ≤ τ) (hc : w.CallCost D)
    (hnow : w.now - start ≤ R) (hfuel : R - (w.now - start) < fuel) :
    ∀ r w', writeAllLoop t start fuel data w = (r, w') →
      w.now ≤ w'.now ∧ w'.now - start ≤ R + max D τ ∧ w'.CallCost D ∧
      (∀ e, r = .error e → e ∈ waitErrs) ∧ (r = .ok () → 1 ≤ w'.now - w.now) := by
  refine deadlineLoop (loop := writeAllLoop t start) (Inv := fun _ w0 => w0.CallCost D ∧ w.now ≤ w0.now)
    ?_ ⟨hc, Int.le_refl _⟩ hnow hfuel
  intro fuel data w0 r w' h ⟨hc, hm⟩ hnow
  rw [writeAllLoop, bind_run, htt] at h
  rcases hb : bulkWrite data (some τ) w0 with ⟨r1, w1⟩
  obtain ⟨hc1, hm1, hb1, hok1, herr1⟩ := (bulkWrite_call _ _ _ _ _ hb).within hτ hc
  rw [hb] at h
  cases r1 with
  | error e =>
    cases h
    exact .inl ⟨hm1, hb1, hc1, fun _ he => by cases he; exact herr1 _ rfl, by simp⟩
  | ok nw =>
    have hp1 := hok1 nw rfl
    cases nw with
    | none =>
      cases h
      exact .inl ⟨hm1, hb1, hc1, by simp, fun _ => by omega⟩
    | some k =>
      simp only at h
      split at h
      · cases h
        exact .inl ⟨hm1, hb1, hc1, by simp, fun _ => by omega⟩
      · rw [timeoutCheck_run, hrt] at h
        simp only at h
        split at h
        · cases h
          exact .inl ⟨hm1, hb1, hc1, by simp [waitErrs], by simp⟩
        · next hpass => exact .inr ⟨_, _, h, ⟨hc1, by omega⟩, by omega, Int.not_lt.mp hpass⟩

theorem writeAll_time {data : Bytes} {t : Txn} {R τ D : Int} {w : World} {r : Except Err Unit} {w' : World}
    (h : writeAll data t w = (r, w')) (hrt : t.rt = some R) (htt : t.tt = some τ) (hR : 0 ≤ R) (hτ : 0 ≤ τ)
    (hc : w.CallCost D) (hf : R < w.fuel) :
    w'.CallCost D ∧ w.now ≤ w'.now ∧ w'.now - w.now ≤ R + max D τ ∧
    (∀ e, r = .error e → e ∈ waitErrs) ∧ (r = .ok () → 1 ≤ w'.now - w.now) ∧ w'.fuel = w.fuel := by
  have hfr := (Fr_writeAll data t w).fuel
  rw [h] at hfr
  simp only [writeAll, bind_run, now_run, M.get_run] at h
  obtain ⟨h1, h2, h3, h4, h5⟩ := writeAllLoop_time hrt htt hτ hc (by omega) (by omega) _ _ h
  exact ⟨h3, h1, by omega, h4, h5, hfr⟩

/-! ### packet-level waits -/

/-- `_read_packet_from_device`: two byte-level waits; a delivered packet cost at least one tick -/
theorem readPacket_time {t : Txn} {R τ D : Int} {w : World} {r : Except Err Pkt} {w' : World}
    (h : readPacket t w = (r, w')) (hrt : t.rt = some R) (htt : t.tt = some τ) (hR : 0 ≤ R) (hτ : 0 ≤ τ)
    (hc : w.CallCost D) (hf : R < w.fuel) :
    w'.CallCost D ∧ w.now ≤ w'.now ∧ w'.now - w.now ≤ 2 * (R + max D τ) ∧
    (∀ e, r = .error e → e ∈ pktErrs) ∧ (∀ p, r = .ok p → 1 ≤ w'.now - w.now) ∧ w'.fuel = w.fuel := by
  rw [readPacket, bind_run] at h
  rcases h1 : readBytes Generated.MESSAGE_SIZE t w with ⟨r1, w1⟩
  obtain ⟨hc1, hm1, hb1, he1, hp1, hf1⟩ := readBytes_time h1 hrt htt hR hτ hc hf
  have hb1' : w1.now - w.now ≤ 2 * (R + max D τ) := by omega
  rw [h1] at h
  cases r1 with
  | error e =>
    cases h
    exact ⟨hc1, hm1, hb1', fun _ he => by cases he; exact waitErrs_sub_pktErrs (he1 _ rfl), by simp, hf1⟩
  | ok msg =>
    have hp1' := hp1 (by decide) msg rfl
    simp only at h
    rcases hu : unpack msg with _ | hd
    · simp only [hu, M.throw_run, Prod.mk.injEq] at h; obtain ⟨rfl, rfl⟩ := h
      exact ⟨hc1, hm1, hb1', by simp [pktErrs], by simp, hf1⟩
    · simp only [hu] at h
      rcases hcmd : Cmd.ofWire? hd.cmd with _ | c
      · simp only [hcmd, M.throw_run, Prod.mk.injEq] at h; obtain ⟨rfl, rfl⟩ := h
        exact ⟨hc1, hm1, hb1', by simp [pktErrs], by simp, hf1⟩
      · simp only [hcmd] at h
        split at h
        · cases h
          exact ⟨hc1, hm1, hb1', by simp, fun _ _ => hp1', hf1⟩
        · rw [bind_run] at h
          rcases h2 : readBytes hd.len t w1 with ⟨r2, w2⟩
          obtain ⟨hc2, hm2, hb2, he2, -, hf2⟩ :=
            readBytes_time h2 hrt htt hR hτ hc1 (by rw [hf1]; exact hf)
          have hm : w.now ≤ w2.now := Int.le_trans hm1 hm2
          have hb : w2.now - w.now ≤ 2 * (R + max D τ) := by omega
          rw [h2] at h
          cases r2 with
          | error e =>
            cases h
            exact ⟨hc2, hm, hb, fun _ he => by cases he; exact waitErrs_sub_pktErrs (he2 _ rfl), by simp, hf2.trans hf1⟩
          | ok data =>
            simp only at h
            by_cases hck : checksum data = hd.sum
            · simp [hck] at h
              obtain ⟨rfl, rfl⟩ := h
              exact ⟨hc2, hm, hb, by simp, fun _ _ => by omega, hf2.trans hf1⟩
            · simp [bind_run, hck] at h
              obtain ⟨rfl, rfl⟩ := h
              exact ⟨hc2, hm, hb, by simp [pktErrs], by simp, hf2.trans hf1⟩

/-- `expectLoop` entered at a loop head within the read timeout: the last packet read starts no later than
    the deadline `start + R` -/
theorem expectLoop_time {ex : List Cmd} {t : Txn} {start R τ D : Int} {fuel : Nat} {w : World}
    (hrt : t.rt = some R) (htt : t.tt = some τ) (hR : 0 ≤ R) (hτ : 0 ≤ τ) (hc : w.CallCost D)
    (hwf : R < w.fuel) (hnow : w.now - start ≤ R) (hfuel : R - (w.now - start) < fuel) :
    ∀ r w', expectLoop ex t start fuel w = (r, w') →
      w.now ≤ w'.now ∧ w'.now - start ≤ R + 2 * (R + max D τ) ∧ w'.CallCost D ∧
      (∀ e, r = .error e → e ∈ pktErrs) ∧ (∀ p, r = .ok p → ex.contains p.cmd = true) := by
  refine deadlineLoop (loop := fun n (_ : Unit) => expectLoop ex t start n) (s := ())
    (Inv := fun _ w0 => w0.CallCost D ∧ R < w0.fuel) ?_ ⟨hc, hwf⟩ hnow hfuel
  intro fuel _ w0 r w' h ⟨hc, hwf⟩ hnow
  rw [expectLoop, bind_run] at h
  rcases h1 : readPacket t w0 with ⟨r1, w1⟩
  obtain ⟨hc1, hm1, hb1, he1, hp1, hf1⟩ := readPacket_time h1 hrt htt hR hτ hc hwf
  rw [h1] at h
  cases r1 with
  | error e =>
    cases h
    exact .inl ⟨hm1, hb1, hc1, he1, by simp⟩
  | ok p =>
    have hp1' := hp1 p rfl
    simp only at h
    split at h
    · next hex =>
      simp only [bind_run, emit_run, pure_run, Prod.mk.injEq] at h; obtain ⟨rfl, rfl⟩ := h
      exact .inl ⟨hm1, hb1, hc1, by simp, fun _ hp' => by cases hp'; exact hex⟩
    · rw [bind_run, emit_run] at h
      simp only at h
      rw [timeoutCheck_run, hrt] at h
      simp only at h
      split at h
      · cases h
        exact .inl ⟨hm1, hb1, hc1, by simp [pktErrs], by simp⟩
      · next hpass =>
        exact .inr ⟨(), _, h, ⟨hc1, by rw [← hf1] at hwf; exact hwf⟩, Int.lt_of_sub_pos hp1', Int.not_lt.mp hpass⟩

theorem expectPacket_time {ex : List Cmd} {t : Txn} {R τ D : Int} {w : World} {r : Except Err Pkt} {w' : World}
    (h : expectPacket ex t w = (r, w')) (hrt : t.rt = some R) (htt : t.tt = some τ) (hR : 0 ≤ R) (hτ : 0 ≤ τ)
    (hc : w.CallCost D) (hf : R < w.fuel) :
    w'.CallCost D ∧ w.now ≤ w'.now ∧ w'.now - w.now ≤ R + 2 * (R + max D τ) ∧
    (∀ e, r = .error e → e ∈ pktErrs) ∧ (∀ p, r = .ok p → ex.contains p.cmd = true) ∧ w'.fuel = w.fuel := by
  have hfr := (Fr_expectPacket ex t w).fuel
  rw [h] at hfr
  simp only [expectPacket, bind_run, now_run, M.get_run] at h
  obtain ⟨h1, h2, h3, h4, h5⟩ := expectLoop_time hrt htt hR hτ hc hf (by omega) (by omega) _ _ h
  exact ⟨h3, h1, by omega, h4, h5, hfr⟩

/-! ### the packet store as a termination measure for the drain loop -/

/-- sum of `f` over the values of an association list -/
def assocSum {β : Type} (f : β → Nat) (l : List (Nat × β)) : Nat := (l.map (fun p => f p.2)).sum

/-- number of packets parked in the store (all queues, findable or not) -/
def parkedCount (s : Store) : Nat := assocSum (assocSum List.length) s

theorem assocSum_aset {β : Type} (f : β → Nat) (k : Nat) (v : β) (l : List (Nat × β)) :
    assocSum f (aset k v l) + (match alookup k l with | some v0 => f v0 | none => 0) = assocSum f l + f v := by
  induction l with
  | nil => simp [aset, alookup, assocSum]
  | cons p rest ih =>
    obtain ⟨k', v'⟩ := p
    by_cases hk : k' = k
    · simp [aset, alookup, assocSum, hk]; omega
    · simp only [aset, alookup, hk, if_false]
      simp only [assocSum, List.map_cons, List.sum_cons] at ih ⊢
      omega

theorem assocSum_adel_le {β : Type} (f : β → Nat) (k : Nat) (l : List (Nat × β)) : assocSum f (adel k l) ≤ assocSum f l := by
  induction l with
  | nil => simp [adel]
  | cons p rest ih =>
    obtain ⟨k', v'⟩ := p
    by_cases hk : k' = k
    · simp [adel, assocSum, hk]
    · simp only [adel, hk, if_false]
      simp only [assocSum, List.map_cons, List.sum_cons] at ih ⊢
      omega

theorem assocSum_aset_none {β : Type} (f : β → Nat) {k : Nat} (v : β) {l : List (Nat × β)} (h : alookup k l = none) :
    assocSum f (aset k v l) = assocSum f l + f v := by
  have := assocSum_aset f k v l
  rw [h] at this
  simpa using this

theorem assocSum_aset_some {β : Type} (f : β → Nat) {k : Nat} (v : β) {l : List (Nat × β)} {v0 : β}
    (h : alookup k l = some v0) : assocSum f (aset k v l) + f v0 = assocSum f l + f v := by
  have := assocSum_aset f k v l
  rw [h] at this
  simpa using this

theorem assocSum_single {β : Type} (f : β → Nat) (k : Nat) (v : β) : assocSum f [(k, v)] = f v := by simp [assocSum]

theorem parkedCount_clear_le (s : Store) (a0 a1 : Nat) : parkedCount (s.clear a0 a1) ≤ parkedCount s := by
  cases h1 : alookup a1 s with
  | none => simp [Store.clear, h1]
  | some inner =>
    cases h0 : alookup a0 inner with
    | none => simp [Store.clear, h1, h0]
    | some q =>
      simp only [Store.clear, h1, h0]
      split
      · exact assocSum_adel_le _ _ _
      · have := assocSum_aset_some (assocSum List.length) (adel a0 inner) h1
        have h2 := assocSum_adel_le List.length a0 inner
        simp only [parkedCount] at this ⊢
        omega

theorem parkedCount_put_le (s : Store) (a0 a1 : Nat) (cmd : Cmd) (d : Bytes) :
    parkedCount (s.put a0 a1 cmd d) ≤ parkedCount s + 1 := by
  cases h1 : alookup a1 s with
  | none =>
    simp only [Store.put, h1]
    split
    · omega
    · have := assocSum_aset_none (assocSum List.length) [(a0, [(cmd, d)])] h1
      simp only [parkedCount]
      rw [this, assocSum_single]
      simp
  | some inner =>
    cases h0 : alookup a0 inner with
    | none =>
      simp only [Store.put, h1, h0]
      split
      · omega
      · have h2 := assocSum_aset_none List.length [(cmd, d)] h0
        have := assocSum_aset_some (assocSum List.length) (aset a0 [(cmd, d)] inner) h1
        simp only [parkedCount] at this ⊢
        simp only [List.length_singleton] at h2
        omega
    | some q =>
      simp only [Store.put, h1, h0]
      have h2 := assocSum_aset_some List.length (q ++ [(cmd, d)]) h0
      have := assocSum_aset_some (assocSum List.length) (aset a0 (q ++ [(cmd, d)]) inner) h1
      simp only [parkedCount] at this ⊢
      simp only [List.length_append, List.length_singleton] at h2
      omega

/-- a successful `get` under a concrete pair removes one parked packet (and `clear` removes more);
    a failing one raises KeyError or queue.Empty, never the wildcard TypeError -/
theorem parkedCount_get (s : Store) (x y : Nat) :
    match s.get (some x) (some y) with
    | .ok (_, s') => parkedCount s' + 1 ≤ parkedCount s
    | .error e => e = .keyError ∨ e = .queueEmpty := by
  cases h1 : alookup y s with
  | none => simp [Store.get, h1]
  | some inner =>
    cases h0 : alookup x inner with
    | none => simp [Store.get, h1, h0]
    | some q =>
      cases q with
      | nil => simp [Store.get, h1, h0]
      | cons it q =>
        obtain ⟨cmd, data⟩ := it
        simp only [Store.get, h1, h0]
        have h2 := assocSum_aset_some List.length q h0
        have h3 := assocSum_aset_some (assocSum List.length) (aset x q inner) h1
        simp only [List.length_cons] at h2
        have h4 : parkedCount (aset y (aset x q inner) s) + 1 = parkedCount s := by
          simp only [parkedCount]; omega
        split
        · have := parkedCount_clear_le (aset y (aset x q inner) s) x y
          omega
        · omega

/-! ### `_AdbIOManager.read` -/

theorem storeGet_spec {k : Nat × Nat} {w : World} {r : Except Err Pkt} {w1 : World} (h : storeGet k w = (r, w1)) :
    w1.now = w.now ∧ w1.cur = w.cur ∧
    (∀ p, r = .ok p → parkedCount w1.store + 1 ≤ parkedCount w.store) ∧
    (∀ e, r = .error e → (e = .pyKeyError ∨ e = .pyQueueEmpty) ∧ w1.store = w.store) := by
  have hg := parkedCount_get w.store k.1 k.2
  unfold storeGet at h
  cases hget : w.store.get (some k.1) (some k.2) with
  | error e =>
    simp only [hget, Prod.mk.injEq] at h hg
    obtain ⟨rfl, rfl⟩ := h
    rcases hg with rfl | rfl <;> simp [storeErr]
  | ok v =>
    obtain ⟨⟨c, a0, a1, d⟩, s'⟩ := v
    simp only [hget, Prod.mk.injEq] at h hg
    obtain ⟨rfl, rfl⟩ := h
    exact ⟨rfl, rfl, fun _ _ => hg, by simp⟩

/-- the drain loop takes no time, leaves the connection alone, only shrinks the store, and with more fuel
    than parked packets it does not run out of fuel -/
theorem drainLoop_time {ex : List Cmd} {t : Txn} {az : Bool} {fuel : Nat} {w : World}
    {r : Except Err (Option Pkt)} {w' : World} (h : drainLoop ex t az fuel w = (r, w'))
    (hf : parkedCount w.store < fuel) :
    w'.now = w.now ∧ w'.cur = w.cur ∧ parkedCount w'.store ≤ parkedCount w.store ∧
    (∀ e, r = .error e → e = .pyKeyError ∨ e = .pyQueueEmpty) ∧
    (∀ p, r = .ok (some p) → ex.contains p.cmd = true) := by
  induction fuel generalizing w with
  | zero => omega
  | succ fuel ih =>
    rw [drainLoop] at h
    simp only [bind_run, storeFind] at h
    generalize (if az then w.store.findAllowZeros t.remoteId t.localId else w.store.find t.remoteId t.localId) = k at h
    cases k with
    | none =>
      cases h
      simp
    | some k =>
      simp only at h
      rcases hg : storeGet k w with ⟨r1, w1⟩
      obtain ⟨g1, g2, g3, g4⟩ := storeGet_spec hg
      rw [bind_run, hg] at h
      cases r1 with
      | error e =>
        cases h
        exact ⟨g1, g2, by rw [(g4 e rfl).2]; omega, fun _ he' => by cases he'; exact (g4 _ rfl).1, by simp⟩
      | ok p =>
        have g3' := g3 p rfl
        simp only at h
        split at h
        · next hex =>
          simp only [bind_run, emit_run, pure_run, Prod.mk.injEq] at h; obtain ⟨rfl, rfl⟩ := h
          exact ⟨g1, g2, by simp only; omega, by simp, fun _ hp => by cases hp; exact hex⟩
        · simp only [bind_run, emit_run] at h
          obtain ⟨h1, h2, h3, h4, h5⟩ := ih h (by simp only; omega)
          exact ⟨h1.trans g1, h2.trans g2, by simp only at h3; omega, h4, h5⟩

theorem World.CallCost.of_cur_eq {w w' : World} {D : Int} (hc : w.CallCost D) (h : w'.cur = w.cur) : w'.CallCost D :=
  fun c hc' => hc c (by rw [← h]; exact hc')

/-- a step that takes no time, leaves the connection, the fuel and the lock set alone and parks at most
    `k` more packets -/
structure TQuiet (w w' : World) (k : Nat) : Prop where
  now : w'.now = w.now
  cur : w'.cur = w.cur
  fuel : w'.fuel = w.fuel
  locks : w'.locks = w.locks
  size : parkedCount w'.store ≤ parkedCount w.store + k

theorem TQuiet.trans {a b c : World} {j k : Nat} (h1 : TQuiet a b j) (h2 : TQuiet b c k) : TQuiet a c (j + k) :=
  ⟨h2.now.trans h1.now, h2.cur.trans h1.cur, h2.fuel.trans h1.fuel, h2.locks.trans h1.locks,
    by have := h1.size; have := h2.size; omega⟩

theorem TQuiet.mono {a b : World} {j k : Nat} (h : TQuiet a b j) (hjk : j ≤ k) : TQuiet a b k :=
  ⟨h.now, h.cur, h.fuel, h.locks, by have := h.size; omega⟩

theorem TQuiet.emit {a b : World} {k : Nat} (h : TQuiet a b k) (e : TEv) :
    TQuiet a { b with trace := e :: b.trace } k := ⟨h.now, h.cur, h.fuel, h.locks, h.size⟩

theorem TQuiet.refl (w : World) : TQuiet w w 0 := ⟨rfl, rfl, rfl, rfl, by simp⟩

theorem lockedDrain_time {ex : List Cmd} {t : Txn} {az : Bool} {fuel : Nat} {w : World}
    {r : Except Err (Option Pkt)} {w' : World} (h : withLock lockStore (drainLoop ex t az fuel) w = (r, w'))
    (hl : lockStore ∉ w.locks) (hf : parkedCount w.store < fuel) :
    TQuiet w w' 0 ∧ (∀ e, r = .error e → e = .pyKeyError ∨ e = .pyQueueEmpty) ∧
    (∀ p, r = .ok (some p) → ex.contains p.cmd = true) := by
  have hfr := Fr_withLock lockStore (Fr_drainLoop ex t az fuel) w
  rw [h] at hfr
  obtain ⟨w1, h1, rfl⟩ := withLock_any_inv h hl
  obtain ⟨d1, d2, d3, d4, d5⟩ := drainLoop_time h1 hf
  exact ⟨⟨d1, d2, hfr.fuel, hfr.locks, d3⟩, d4, d5⟩

theorem lockedPut_quiet {p : Pkt} {w : World} {r : Except Err Unit} {w' : World}
    (h : withLock lockStore (storePut p) w = (r, w')) (hl : lockStore ∉ w.locks) :
    r = .ok () ∧ TQuiet w w' 1 := by
  obtain ⟨w1, h1, rfl⟩ := withLock_any_inv h hl
  simp only [storePut, Prod.mk.injEq] at h1
  obtain ⟨rfl, rfl⟩ := h1
  exact ⟨rfl, rfl, rfl, rfl, by simp, parkedCount_put_le _ _ _ _ _⟩

theorem lockedClear_quiet {a0 a1 : Nat} {w : World} {r : Except Err Unit} {w' : World}
    (h : withLock lockStore (storeClear a0 a1) w = (r, w')) (hl : lockStore ∉ w.locks) :
    r = .ok () ∧ TQuiet w w' 0 := by
  obtain ⟨w1, h1, rfl⟩ := withLock_any_inv h hl
  simp only [storeClear, M.modify_run, Prod.mk.injEq] at h1
  obtain ⟨rfl, rfl⟩ := h1
  exact ⟨rfl, rfl, rfl, rfl, by simp, parkedCount_clear_le _ _ _⟩

theorem readIterRest_quiet {ex : List Cmd} {t : Txn} {az : Bool} {p : Pkt} {w : World}
    {r : Except Err (Option Pkt)} {w' : World} (h : readIterRest ex t az p w = (r, w'))
    (hl : lockStore ∉ w.locks) :
    TQuiet w w' 1 ∧ (∃ o, r = .ok o) ∧ (∀ q, r = .ok (some q) → ex.contains q.cmd = true) := by
  unfold readIterRest at h
  split at h
  · rw [bind_run] at h
    rcases hp : withLock lockStore (storePut p) w with ⟨r1, w1⟩
    obtain ⟨rfl, q⟩ := lockedPut_quiet hp hl
    rw [hp] at h
    cases h
    exact ⟨q, ⟨_, rfl⟩, by simp⟩
  · simp only at h
    have key : ∀ w1, TQuiet w w1 0 →
        (if ex.contains p.cmd = true then (do emit (.deliver p); pure (some p) : M (Option Pkt))
          else do emit (.drop p); pure none) w1 = (r, w') →
        TQuiet w w' 1 ∧ (∃ o, r = .ok o) ∧ (∀ q, r = .ok (some q) → ex.contains q.cmd = true) := by
      intro w1 q1 h1
      split at h1
      · next hex =>
        simp only [bind_run, emit_run, pure_run, Prod.mk.injEq] at h1
        obtain ⟨rfl, rfl⟩ := h1
        refine ⟨(q1.emit _).mono (by omega), ⟨_, rfl⟩, ?_⟩
        intro q hq
        simp only [Except.ok.injEq, Option.some.injEq] at hq
        subst hq; exact hex
      · simp only [bind_run, emit_run, pure_run, Prod.mk.injEq] at h1
        obtain ⟨rfl, rfl⟩ := h1
        exact ⟨(q1.emit _).mono (by omega), ⟨_, rfl⟩, by simp⟩
    by_cases hcl : p.cmd = Cmd.CLSE
    · simp only [hcl, if_true] at h key
      rw [bind_run] at h
      rcases hp : withLock lockStore (storeClear p.arg0 p.arg1) w with ⟨r1, w1⟩
      obtain ⟨rfl, q⟩ := lockedClear_quiet hp hl
      rw [hp] at h
      exact key w1 q h
    · simp only [hcl, if_false] at h
      exact key w (TQuiet.refl w) h

theorem pktErrs_sub_ioReadErrs {e : Err} (h : e ∈ pktErrs) : e ∈ ioReadErrs := by
  simp only [ioReadErrs, List.mem_append]; exact Or.inl h

theorem storeErrs_sub_ioReadErrs {e : Err} (h : e = .pyKeyError ∨ e = .pyQueueEmpty) : e ∈ ioReadErrs := by
  rcases h with rfl | rfl <;> simp [ioReadErrs]

/-- one iteration body of `_AdbIOManager.read`'s loop: drain (no time), then at most one packet read -/
theorem readIterBody_time {ex : List Cmd} {t : Txn} {az : Bool} {R τ D : Int} {w : World}
    {r : Except Err (Option Pkt)} {w' : World} (h : readIterBody ex t az w = (r, w'))
    (hrt : t.rt = some R) (htt : t.tt = some τ) (hR : 0 ≤ R) (hτ : 0 ≤ τ) (hc : w.CallCost D)
    (hl : lockStore ∉ w.locks) (hRf : R < w.fuel) (hs : parkedCount w.store < w.fuel) :
    w'.CallCost D ∧ w.now ≤ w'.now ∧ w'.now - w.now ≤ 2 * (R + max D τ) ∧ w'.fuel = w.fuel ∧
    (parkedCount w'.store : Int) ≤ parkedCount w.store + (w'.now - w.now) ∧
    (∀ e, r = .error e → e ∈ ioReadErrs) ∧ (r = .ok none → 1 ≤ w'.now - w.now) ∧
    (∀ p, r = .ok (some p) → ex.contains p.cmd = true) := by
  rw [readIterBody, bind_run, M.get_run] at h
  simp only at h
  rw [bind_run] at h
  rcases hd : withLock lockStore (drainLoop ex t az w.fuel) w with ⟨r1, w1⟩
  obtain ⟨q1, e1, p1⟩ := lockedDrain_time hd hl hs
  have hc1 : w1.CallCost D := hc.of_cur_eq q1.cur
  have hsz1 := q1.size
  have hn1 := q1.now
  rw [hd] at h
  cases r1 with
  | error e =>
    cases h
    exact ⟨hc1, by omega, by omega, q1.fuel, by omega,
      fun _ he' => by cases he'; exact storeErrs_sub_ioReadErrs (e1 _ rfl), by simp, by simp⟩
  | ok o =>
    cases o with
    | some p =>
      cases h
      exact ⟨hc1, by omega, by omega, q1.fuel, by omega, by simp, by simp, fun _ hp' => by cases hp'; exact p1 _ rfl⟩
    | none =>
      simp only at h
      rw [bind_run] at h
      rcases h2 : readPacket t w1 with ⟨r2, w2⟩
      obtain ⟨hc2, hm2, hb2, he2, hp2, hf2⟩ :=
        readPacket_time h2 hrt htt hR hτ hc1 (by rw [q1.fuel]; exact hRf)
      obtain ⟨sd, -, -⟩ := readPacket_frame _ _ _ _ h2
      have hst2 : w2.store = w1.store := sd.1
      have hlk2 : w2.locks = w1.locks := sd.2.2.2.2.2.2.1
      rw [h2] at h
      cases r2 with
      | error e =>
        cases h
        exact ⟨hc2, by omega, by omega, hf2.trans q1.fuel, by rw [hst2]; omega,
          fun _ he' => by cases he'; exact pktErrs_sub_ioReadErrs (he2 _ rfl), by simp, by simp⟩
      | ok p =>
        have hp2' := hp2 p rfl
        simp only at h
        obtain ⟨q3, ⟨o, rfl⟩, p3⟩ := readIterRest_quiet h (by rw [hlk2, q1.locks]; exact hl)
        have hn3 := q3.now
        have hsz3 := q3.size
        rw [hst2] at hsz3
        exact ⟨hc2.of_cur_eq q3.cur, by omega, by omega, (q3.fuel.trans hf2).trans q1.fuel, by omega, by simp,
          fun _ => by omega, p3⟩

theorem readIter_time {ex : List Cmd} {t : Txn} {az : Bool} {R τ D : Int} {w : World}
    {r : Except Err (Option Pkt)} {w' : World} (h : readIter ex t az w = (r, w'))
    (hrt : t.rt = some R) (htt : t.tt = some τ) (hR : 0 ≤ R) (hτ : 0 ≤ τ) (hc : w.CallCost D)
    (hlk : w.locks = []) (hRf : R < w.fuel) (hs : parkedCount w.store < w.fuel) :
    w'.CallCost D ∧ w.now ≤ w'.now ∧ w'.now - w.now ≤ 2 * (R + max D τ) ∧ w'.fuel = w.fuel ∧ w'.locks = [] ∧
    (parkedCount w'.store : Int) ≤ parkedCount w.store + (w'.now - w.now) ∧
    (∀ e, r = .error e → e ∈ ioReadErrs) ∧ (r = .ok none → 1 ≤ w'.now - w.now) ∧
    (∀ p, r = .ok (some p) → ex.contains p.cmd = true) := by
  have hfr := Fr_readIter ex t az w
  rw [h] at hfr
  rw [readIter_eq_body] at h
  obtain ⟨w1, h1, rfl⟩ := withLock_any_inv h (by simp [hlk])
  obtain ⟨a1, a2, a3, a4, a5, a6, a7, a8⟩ := readIterBody_time h1 hrt htt hR hτ hc
    (by simp [hlk, lockStore, lockTransport]) hRf hs
  exact ⟨a1, a2, a3, a4, by rw [← hlk]; exact hfr.locks, a5, a6, a7, a8⟩

/-- `readLoop` entered at a loop head within the read timeout, with the loop fuel exceeding the ticks left
    and the world fuel exceeding parked packets + ticks left (each further iteration parks at most one
    packet and costs at least one tick) -/
theorem readLoop_time {ex : List Cmd} {t : Txn} {az : Bool} {start R τ D : Int} {fuel : Nat} {w : World}
    (hrt : t.rt = some R) (htt : t.tt = some τ) (hR : 0 ≤ R) (hτ : 0 ≤ τ) (hc : w.CallCost D)
    (hlk : w.locks = []) (hRf : R < w.fuel) (hnow : w.now - start ≤ R) (hfuel : R - (w.now - start) < fuel)
    (hs : parkedCount w.store + (R - (w.now - start)) < w.fuel) :
    ∀ r w', readLoop ex t az start fuel w = (r, w') →
      w.now ≤ w'.now ∧ w'.now - start ≤ R + 2 * (R + max D τ) ∧ w'.CallCost D ∧
      (∀ e, r = .error e → e ∈ ioReadErrs) ∧ (∀ p, r = .ok p → ex.contains p.cmd = true) ∧
      (parkedCount w'.store : Int) ≤ parkedCount w.store + (w'.now - w.now) := by
  refine deadlineLoop (loop := fun n (_ : Unit) => readLoop ex t az start n) (s := ())
    (Inv := fun _ w0 => w0.CallCost D ∧ w0.locks = [] ∧ w0.fuel = w.fuel ∧
      (parkedCount w0.store : Int) ≤ parkedCount w.store + (w0.now - w.now))
    ?_ ⟨hc, hlk, rfl, by omega⟩ hnow hfuel
  intro fuel _ w0 r w' h ⟨hc, hlk, hf, hsz⟩ hnow
  rw [readLoop, bind_run] at h
  rcases h1 : readIter ex t az w0 with ⟨r1, w1⟩
  obtain ⟨a1, a2, a3, a4, a5, a6, a7, a8, a9⟩ :=
    readIter_time h1 hrt htt hR hτ hc hlk (by omega) (by omega)
  rw [h1] at h
  cases r1 with
  | error e =>
    cases h
    exact .inl ⟨a2, a3, a1, fun _ he => by cases he; exact a7 _ rfl, by simp, by omega⟩
  | ok o =>
    cases o with
    | some p =>
      cases h
      exact .inl ⟨a2, a3, a1, by simp, fun _ hp' => by cases hp'; exact a9 _ rfl, by omega⟩
    | none =>
      have a8' := a8 rfl
      simp only at h
      rw [timeoutCheck_run, hrt] at h
      simp only at h
      split at h
      · cases h
        exact .inl ⟨a2, a3, a1, by simp [ioReadErrs, pktErrs], by simp, by omega⟩
      · next hpass =>
        exact .inr ⟨(), _, h, ⟨a1, a5, a4.trans hf, by omega⟩, Int.lt_of_sub_pos a8', Int.not_lt.mp hpass⟩

theorem ioRead_time {ex : List Cmd} {t : Txn} {az : Bool} {R τ D : Int} {w : World}
    {r : Except Err Pkt} {w' : World} (h : ioRead ex t az w = (r, w'))
    (hrt : t.rt = some R) (htt : t.tt = some τ) (hR : 0 ≤ R) (hτ : 0 ≤ τ) (hc : w.CallCost D)
    (hlk : w.locks = []) (hs : parkedCount w.store + R < w.fuel) :
    w'.CallCost D ∧ w.now ≤ w'.now ∧ w'.now - w.now ≤ R + 2 * (R + max D τ) ∧
    (∀ e, r = .error e → e ∈ ioReadErrs) ∧ (∀ p, r = .ok p → ex.contains p.cmd = true) ∧
    (parkedCount w'.store : Int) ≤ parkedCount w.store + (w'.now - w.now) ∧
    w'.fuel = w.fuel ∧ w'.locks = [] := by
  have hfr := Fr_ioRead ex t az w
  rw [h] at hfr
  have hfl : w'.fuel = w.fuel ∧ w'.locks = [] := ⟨hfr.fuel, by rw [← hlk]; exact hfr.locks⟩
  rw [ioRead, bind_run, M.get_run] at h
  simp only at h
  rw [bind_run] at h
  rcases hd : withLock lockStore (drainLoop ex t az w.fuel) w with ⟨r1, w1⟩
  obtain ⟨q1, e1, p1⟩ := lockedDrain_time hd (by simp [hlk]) (by omega)
  have hc1 : w1.CallCost D := hc.of_cur_eq q1.cur
  have hsz1 := q1.size
  have hn1 := q1.now
  rw [hd] at h
  cases r1 with
  | error e =>
    cases h
    exact ⟨hc1, by omega, by omega, fun _ he' => by cases he'; exact storeErrs_sub_ioReadErrs (e1 _ rfl), by simp,
      by omega, hfl⟩
  | ok o =>
    cases o with
    | some p =>
      cases h
      exact ⟨hc1, by omega, by omega, by simp, fun _ hp' => by cases hp'; exact p1 _ rfl, by omega, hfl⟩
    | none =>
      simp only at h
      rw [bind_run, now_run] at h
      simp only at h
      obtain ⟨b1, b2, b3, b4, b5, b6⟩ := readLoop_time hrt htt hR hτ hc1
        (by rw [q1.locks]; exact hlk) (by rw [q1.fuel]; omega) (by omega) (by omega) (by rw [q1.fuel]; omega) _ _ h
      exact ⟨b3, by omega, by omega, b4, b5, by omega, hfl⟩

/-! ### sending, `_read_until`, `_read_until_close` -/

/-- errors of `_send`: the byte-level wait errors plus `struct.error` for an unpackable message -/
def sendErrs : List Err := [.adbTimeout, .transportTimeout, .transportError, .pyStructError]

/-- errors of `_read_until` / `_read_until_close` -/
def streamErrs : List Err := ioReadErrs ++ [.pyStructError]

theorem hang_not_mem_streamErrs : Err.hang ∉ streamErrs := by simp [streamErrs, ioReadErrs, pktErrs]

theorem waitErrs_sub_sendErrs {e : Err} (h : e ∈ waitErrs) : e ∈ sendErrs := by
  simp only [waitErrs, List.mem_cons, List.not_mem_nil, or_false] at h
  rcases h with rfl | rfl | rfl <;> simp [sendErrs]

theorem sendErrs_sub_streamErrs {e : Err} (h : e ∈ sendErrs) : e ∈ streamErrs := by
  simp only [sendErrs, List.mem_cons, List.not_mem_nil, or_false] at h
  rcases h with rfl | rfl | rfl | rfl <;> simp [streamErrs, ioReadErrs, pktErrs]

theorem ioReadErrs_sub_streamErrs {e : Err} (h : e ∈ ioReadErrs) : e ∈ streamErrs := by
  simp only [streamErrs, List.mem_append]; exact Or.inl h

/-- `_send(msg)`: one byte-level wait for the header and one for a non-empty payload -/
theorem sendRaw_time {m : Msg} {t : Txn} {R τ D : Int} {w : World} {r : Except Err Unit} {w' : World}
    (h : sendRaw m t w = (r, w')) (hrt : t.rt = some R) (htt : t.tt = some τ) (hR : 0 ≤ R) (hτ : 0 ≤ τ)
    (hc : w.CallCost D) (hf : R < w.fuel) :
    w'.CallCost D ∧ w.now ≤ w'.now ∧ w'.now - w.now ≤ 2 * (R + max D τ) ∧
    (m.data = [] → w'.now - w.now ≤ R + max D τ) ∧
    (∀ e, r = .error e → e ∈ sendErrs) ∧ (r = .ok () → 1 ≤ w'.now - w.now) := by
  simp only [sendRaw, bind_run, emit_run] at h
  have hnow0 : ({ w with trace := .tx m :: w.trace } : World).now = w.now := rfl
  have hc0 : ({ w with trace := .tx m :: w.trace } : World).CallCost D := hc
  have hf0 : ({ w with trace := .tx m :: w.trace } : World).fuel = w.fuel := rfl
  generalize ({ w with trace := .tx m :: w.trace } : World) = w0 at h hnow0 hc0 hf0
  cases hp : m.pack? with
  | none =>
    simp only [hp, M.throw_run, Prod.mk.injEq] at h
    obtain ⟨rfl, rfl⟩ := h
    exact ⟨hc0, by omega, by omega, fun _ => by omega, by simp [sendErrs], by simp⟩
  | some hdr =>
    simp only [hp] at h
    rcases h1 : writeAll hdr t w0 with ⟨r1, w1⟩
    obtain ⟨a1, a2, a3, a4, a5, a6⟩ := writeAll_time h1 hrt htt hR hτ hc0 (by omega)
    rw [bind_run, h1] at h
    cases r1 with
    | error e =>
      cases h
      exact ⟨a1, by omega, by omega, fun _ => by omega,
        fun _ he' => by cases he'; exact waitErrs_sub_sendErrs (a4 _ rfl),
        by simp⟩
    | ok u =>
      have a5' := a5 rfl
      simp only at h
      by_cases hd : m.data.isEmpty
      · simp only [hd, Bool.not_true, Bool.false_eq_true, if_false, pure_run, Prod.mk.injEq] at h
        obtain ⟨rfl, rfl⟩ := h
        exact ⟨a1, by omega, by omega, fun _ => by omega, by simp, fun _ => by omega⟩
      · simp only [hd, Bool.not_false, if_true] at h
        obtain ⟨b1, b2, b3, b4, b5, b6⟩ := writeAll_time h hrt htt hR hτ a1 (by omega)
        refine ⟨b1, by omega, by omega, fun h0 => ?_,
          fun e' he' => waitErrs_sub_sendErrs (b4 _ he'), fun _ => by omega⟩
        rw [h0] at hd; simp at hd

/-- `_AdbIOManager.send` with the transport lock free -/
theorem ioSend_time {m : Msg} {t : Txn} {R τ D : Int} {w : World} {r : Except Err Unit} {w' : World}
    (h : ioSend m t w = (r, w')) (hrt : t.rt = some R) (htt : t.tt = some τ) (hR : 0 ≤ R) (hτ : 0 ≤ τ)
    (hc : w.CallCost D) (hf : R < w.fuel) (hl : lockTransport ∉ w.locks) :
    w'.CallCost D ∧ w.now ≤ w'.now ∧ w'.now - w.now ≤ 2 * (R + max D τ) ∧
    (m.data = [] → w'.now - w.now ≤ R + max D τ) ∧
    (∀ e, r = .error e → e ∈ sendErrs) ∧ (r = .ok () → 1 ≤ w'.now - w.now) ∧
    w'.store = w.store ∧ w'.fuel = w.fuel ∧ w'.locks = w.locks := by
  have hfr := Fr_ioSend m t w
  rw [h] at hfr
  obtain ⟨w1, h1, rfl⟩ := withLock_any_inv h hl
  obtain ⟨sd, -⟩ := sendRaw_spec _ _ _ _ _ h1
  obtain ⟨a1, a2, a3, a4, a5, a6⟩ := sendRaw_time h1 hrt htt hR hτ hc hf
  exact ⟨a1, a2, a3, a4, a5, a6, sd.1, hfr.fuel, hfr.locks⟩

/-- `_read_until(expected)`: one `read` (with `allow_zeros`) and, for a WRTE packet, one OKAY send -/
theorem readUntil_time {ex : List Cmd} {t : Txn} {R τ D : Int} {w : World} {r : Except Err (Cmd × Bytes)}
    {w' : World} (h : readUntil ex t w = (r, w')) (hrt : t.rt = some R) (htt : t.tt = some τ)
    (hR : 0 ≤ R) (hτ : 0 ≤ τ) (hc : w.CallCost D) (hlk : w.locks = []) (hs : parkedCount w.store + R < w.fuel) :
    w'.CallCost D ∧ w.now ≤ w'.now ∧ w'.now - w.now ≤ (R + 2 * (R + max D τ)) + (R + max D τ) ∧
    (∀ e, r = .error e → e ∈ streamErrs) ∧
    (∀ c d, r = .ok (c, d) → ex.contains c = true ∧ (c = Cmd.WRTE → 1 ≤ w'.now - w.now) ∧
      (c ≠ Cmd.WRTE → w'.now - w.now ≤ R + 2 * (R + max D τ))) ∧
    (parkedCount w'.store : Int) ≤ parkedCount w.store + (w'.now - w.now) ∧ w'.fuel = w.fuel ∧ w'.locks = [] := by
  rw [readUntil, bind_run] at h
  rcases h1 : ioRead ex t true w with ⟨r1, w1⟩
  obtain ⟨a1, a2, a3, a4, a5, a6, a7, a8⟩ := ioRead_time h1 hrt htt hR hτ hc hlk hs
  rw [h1] at h
  cases r1 with
  | error e =>
    cases h
    exact ⟨a1, a2, by omega, fun _ he' => by cases he'; exact ioReadErrs_sub_streamErrs (a4 _ rfl), by simp, a6, a7, a8⟩
  | ok p =>
    have a5' := a5 p rfl
    simp only at h
    by_cases hw : p.cmd = Cmd.WRTE
    · simp only [hw, if_true] at h
      rw [bind_run] at h
      rcases h2 : okay t w1 with ⟨r2, w2⟩
      obtain ⟨b1, b2, b3, b4, b5, b6, b7, b8, b9⟩ :=
        ioSend_time h2 hrt htt hR hτ a1 (by rw [a7]; omega) (by simp [a8])
      have b4' := b4 rfl
      have hm : w.now ≤ w2.now := Int.le_trans a2 b2
      have hb : w2.now - w.now ≤ (R + 2 * (R + max D τ)) + (R + max D τ) := by omega
      have hs2 : (parkedCount w2.store : Int) ≤ parkedCount w.store + (w2.now - w.now) := by rw [b7]; omega
      rw [h2] at h
      cases r2 with
      | error e =>
        cases h
        exact ⟨b1, hm, hb, fun _ he' => by cases he'; exact sendErrs_sub_streamErrs (b5 _ rfl), by simp, hs2,
          b8.trans a7, b9.trans a8⟩
      | ok u =>
        have b6' := b6 rfl
        cases h
        refine ⟨b1, hm, hb, by simp, ?_, hs2, b8.trans a7, b9.trans a8⟩
        intro c d hcd
        simp only [Except.ok.injEq, Prod.mk.injEq] at hcd
        obtain ⟨rfl, rfl⟩ := hcd
        exact ⟨by rw [← hw]; exact a5', fun _ => by omega, fun hne => absurd rfl hne⟩
    · simp only [hw, if_false, pure_run, Prod.mk.injEq] at h
      obtain ⟨rfl, rfl⟩ := h
      refine ⟨a1, a2, by omega, by simp, ?_, a6, a7, a8⟩
      intro c d hcd
      simp only [Except.ok.injEq, Prod.mk.injEq] at hcd
      obtain ⟨rfl, rfl⟩ := hcd
      exact ⟨a5', fun hc' => absurd hc' hw, fun _ => a3⟩

/-- `_read_until_close` with a whole-command limit `T`: the total test follows every yielded item and every
    yielded item cost at least one tick (its OKAY was sent), so the loop entered within the limit never runs
    out of fuel and ends at most one iteration (one `read` + one send) after the limit -/
theorem readUntilCloseLoop_time {t : Txn} {start R τ T D : Int} {fuel : Nat} {acc : List Bytes} {w : World}
    (hrt : t.rt = some R) (htt : t.tt = some τ) (htot : t.total = some T) (hR : 0 ≤ R) (hτ : 0 ≤ τ)
    (hc : w.CallCost D) (hlk : w.locks = []) (hnow : w.now - start ≤ T) (hfuel : T - (w.now - start) < fuel)
    (hs : parkedCount w.store + (T - (w.now - start)) + R < w.fuel) :
    ∀ r w', readUntilCloseLoop t start fuel acc w = (r, w') →
      w.now ≤ w'.now ∧ w'.now - start ≤ T + ((R + 2 * (R + max D τ)) + (R + max D τ)) ∧ w'.CallCost D ∧
      (∀ e, r = .error e → e ∈ streamErrs) := by
  refine deadlineLoop (loop := readUntilCloseLoop t start)
    (Inv := fun _ w0 => w0.CallCost D ∧ w0.locks = [] ∧ parkedCount w0.store + (T - (w0.now - start)) + R < w0.fuel)
    ?_ ⟨hc, hlk, hs⟩ hnow hfuel
  intro fuel acc w0 r w' h ⟨hc, hlk, hs⟩ hnow
  rw [readUntilCloseLoop, bind_run] at h
  rcases h1 : readUntil [.CLSE, .WRTE] t w0 with ⟨r1, w1⟩
  obtain ⟨a1, a2, a3, a4, a5, a6, a7, a8⟩ := readUntil_time h1 hrt htt hR hτ hc hlk (by omega)
  rw [h1] at h
  cases r1 with
  | error e =>
    cases h
    exact .inl ⟨a2, a3, a1, fun _ he => by cases he; exact a4 _ rfl⟩
  | ok cd =>
    obtain ⟨c, d⟩ := cd
    obtain ⟨a5a, a5b, a5c⟩ := a5 c d rfl
    simp only at h
    by_cases hcl : c = Cmd.CLSE
    · simp only [hcl, if_true] at h
      have a5c' := a5c (by rw [hcl]; decide)
      rw [bind_run] at h
      rcases h2 : ioSend ⟨.CLSE, t.localId.getD 0, t.remoteId.getD 0, []⟩ t w1 with ⟨r2, w2⟩
      obtain ⟨b1, b2, b3, b4, b5, b6, b7, b8, b9⟩ :=
        ioSend_time h2 hrt htt hR hτ a1 (by rw [a7]; omega) (by simp [a8])
      have hb2 : w2.now - w0.now ≤ (R + 2 * (R + max D τ)) + (R + max D τ) := by have := b4 rfl; omega
      rw [h2] at h
      cases r2 with
      | error e =>
        cases h
        exact .inl ⟨Int.le_trans a2 b2, hb2, b1, fun _ he => by cases he; exact sendErrs_sub_streamErrs (b5 _ rfl)⟩
      | ok u =>
        cases h
        exact .inl ⟨Int.le_trans a2 b2, hb2, b1, by simp⟩
    · have hwr : c = Cmd.WRTE := by
        simp only [List.contains_cons, List.contains_nil, Bool.or_false, Bool.or_eq_true, beq_iff_eq] at a5a
        rcases a5a with h0 | h0
        · exact absurd h0 hcl
        · exact h0
      have a5b' := a5b hwr
      simp only [hcl, if_false] at h
      rw [bind_run, emit_run] at h
      simp only [htot] at h
      rw [timeoutCheck_run] at h
      simp only at h
      split at h
      · cases h
        exact .inl ⟨a2, a3, a1, by simp [streamErrs, ioReadErrs, pktErrs]⟩
      · next hpass =>
        refine .inr ⟨_, _, h, ⟨a1, a8, ?_⟩, Int.lt_of_sub_pos a5b', Int.not_lt.mp hpass⟩
        show parkedCount w1.store + (T - (w1.now - start)) + R < w1.fuel
        omega

theorem readUntilClose_time {t : Txn} {R τ T D : Int} {w : World}
    {r : Except Err (List Bytes)} {w' : World} (h : readUntilClose t w = (r, w'))
    (hrt : t.rt = some R) (htt : t.tt = some τ) (htot : t.total = some T) (hR : 0 ≤ R) (hτ : 0 ≤ τ) (hT : 0 ≤ T)
    (hc : w.CallCost D) (hlk : w.locks = []) (hs : parkedCount w.store + T + R < w.fuel) :
    w'.CallCost D ∧ w.now ≤ w'.now ∧ w'.now - w.now ≤ T + ((R + 2 * (R + max D τ)) + (R + max D τ)) ∧
    (∀ e, r = .error e → e ∈ streamErrs) := by
  simp only [readUntilClose, bind_run, now_run, M.get_run] at h
  obtain ⟨h1, h2, h3, h4⟩ := readUntilCloseLoop_time hrt htt htot hR hτ hc hlk (by omega) (by omega) (by omega) _ _ h
  exact ⟨h3, h1, by omega, h4⟩

/-! ### example worlds for the non-vacuity examples of C11 -/

/-- the exception of a result, if any (so that concrete results can be compared with `decide`) -/
def c11ErrOf {α : Type} : Except Err α → Option Err
  | .error e => some e
  | .ok _ => none

theorem eq_error_of_c11ErrOf {α : Type} {x : Except Err α} {e : Err} (h : c11ErrOf x = some e) : x = .error e := by
  cases x <;> simp_all [c11ErrOf]

/-- a transaction with transport timeout 50 ticks and read timeout 1024 ticks (1 s), no whole-command limit -/
def c11Txn : Txn := ⟨some 1, none, some 50, some 1024, none⟩

/-- total silence: an open connection that will never send anything, every call costs 1 tick -/
def c11Silent : World := { cur := some { dt := 1 }, fuel := 2000 }

/-- trickle: 64 bytes are available but every read returns a single byte and takes 600 ticks -/
def c11Trickle : World :=
  { cur := some { dt := 600, segs := [⟨0, List.replicate 64 0⟩], frags := List.replicate 64 1 }, fuel := 2000 }

/-- end-of-stream: every read returns `b''` after 600 ticks -/
def c11Eof : World := { cur := some { dt := 600, isEof := true }, fuel := 2000 }

/-- a flood of WRTE packets for another stream (local id 9), each header read costs 600 ticks -/
def c11Flood : World :=
  { cur := some { dt := 600, segs := [⟨0, (List.replicate 3 (Msg.mk .WRTE 7 9 []).encode).flatten⟩] }, fuel := 2000 }

/-- a device that keeps sending WRTE packets for our stream (local id 1, remote id 7); every call costs 300 ticks -/
def c11Stream : World :=
  { cur := some { dt := 300, segs := [⟨0, (List.replicate 3 (Msg.mk .WRTE 7 1 [65]).encode).flatten⟩] }, fuel := 5000 }

/-- read timeout 1000 ticks, whole-command limit 1000 ticks -/
def c11StreamTxn : Txn := ⟨some 1, some 7, some 50, some 1000, some 1000⟩

end Adb
