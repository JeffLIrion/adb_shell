import AdbModel.Tcp
/-
  Helper lemmas for C18 (TCP transports): the wrappers under `SockSem`, the concrete socket `simSock`
  satisfies `SockSem`, and the invariant of the trace acceptor.
-/
namespace Adb.Tcp

variable {σ : Type}

/-! ### The wrappers under `SockSem` -/

theorem connect_eq (S : Sock σ) (w : σ) (s : TState) (t : Timeout) :
    connect S w s t = ((S.openConn w t).1, match (S.openConn w t).2 with
      | some c => ({ conn := some c, nonblocking := t.truthy }, true)
      | none => (s, false)) := by
  unfold connect
  rcases S.openConn w t with ⟨w', _ | c⟩ <;> rfl

/-- `bulk_read` on a connected transport, outcome by outcome: the async zero-length shortcut, a timed-out
    wait, or a wait followed by `recv`. -/
theorem bulkRead_cases (S : Sock σ) (async : Bool) (w : σ) {s : TState} {c : SockId} (hc : s.conn = some c)
    (n : Nat) (t : Timeout) :
    (async = true ∧ n = 0 ∧ bulkRead S async w s n t = (w, .data [])) ∨
    (∃ w1, S.waitReadable w c t = (w1, false) ∧ bulkRead S async w s n t = (w1, .timeout)) ∨
    (∃ w1, S.waitReadable w c t = (w1, true) ∧
      bulkRead S async w s n t = ((S.recv w1 c n).1, .data (S.recv w1 c n).2)) := by
  unfold bulkRead
  simp only [hc]
  by_cases hz : (async && n == 0) = true
  · rw [if_pos hz]
    simp only [Bool.and_eq_true, beq_iff_eq] at hz
    exact Or.inl ⟨hz.1, hz.2, rfl⟩
  · rw [if_neg hz]
    rcases S.waitReadable w c t with ⟨w1, _ | _⟩
    · exact Or.inr (Or.inl ⟨w1, rfl, rfl⟩)
    · exact Or.inr (Or.inr ⟨w1, rfl, rfl⟩)

/-- `bulk_write` on a connected transport, outcome by outcome: async `write` + `drain` (in time or not);
    sync wait for writability (timed out, or followed by one `send`). -/
theorem bulkWrite_cases (S : Sock σ) (async : Bool) (w : σ) {s : TState} {c : SockId} (hc : s.conn = some c)
    (data : Bytes) (t : Timeout) :
    (async = true ∧ ∃ w1 r, S.sendAll w c data t = (w1, r) ∧
      bulkWrite S async w s data t = (w1, if r then .count data.length else .timeout)) ∨
    (async = false ∧ ∃ w1, (S.waitWritable w c t = (w1, false) ∧ bulkWrite S async w s data t = (w1, .timeout)) ∨
      (S.waitWritable w c t = (w1, true) ∧
        bulkWrite S async w s data t = ((S.send w1 c data).1, .count (S.send w1 c data).2))) := by
  unfold bulkWrite
  simp only [hc]
  cases async with
  | true =>
    rcases S.sendAll w c data t with ⟨w1, _ | _⟩
    · exact Or.inl ⟨rfl, w1, false, rfl, rfl⟩
    · exact Or.inl ⟨rfl, w1, true, rfl, rfl⟩
  | false =>
    rcases S.waitWritable w c t with ⟨w1, _ | _⟩
    · exact Or.inr ⟨rfl, w1, Or.inl ⟨rfl, rfl⟩⟩
    · exact Or.inr ⟨rfl, w1, Or.inr ⟨rfl, rfl⟩⟩

theorem bulkRead_connected {S : Sock σ} {async : Bool} {w : σ} {s : TState} {c : SockId} {n : Nat} {t : Timeout}
    (hc : s.conn = some c) : (bulkRead S async w s n t).2 ≠ .notConnected := by
  rcases bulkRead_cases S async w hc n t with ⟨_, _, e⟩ | ⟨_, _, e⟩ | ⟨_, _, e⟩ <;> rw [e] <;> nofun

theorem bulkWrite_connected {S : Sock σ} {async : Bool} {w : σ} {s : TState} {c : SockId} {data : Bytes} {t : Timeout}
    (hc : s.conn = some c) : (bulkWrite S async w s data t).2 ≠ .notConnected := by
  rcases bulkWrite_cases S async w hc data t with ⟨_, w1, r, _, e⟩ | ⟨_, w1, ⟨_, e⟩ | ⟨_, e⟩⟩
  · rw [e]; cases r <;> nofun
  · rw [e]; nofun
  · rw [e]; nofun

/-- one successful read: at most `n` bytes, taken off the front of the buffered stream -/
theorem bulkRead_data_sem {S : Sock σ} (hS : SockSem S) {async : Bool} {w w' : σ} {s : TState} {c : SockId}
    {n : Nat} {t : Timeout} {bs : Bytes} (hc : s.conn = some c)
    (h : bulkRead S async w s n t = (w', .data bs)) :
    bs.length ≤ n ∧ ∃ extra, bs ++ S.buffered w' c = S.buffered w c ++ extra := by
  rcases bulkRead_cases S async w hc n t with ⟨_, _, e⟩ | ⟨_, _, e⟩ | ⟨w1, hwait, e⟩ <;> rw [e] at h <;> cases h
  · exact ⟨Nat.zero_le _, [], by simp⟩
  · obtain ⟨e1, he1⟩ := hS.wait_appends _ _ _ _ _ hwait
    obtain ⟨hlen, e2, he2⟩ := hS.recv_prefix _ _ _ _ _ rfl ((hS.wait_readable _ _ _ _ _ hwait).1 rfl)
    exact ⟨hlen, e1 ++ e2, by rw [he2, he1, List.append_assoc]⟩

/-- a timeout: nothing was buffered, nothing is buffered, and the whole timeout has passed -/
theorem bulkRead_timeout_sem {S : Sock σ} (hS : SockSem S) {async : Bool} {w w' : σ} {s : TState} {c : SockId}
    {n : Nat} {t : Timeout} (hc : s.conn = some c)
    (h : bulkRead S async w s n t = (w', .timeout)) :
    S.buffered w c = [] ∧ S.buffered w' c = [] ∧ ∃ d, t = some d ∧ S.now w' = S.now w + d := by
  rcases bulkRead_cases S async w hc n t with ⟨_, _, e⟩ | ⟨w1, hwait, e⟩ | ⟨_, _, e⟩ <;> rw [e] at h <;> cases h
  obtain ⟨e1, he1⟩ := hS.wait_appends _ _ _ _ _ hwait
  have hb' : S.buffered w' c = [] :=
    Classical.not_not.1 fun hb => Bool.false_ne_true ((hS.wait_readable _ _ _ _ _ hwait).2 (Or.inl hb))
  rw [hb'] at he1
  exact ⟨(List.append_eq_nil_iff.mp he1.symm).1, hb', hS.wait_timeout _ _ _ _ _ hwait rfl⟩

theorem readContract {S : Sock σ} (hS : SockSem S) (async : Bool) : ReadContract S (bulkRead S async) where
  le_requested := by
    intro w s n t w' bs h
    cases hc : s.conn with
    | none => rw [bulkRead, hc] at h; cases h
    | some c => exact (bulkRead_data_sem hS hc h).1
  removes_prefix := fun _ _ _ _ _ _ _ hc h => (bulkRead_data_sem hS hc h).2
  timeout_keeps := fun _ _ _ _ _ _ hc h => bulkRead_timeout_sem hS hc h
  connected_ok := fun _ _ _ _ _ hc => bulkRead_connected hc

/-- any sequence of reads: what they returned, followed by what is still buffered, is what was buffered
    at the start followed by what the peer wrote meanwhile -/
theorem runReads_sem {S : Sock σ} (hS : SockSem S) (async : Bool) (s : TState) (c : SockId) (hc : s.conn = some c)
    (calls : List (Nat × Timeout)) : ∀ (w wf : σ) (outs : List RdRes), runReads S async s w calls = (wf, outs) →
    ∃ later, dataOf outs ++ S.buffered wf c = S.buffered w c ++ later := by
  induction calls with
  | nil =>
    intro w wf outs h
    simp only [runReads, Prod.mk.injEq] at h
    obtain ⟨rfl, rfl⟩ := h
    exact ⟨[], by simp [dataOf]⟩
  | cons call rest ih =>
    intro w wf outs h
    obtain ⟨n, t⟩ := call
    simp only [runReads] at h
    cases h1 : bulkRead S async w s n t with
    | mk w1 r =>
      cases h2 : runReads S async s w1 rest with
      | mk w2 rs =>
        simp only [h1, h2, Prod.mk.injEq] at h
        obtain ⟨rfl, rfl⟩ := h
        obtain ⟨l2, hl2⟩ := ih w1 w2 rs h2
        cases r with
        | data bs =>
          obtain ⟨_, e, he⟩ := bulkRead_data_sem hS hc h1
          refine ⟨e ++ l2, ?_⟩
          simp only [dataOf]
          rw [List.append_assoc, hl2, ← List.append_assoc, he, List.append_assoc]
        | timeout =>
          obtain ⟨hb, hb', _⟩ := bulkRead_timeout_sem hS hc h1
          refine ⟨l2, ?_⟩
          simp only [dataOf]
          rw [hl2, hb, hb']
        | notConnected =>
          exact absurd (congrArg Prod.snd h1) (bulkRead_connected hc)

/-! ### `simSock` satisfies the assumptions -/

theorem simWait_sem (w : SimWorld) (t : Timeout) (w' : SimWorld) (r : Bool) (h : simWait w t = (w', r)) :
    (∃ extra, w'.buf = w.buf ++ extra) ∧ (r = true ↔ (w'.buf ≠ [] ∨ w'.eof = true)) ∧
    (r = false → ∃ d, t = some d ∧ w'.now = w.now + d) := by
  unfold simWait at h
  by_cases h0 : w.buf ≠ [] ∨ w.eof = true
  · rw [if_pos h0] at h
    cases h
    exact ⟨⟨[], (List.append_nil _).symm⟩, ⟨fun _ => h0, fun _ => rfl⟩, nofun⟩
  · rw [if_neg h0] at h
    have hb : w.buf = [] := Classical.not_not.1 fun hb => h0 (Or.inl hb)
    have he : ¬ w.eof = true := fun he => h0 (Or.inr he)
    -- the peer's next scripted action: write `x` (`hx`: a real write), stay idle, or nothing scripted
    have idle : ∀ d, (∃ extra, w.buf = w.buf ++ extra) ∧ (false = true ↔ (w.buf ≠ [] ∨ w.eof = true)) ∧
        (false = false → ∃ d', some d = some d' ∧ w.now + d = w.now + d') :=
      fun d => ⟨⟨[], (List.append_nil _).symm⟩, ⟨nofun, fun h => absurd h h0⟩, fun _ => ⟨d, rfl, rfl⟩⟩
    have wrote : ∀ x : Bytes, x ≠ [] → (∃ extra, x = w.buf ++ extra) ∧ (true = true ↔ (x ≠ [] ∨ w.eof = true)) ∧
        (true = false → ∃ d', t = some d' ∧ w.now = w.now + d') :=
      fun x hx => ⟨⟨x, by rw [hb]; rfl⟩, ⟨fun _ => Or.inl hx, fun _ => rfl⟩, nofun⟩
    have closed : (∃ extra, w.buf = w.buf ++ extra) ∧ (true = true ↔ (w.buf ≠ [] ∨ true = true)) ∧
        (true = false → ∃ d', t = some d' ∧ w.now = w.now + d') :=
      ⟨⟨[], (List.append_nil _).symm⟩, ⟨fun _ => Or.inr rfl, fun _ => rfl⟩, nofun⟩
    rcases hs : w.script with _ | ⟨x, rest⟩ <;> rcases t with _ | d <;> simp only [hs] at h
    · cases h; exact closed
    · cases h; exact idle d
    · by_cases hx : x = []
      · rw [if_pos hx] at h; cases h; exact closed
      · rw [if_neg hx] at h; cases h; exact wrote x hx
    · by_cases hx : x = []
      · rw [if_pos hx] at h; cases h; exact idle d
      · rw [if_neg hx] at h; cases h; exact wrote x hx

theorem simSock_sem : SockSem simSock where
  wait_appends := fun w _ t w' r h => (simWait_sem w t w' r h).1
  wait_readable := fun w _ t w' r h => (simWait_sem w t w' r h).2.1
  wait_timeout := fun w _ t w' r h => (simWait_sem w t w' r h).2.2
  recv_prefix := by
    intro w c n w' bs h _
    cases h
    exact ⟨Nat.le_trans (List.length_take_le _ _) (Nat.min_le_left _ _), [], by simp [simSock]⟩
  recv_nonempty := by
    intro w c n w' bs h _ hbs
    cases h
    rcases List.take_eq_nil_iff.mp hbs with h0 | h0
    · left; omega
    · right; exact h0
  send_count := by
    intro w c data w' k h
    cases h
    refine ⟨Nat.min_le_left _ _, fun hd => ?_, rfl⟩
    have : 0 < data.length := List.length_pos_iff.mpr hd
    omega
  waitw_sent := by
    intro w c t w' r h
    cases h
    rfl
  sendall_sent := by
    intro w c data t w' r h
    cases h
    rfl

/-! ### The acceptor -/

theorem sinceConnect_snoc (l : List Ev) (e : Ev) :
    sinceConnect (l ++ [e]) = if e = .connect then [] else sinceConnect l ++ [e] := by
  simp [sinceConnect, List.foldl_append]

theorem connectedAfter_snoc (l : List Ev) (e : Ev) :
    connectedAfter (l ++ [e]) = if e = .connect then true else if e = .close then false else connectedAfter l := by
  simp [connectedAfter, List.foldl_append]

def Ev.wrote : Ev → Bytes
  | .peerWrite bs => bs
  | _ => []

def Ev.got : Ev → Bytes
  | .read _ bs => bs
  | _ => []

/-- one step of `writeProgress` -/
def progStep (p : Nat × Nat) : Ev → Nat × Nat
  | .peerWrite bs => (p.1 + bs.length, p.2)
  | .peerDone => (p.1, p.1)
  | _ => p

theorem writtenBytes_snoc (l : List Ev) (e : Ev) : writtenBytes (l ++ [e]) = writtenBytes l ++ e.wrote := by
  rw [writtenBytes, List.filterMap_append, List.flatten_append]
  congr 1
  cases e with
  | peerWrite bs => exact List.append_nil bs
  | _ => rfl

theorem readBytes_snoc (l : List Ev) (e : Ev) : readBytes (l ++ [e]) = readBytes l ++ e.got := by
  rw [readBytes, List.filterMap_append, List.flatten_append]
  congr 1
  cases e with
  | read n bs => exact List.append_nil bs
  | _ => rfl

theorem writeProgress_snoc (l : List Ev) (e : Ev) : writeProgress (l ++ [e]) = progStep (writeProgress l) e := by
  rw [writeProgress, List.foldl_append]; cases e <;> rfl

theorem run_append (s : St) (l1 l2 : List Ev) :
    run s (l1 ++ l2) = (match run s l1 with | .ok s' => run s' l2 | .error r => .error r) := by
  induction l1 generalizing s with
  | nil => simp [run]
  | cons e es ih =>
    simp only [List.cons_append, run]
    cases step s e with
    | ok s' => simp only [ih]
    | error r => rfl

theorem run_split {s sf : St} {pre : List Ev} {e : Ev} {post : List Ev}
    (h : run s (pre ++ e :: post) = .ok sf) :
    ∃ s1 s2, run s pre = .ok s1 ∧ step s1 e = .ok s2 ∧ run s2 post = .ok sf := by
  rw [run_append] at h
  cases h1 : run s pre with
  | error r => simp [h1] at h
  | ok s1 =>
    simp only [h1, run] at h
    cases h2 : step s1 e with
    | error r => simp [h2] at h
    | ok s2 =>
      simp only [h2] at h
      exact ⟨s1, s2, rfl, h2, h⟩

theorem accepts_iff (tr : List Ev) : accepts tr = true ↔ ∃ sf, run {} tr = .ok sf := by
  unfold accepts
  cases run {} tr with
  | ok s => simp
  | error r => simp

/-! step inversions -/

theorem of_guard {c : Prop} [Decidable c] {r : Reason} {x : Except Reason St} {s' : St}
    (h : (if c then .error r else x) = .ok s') : ¬ c ∧ x = .ok s' := by
  split at h
  · cases h
  · exact ⟨‹_›, h⟩

theorem isOpen_of_not {s : St} (h : ¬ (!s.isOpen) = true) : s.isOpen = true := by
  cases ho : s.isOpen
  · rw [ho] at h; exact absurd rfl h
  · rfl

theorem pending_none_of_not {s : St} (h : ¬ s.pending.isSome = true) : s.pending = none := by
  cases hp : s.pending
  · rfl
  · rw [hp] at h; exact absurd rfl h

theorem step_readStart_ok {s s' : St} {n : Nat} (h : step s (.readStart n) = .ok s') :
    s.isOpen = true ∧ s.pending = none ∧ s' = { s with pending := some (n, s.doneLen) } := by
  rw [step] at h
  obtain ⟨h1, h⟩ := of_guard h
  obtain ⟨h2, h⟩ := of_guard h
  cases h
  exact ⟨isOpen_of_not h1, pending_none_of_not h2, rfl⟩

theorem step_write_ok {s s' : St} {len k : Nat} (h : step s (.write len k) = .ok s') :
    s.isOpen = true ∧ s.pending = none ∧ k ≤ len ∧ (len ≠ 0 → k ≠ 0) ∧ s' = s := by
  rw [step] at h
  obtain ⟨h1, h⟩ := of_guard h
  obtain ⟨h2, h⟩ := of_guard h
  obtain ⟨h3, h⟩ := of_guard h
  cases h
  simp only [Bool.or_eq_true, Bool.and_eq_true, decide_eq_true_eq, beq_iff_eq, not_or, not_and] at h3
  exact ⟨isOpen_of_not h1, pending_none_of_not h2, Nat.not_lt.1 h3.1, h3.2, rfl⟩

theorem step_close_ok {s s' : St} (h : step s .close = .ok s') :
    s.pending = none ∧ s' = { s with isOpen := false } := by
  rw [step] at h
  obtain ⟨h2, h⟩ := of_guard h
  cases h
  exact ⟨pending_none_of_not h2, rfl⟩

theorem step_connect_ok {s s' : St} (h : step s .connect = .ok s') :
    s.pending = none ∧ s' = { isOpen := true } := by
  rw [step] at h
  obtain ⟨h2, h⟩ := of_guard h
  cases h
  exact ⟨pending_none_of_not h2, rfl⟩

/-- the checks shared by the two ends of a read (`read`, `readTimeout`): connected, and a read of that size pending -/
theorem of_pending {s s' : St} {n : Nat} {k : Nat → Except Reason St}
    (h : (if (!s.isOpen) = true then Except.error Reason.notConnected else
          match s.pending with
          | none => .error .noReadPending
          | some (m, d0) => if m ≠ n then .error .noReadPending else k d0) = .ok s') :
    s.isOpen = true ∧ ∃ d0, s.pending = some (n, d0) ∧ k d0 = .ok s' := by
  obtain ⟨h1, h⟩ := of_guard h
  cases hp : s.pending with
  | none => rw [hp] at h; cases h
  | some p =>
    obtain ⟨m, d0⟩ := p
    rw [hp] at h
    obtain ⟨h2, hk⟩ := of_guard h
    cases Classical.not_not.1 h2
    exact ⟨isOpen_of_not h1, d0, rfl, hk⟩

theorem step_readTimeout_ok {s s' : St} {n : Nat} (h : step s (.readTimeout n) = .ok s') :
    s.isOpen = true ∧ (∃ d0, s.pending = some (n, d0) ∧ d0 ≤ s.gotLen) ∧ s' = { s with pending := none } := by
  rw [step] at h
  obtain ⟨h1, d0, hp, h⟩ := of_pending h
  obtain ⟨h3, h⟩ := of_guard h
  cases h
  exact ⟨h1, ⟨d0, hp, Nat.not_lt.1 h3⟩, rfl⟩

theorem step_read_ok {s s' : St} {n : Nat} {bs : Bytes} (h : step s (.read n bs) = .ok s') :
    s.isOpen = true ∧ (∃ d0, s.pending = some (n, d0)) ∧ bs.length ≤ n ∧ bs <+: s.unread ∧
    (bs = [] → n = 0 ∨ s.peerClosed = true) ∧
    s' = { s with unread := s.unread.drop bs.length, gotLen := s.gotLen + bs.length, pending := none } := by
  rw [step] at h
  obtain ⟨h1, d0, hp, h⟩ := of_pending h
  obtain ⟨h3, h⟩ := of_guard h
  obtain ⟨h4, h⟩ := of_guard h
  obtain ⟨h5, h⟩ := of_guard h
  cases h
  refine ⟨h1, ⟨d0, hp⟩, Nat.not_lt.1 h3, List.isPrefixOf_iff_prefix.mp (by simpa using h4), ?_, rfl⟩
  rintro rfl
  cases hc : s.peerClosed
  · exact Or.inl (Decidable.byContradiction fun h0 => h5 (by simp [hc, h0]))
  · exact Or.inr rfl

/-- What the acceptor's state means, in terms of the plain list functions. -/
structure Inv (pre : List Ev) (s : St) : Prop where
  open_eq : s.isOpen = connectedAfter pre
  stream : writtenBytes (sinceConnect pre) = readBytes (sinceConnect pre) ++ s.unread
  got : s.gotLen = (readBytes (sinceConnect pre)).length
  prog : (s.begunLen, s.doneLen) = writeProgress (sinceConnect pre)
  eofb : s.peerClosed = true ↔ Ev.peerEof ∈ sinceConnect pre
  pend : ∀ n d0, s.pending = some (n, d0) →
    ∃ p1 mid, pre = p1 ++ .readStart n :: mid ∧ (∀ e ∈ mid, e.isPeer = true) ∧
      d0 = completedLen (sinceConnect p1) ∧ s.gotLen = (readBytes (sinceConnect p1)).length

theorem inv_init : Inv [] {} where
  open_eq := rfl
  stream := rfl
  got := rfl
  prog := rfl
  eofb := by simp [sinceConnect]
  pend := by intro n d0 h; simp at h

/-- Preservation for every event other than `connect`, from how the event changes the state: each hypothesis
    mirrors the `_snoc` equation of the list function the corresponding field stands for. -/
theorem inv_snoc {pre : List Ev} {s s' : St} {e : Ev} (hI : Inv pre s) (hne : e ≠ .connect)
    (hopen : s'.isOpen = if e = .close then false else s.isOpen)
    (hstream : s.unread ++ e.wrote = e.got ++ s'.unread)
    (hgot : s'.gotLen = s.gotLen + e.got.length)
    (hprog : (s'.begunLen, s'.doneLen) = progStep (s.begunLen, s.doneLen) e)
    (heof : s'.peerClosed = true ↔ s.peerClosed = true ∨ Ev.peerEof = e)
    (hpend : ∀ n d0, s'.pending = some (n, d0) →
      (s.pending = some (n, d0) ∧ e.isPeer = true ∧ s'.gotLen = s.gotLen) ∨
      (e = .readStart n ∧ d0 = s.doneLen ∧ s'.gotLen = s.gotLen)) :
    Inv (pre ++ [e]) s' := by
  have hsc : sinceConnect (pre ++ [e]) = sinceConnect pre ++ [e] := by rw [sinceConnect_snoc, if_neg hne]
  refine ⟨?_, ?_, ?_, ?_, ?_, ?_⟩
  · rw [connectedAfter_snoc, if_neg hne, hopen, hI.open_eq]
  · rw [hsc, writtenBytes_snoc, readBytes_snoc, hI.stream, List.append_assoc, hstream, List.append_assoc]
  · rw [hsc, readBytes_snoc, List.length_append, ← hI.got, hgot]
  · rw [hsc, writeProgress_snoc, ← hI.prog, hprog]
  · rw [hsc, List.mem_append, List.mem_singleton, ← hI.eofb, heof]
  · intro n d0 hp
    rcases hpend n d0 hp with ⟨hp0, hpeer, hg⟩ | ⟨rfl, rfl, hg⟩
    · obtain ⟨p1, mid, h1, h2, h3, h4⟩ := hI.pend n d0 hp0
      exact ⟨p1, mid ++ [e], by rw [h1]; simp,
        List.forall_mem_append.2 ⟨h2, List.forall_mem_singleton.2 hpeer⟩, h3, hg.trans h4⟩
    · refine ⟨pre, [], rfl, nofun, ?_, hg.trans hI.got⟩
      rw [completedLen, ← hI.prog]

theorem inv_step {pre : List Ev} {s s' : St} {e : Ev} (hI : Inv pre s) (h : step s e = .ok s') :
    Inv (pre ++ [e]) s' := by
  cases e with
  | peerWrite bs =>
    cases h
    exact inv_snoc hI nofun rfl rfl rfl rfl (by simp) fun n d0 hp => Or.inl ⟨hp, rfl, rfl⟩
  | peerDone | peerEof =>
    cases h
    exact inv_snoc hI nofun rfl (List.append_nil _) rfl rfl (by simp) fun n d0 hp => Or.inl ⟨hp, rfl, rfl⟩
  | readStart n =>
    obtain ⟨_, _, rfl⟩ := step_readStart_ok h
    refine inv_snoc hI nofun rfl (List.append_nil _) rfl rfl (by simp) fun m d0 hp => Or.inr ?_
    cases hp
    exact ⟨rfl, rfl, rfl⟩
  | read n bs =>
    obtain ⟨_, _, _, hpre, _, rfl⟩ := step_read_ok h
    refine inv_snoc hI nofun rfl ?_ rfl rfl (by simp) nofun
    exact (List.append_nil _).trans (List.prefix_iff_eq_append.mp hpre).symm
  | readTimeout n =>
    obtain ⟨_, _, rfl⟩ := step_readTimeout_ok h
    exact inv_snoc hI nofun rfl (List.append_nil _) rfl rfl (by simp) nofun
  | write len k =>
    obtain ⟨_, hp, _, _, rfl⟩ := step_write_ok h
    refine inv_snoc hI nofun rfl (List.append_nil _) rfl rfl (by simp) fun m d0 hpm => ?_
    rw [hp] at hpm; cases hpm
  | close =>
    obtain ⟨hp, rfl⟩ := step_close_ok h
    refine inv_snoc hI nofun rfl (List.append_nil _) rfl rfl (by simp) fun m d0 hpm => ?_
    rw [hp] at hpm; cases hpm
  | connect =>
    obtain ⟨_, rfl⟩ := step_connect_ok h
    have hsc : sinceConnect (pre ++ [Ev.connect]) = [] := by rw [sinceConnect_snoc, if_pos rfl]
    refine ⟨?_, ?_, ?_, ?_, ?_, nofun⟩
    · rw [connectedAfter_snoc, if_pos rfl]
    all_goals rw [hsc]
    · rfl
    · rfl
    · rfl
    · simp

theorem inv_run_from {pre l : List Ev} {s s' : St} (hI : Inv pre s) (h : run s l = .ok s') :
    Inv (pre ++ l) s' := by
  induction l generalizing pre s with
  | nil => cases h; rwa [List.append_nil]
  | cons e es ih =>
    rw [run] at h
    cases hs : step s e with
    | error r => rw [hs] at h; cases h
    | ok s1 =>
      rw [hs] at h
      have := ih (inv_step hI hs) h
      rwa [List.append_assoc] at this

theorem inv_run (pre : List Ev) (s : St) (h : run {} pre = .ok s) : Inv pre s :=
  inv_run_from inv_init h

/-- the working form of soundness: at any event of an accepted trace, the acceptor's state before it
    satisfies `Inv` for the events so far and its check of the event passed -/
theorem accepted_at {tr pre post : List Ev} {e : Ev} (h : accepts tr = true) (hsplit : tr = pre ++ e :: post) :
    ∃ s s', Inv pre s ∧ step s e = .ok s' := by
  obtain ⟨sf, hsf⟩ := (accepts_iff tr).mp h
  rw [hsplit] at hsf
  obtain ⟨s1, s2, h1, h2, _⟩ := run_split hsf
  exact ⟨s1, s2, inv_run pre s1 h1, h2⟩

theorem accepted_prefix {tr pre post : List Ev} (h : accepts tr = true) (hsplit : tr = pre ++ post) :
    ∃ s, Inv pre s := by
  obtain ⟨sf, hsf⟩ := (accepts_iff tr).mp h
  rw [hsplit, run_append] at hsf
  cases h1 : run {} pre with
  | error r => simp [h1] at hsf
  | ok s1 => exact ⟨s1, inv_run pre s1 h1⟩

/-- a list has at most one decomposition `a ++ x :: m` with `x` a host event and `m` peer events only -/
theorem split_unique (a b m1 m2 : List Ev) (x y : Ev) (hx : x.isPeer = false) (hy : y.isPeer = false)
    (h1 : ∀ e ∈ m1, e.isPeer = true) (h2 : ∀ e ∈ m2, e.isPeer = true)
    (heq : a ++ x :: m1 = b ++ y :: m2) : a = b ∧ m1 = m2 := by
  -- one of `a`, `b` extends the other; a proper extension would put `y` into `m1` (or `x` into `m2`)
  rcases List.append_eq_append_iff.mp heq with ⟨a', rfl, h⟩ | ⟨c', rfl, h⟩
  · cases a' with
    | nil => cases h; exact ⟨(List.append_nil _).symm, rfl⟩
    | cons z a'' =>
      cases h
      rw [h1 y (List.mem_append_right _ (List.mem_cons_self ..))] at hy
      cases hy
  · cases c' with
    | nil => cases h; exact ⟨List.append_nil _, rfl⟩
    | cons z c'' =>
      cases h
      rw [h2 x (List.mem_append_right _ (List.mem_cons_self ..))] at hx
      cases hx

end Adb.Tcp
