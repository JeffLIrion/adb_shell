import AdbProofs.Lemmas.PeerFrameOps
/- From `Pw` (PeerFrame.lean / PeerFrameOps.lean) to statements about the public API:
   `peerGot` readings, `connect` / `close`, the strict parser on concatenated encodings. -/
namespace Adb

/-- `pull` is the one operation with a `finally` clause that writes -/
def ApiOp.isPull : ApiOp → Bool
  | .pull .. => true
  | _ => false

/-- no scripted future connection has a peer that already received something -/
def World.FreshConns (w : World) : Prop := ∀ c ∈ w.conns, c.peerChunks = []

namespace PeerF

theorem Out.cancel {err : Prop} {T : List Msg} {p a b : Bytes} (h : Out err T (p ++ a) (p ++ b)) : Out err T a b := by
  cases h with
  | whole hp hb =>
    rw [List.append_assoc] at hb
    exact .whole hp (List.append_cancel_left hb)
  | broken ms m k he hT hp hk hu hb =>
    rw [List.append_assoc, List.append_assoc] at hb
    exact .broken ms m k he hT hp hk hu (by rw [List.append_cancel_left hb, List.append_assoc])

/-- the unpacked reading of `Out` used in the property statements -/
theorem Out.unpack {err : Prop} {T : List Msg} {a b : Bytes} (h : Out err T a b) :
    ∃ ms tail, (∀ m ∈ ms, m.Packable) ∧ b = a ++ flat ms ++ tail ∧
      ((tail = [] ∧ T = ms) ∨
       (err ∧ ∃ (m : Msg) (k : Nat), T = ms ++ [m] ∧ k < m.encode.length ∧ (¬ m.Packable → k = 0)
          ∧ tail = m.encode.take k)) := by
  cases h with
  | whole hp hb => exact ⟨T, [], hp, by simpa using hb, Or.inl ⟨rfl, rfl⟩⟩
  | broken ms m k he hT hp hk hu hb => exact ⟨ms, _, hp, hb, Or.inr ⟨he, m, k, hT, hk, hu, rfl⟩⟩

/-- strict functions: the same statement about the OPEN connection -/
theorem Pw.peerGot {α} {x : M α} (hx : Pw true x) {w w' : World} {r : Except Err α} (h : x w = (r, w')) :
    ∃ evs, w'.trace = evs ++ w.trace ∧ Out (Failed r) (transmitted evs) w.peerGot w'.peerGot ∧ w'.past = w.past := by
  obtain ⟨evs, ht, ho, hp⟩ := hx w r w' h
  have hp' : w'.past = w.past := hp.resolve_right fun h => nomatch h.1
  refine ⟨evs, ht, ?_, hp'⟩
  rw [World.peerAll, World.peerAll, hp'] at ho
  exact ho.cancel

theorem Pw2.peerGot {α} {x : M α} (hx : Pw2 true x) {w w' : World} {r : Except Err α} (h : x w = (r, w')) :
    ∃ evs1 evs2 mid, w'.trace = evs2 ++ evs1 ++ w.trace ∧ Out (Failed r) (transmitted evs1) w.peerGot mid ∧
      Out (Failed r) (transmitted evs2) mid w'.peerGot ∧ w'.past = w.past := by
  obtain ⟨e1, e2, mid, ht, ho1, ho2, hp⟩ := hx w r w' h
  have hp' : w'.past = w.past := hp.resolve_right fun h => nomatch h.1
  obtain ⟨b1, hb1, -⟩ := ho1.wellFormed
  subst hb1
  have e : w'.peerAll = w.past.reverse.flatten ++ w'.peerGot := by rw [World.peerAll, hp']
  rw [e, World.peerAll, List.append_assoc] at ho2
  rw [World.peerAll, List.append_assoc] at ho1
  exact ⟨e1, e2, w.peerGot ++ b1, ht, ho1.cancel, ho2.cancel, hp'⟩

theorem Pw2_of_Pw {s α} {x : M α} (hx : Pw s x) : Pw2 s x := by
  intro w r w' h
  obtain ⟨evs, ht, ho, hp⟩ := hx w r w' h
  exact ⟨evs, [], w'.peerAll, by simpa using ht, ho, Out.nil _, hp⟩

/-- every operation that talks over the established connection, except `pull` -/
theorem Pw_run (op : ApiOp) (hs : op.isStreamOp = true) (hp : op.isPull = false) : Pw true op.run := by
  cases op with
  | connect | close => cases hs
  | pull => cases hp
  | shell | execOut => exact Pw_devShellLike
  | root => exact Pw_devRoot
  | reboot => exact Pw_devReboot
  | streamingShell => exact Pw_devStreamingShell
  | list => exact Pw_devList
  | stat => exact Pw_devStat
  | push => exact Pw_devPush

/-- every operation that talks over the established connection, `pull` included -/
theorem Pw2_run (op : ApiOp) (hs : op.isStreamOp = true) : Pw2 true op.run := by
  by_cases hp : op.isPull = true
  · cases op <;> simp only [ApiOp.isPull, Bool.false_eq_true] at hp
    exact Pw2_devPull
  · exact Pw2_of_Pw (Pw_run op hs (by simpa using hp))

/-- `AdbDevice.connect`: what `ioConnect_peer` says, the steps around `_AdbIOManager.connect` write nothing -/
theorem devConnect_peer (keys : List Nat) (tt authT rt : Timeout) (hasCb : Bool)
    (w : World) (r : Except Err Val) (w' : World) (h : devConnect keys tt authT rt hasCb w = (r, w')) :
    ConnOut w r w' := by
  have triv : ∀ e : Err, ConnOut w (.error e : Except Err Val) w := fun _ => .quiet [] rfl rfl rfl
  unfold devConnect at h
  rcases bind_any_inv h with ⟨e, he, rfl⟩ | ⟨tt', w1, he, h⟩
  · simp only [getTT, Prod.mk.injEq] at he; obtain ⟨-, rfl⟩ := he; exact triv e
  simp only [getTT, Prod.mk.injEq] at he; obtain ⟨-, rfl⟩ := he
  rcases bind_any_inv h with ⟨e, he, rfl⟩ | ⟨t, w1, he, h⟩
  · simp only [liftExcept_run, Prod.mk.injEq] at he; obtain ⟨-, rfl⟩ := he; exact triv e
  simp only [liftExcept_run, Prod.mk.injEq] at he; obtain ⟨-, rfl⟩ := he
  rcases bind_any_inv h with ⟨e, he, rfl⟩ | ⟨u, w1, he, h⟩
  · simp at he
  simp only [M.modify_run, Prod.mk.injEq] at he; obtain ⟨-, rfl⟩ := he
  rcases bind_any_inv h with ⟨e, he, rfl⟩ | ⟨w0, w1, he, h⟩
  · simp at he
  simp only [M.get_run, Prod.mk.injEq] at he; obtain ⟨-, rfl⟩ := he
  rcases bind_any_inv h with ⟨e, he, rfl⟩ | ⟨md, w5, he, h⟩
  · obtain ⟨evs, base, ht, hb, ho, hk⟩ := ioConnect_peer _ _ _ _ _ _ _ _ he
    exact ⟨evs, base, ht, hb, ho.mono (fun _ => failed_error e), by simp⟩
  · obtain ⟨evs, base, ht, hb, ho, hk⟩ := ioConnect_peer _ _ _ _ _ _ _ _ he
    simp only [bind_run, M.modify_run, pure_run, Prod.mk.injEq] at h
    obtain ⟨rfl, rfl⟩ := h
    refine ⟨evs, base, ht, hb, ?_, fun v _ => hk md rfl⟩
    exact (ho.mono (not_failed_ok md)).mono (fun h => h.elim)

/-- `AdbDevice.close()`: nothing is written, nothing the peer had is forgotten -/
theorem devClose_peer (w : World) (r : Except Err Val) (w' : World) (h : devClose w = (r, w')) :
    ∃ evs, w'.trace = evs ++ w.trace ∧ transmitted evs = [] ∧ w'.peerAll = w.peerAll := by
  unfold devClose at h
  rcases bind_any_inv h with ⟨e, he, rfl⟩ | ⟨u, w1, he, h⟩
  · simp at he
  simp only [M.modify_run, Prod.mk.injEq] at he; obtain ⟨-, rfl⟩ := he
  rcases bind_any_inv h with ⟨e, he, rfl⟩ | ⟨u, w1, he, h⟩
  · exact (ioClose_peer _ _ _ he :)
  · simp only [pure_run, Prod.mk.injEq] at h
    obtain ⟨-, rfl⟩ := h
    exact (ioClose_peer _ _ _ he :)

theorem WellFormedStream.nil : WellFormedStream [] := ⟨[], [], by simp, rfl, Or.inl rfl⟩

theorem WellFormedStream.flat {ms : List Msg} (h : ∀ m ∈ ms, m.Packable) : WellFormedStream (flat ms) :=
  ⟨ms, [], h, by simp, Or.inl rfl⟩

/-- the bytes added are a well-formed stream; without an exception they are exactly the encodings of `T` -/
theorem Out.stream {err : Prop} {T : List Msg} {a b : Bytes} (h : Out err T a b) :
    ∃ bs, b = a ++ bs ∧ WellFormedStream bs ∧ (¬ err → bs = flat T ∧ ∀ m ∈ T, m.Packable) := by
  cases h with
  | whole hp hb => exact ⟨_, hb, WellFormedStream.flat hp, fun _ => ⟨rfl, hp⟩⟩
  | broken ms m k he hT hp hk hu hb =>
    obtain ⟨bs, hbs, hw⟩ := (Out.broken ms m k he hT hp hk hu hb : Out err T a b).wellFormed
    exact ⟨bs, hbs, hw, fun hn => (hn he).elim⟩

/-- a one-phase run in the shape of the summary over all operations: the second phase is empty -/
theorem Out.summary {α} {r : Except Err α} {T : List Msg} {a b : Bytes} (h : Out (Failed r) T a b) :
    ∃ bs1 bs2, b = a ++ bs1 ++ bs2 ∧ WellFormedStream bs1 ∧ WellFormedStream bs2 ∧ bs2 = [] ∧
      (∀ v, r = .ok v → ∃ ms : List Msg, (∀ m ∈ ms, m.Packable) ∧ bs1 ++ bs2 = (ms.map Msg.encode).flatten) := by
  obtain ⟨b1, hb1, hw1, hk1⟩ := h.stream
  refine ⟨b1, [], by rw [hb1, List.append_nil], hw1, WellFormedStream.nil, rfl, ?_⟩
  rintro v rfl
  obtain ⟨h1, p1⟩ := hk1 (not_failed_ok v)
  exact ⟨T, p1, by rw [h1, List.append_nil]; rfl⟩

/-- with fresh future connections the peer of the new connection starts with nothing -/
theorem ConnOut.fresh {α} {w w' : World} {r : Except Err α} (h : ConnOut w r w') (hfresh : w.FreshConns) :
    ∃ evs, w'.trace = evs ++ w.trace ∧ Out (Failed r) (transmitted evs) w.peerAll w'.peerAll ∧
      (∀ v, r = .ok v → w'.peerGot = flat (transmitted evs)) := by
  obtain ⟨evs, base, ht, hbase, ho, hok⟩ := h
  have hb0 : base = [] := by
    rcases hbase with hb | ⟨c, rest, hc, hb⟩
    · exact hb
    · rw [hb, Conn.peerGot, hfresh c (by simp [hc])]; rfl
  subst hb0
  rw [List.append_nil] at ho
  exact ⟨evs, ht, ho, fun v hv => by rw [hok v hv]; rfl⟩

/-! ### the strict parser on concatenated encodings -/

theorem encode_length (m : Msg) : m.encode.length = 24 + m.data.length := by
  simp [Msg.encode, Msg.packHdr]
  omega

theorem flat_length_ge (ms : List Msg) : 24 * ms.length ≤ (flat ms).length := by
  induction ms with
  | nil => simp
  | cons m ms ih =>
    have : flat (m :: ms) = m.encode ++ flat ms := by simp [flat]
    rw [this, List.length_append, encode_length, List.length_cons]
    omega

/-- the oracle the harness runs on the implementation's bytes accepts whole packable messages and
    returns exactly them -/
theorem parseStrict_flat (ms : List Msg) (h : ∀ m ∈ ms, m.Packable) :
    parseStrict (flat ms) = (ms.map (fun m => (⟨m.cmd, m.arg0, m.arg1, m.data⟩ : Pkt)), []) := by
  unfold parseStrict
  have hf : ms.length ≤ (flat ms).length / 24 := by
    have := flat_length_ge ms
    omega
  have := C02_parse_stream ms h [] ((flat ms).length / 24) hf
  simpa [flat] using this

end PeerF
end Adb
