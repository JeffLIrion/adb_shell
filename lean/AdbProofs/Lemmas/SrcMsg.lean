import AdbModel
import AdbModel.Py
import AdbModel.Generated.Src
import AdbProofs.Lemmas.Bytes
import AdbProofs.Lemmas.SrcEnc
/-
  Encoders and helper lemmas for the refinement theorems between the GENERATED translation of
  adb_message.py (`Adb.Src.checksum`, `Src.unpack`, `Src.AdbMessage_*`) and the hand-written model
  (`AdbModel/Message.lean`). The property theorems are in `AdbProofs/Properties/C02Src.lean`.
-/
namespace Adb
open Py

/-- the command id as the bytes object the library passes to `AdbMessage(...)` (`constants.AUTH` = `b'AUTH'`, …) -/
def Cmd.idBytes (c : Cmd) : Bytes := ascii c.name

/-- an `AdbMessage` instance as `__init__` leaves it (attribute order = assignment order) -/
def encMsg (cls : String) (m : Msg) : Py.Val :=
  .obj cls [("command", .int m.cmd.wire), ("magic", .int (magicOf m.cmd.wire)), ("arg0", .int m.arg0),
            ("arg1", .int m.arg1), ("data", .bytes m.data)]

/-- the tuple `unpack` returns -/
def encHdr (h : Hdr) : Py.Val := .tuple [.int h.cmd, .int h.arg0, .int h.arg1, .int h.len, .int h.sum]

theorem Cmd.wire_lt (c : Cmd) : c.wire < 4294967296 := by cases c <;> decide +kernel

theorem magicOf_wire_lt (c : Cmd) : magicOf c.wire < 4294967296 := by cases c <;> decide +kernel

/-- `sum(data)` over the ints a bytes object iterates to -/
theorem Py.sumInts_bytes (d : Bytes) :
    Py.sumInts (d.map (fun x => Py.Val.int x.toNat)) = .ok (byteSum d : Int) := by
  induction d with
  | nil => rfl
  | cons b bs ih =>
    simp [Py.sumInts, Py.asInt, byteSum, ih, bind, Except.bind, pure, Except.pure]

theorem and_mask32 (n : Nat) : n &&& 4294967295 = n % 4294967296 :=
  Nat.and_two_pow_sub_one_eq_mod n 32

/-! ### `ID_TO_WIRE` and the magic -/

/-- the generated `ID_TO_WIRE` table maps every command id to the model's wire value -/
theorem src_idToWire_get (c : Cmd) : Py.getItem Src.const_ID_TO_WIRE (.bytes c.idBytes) = .ok (.int c.wire) := by
  cases c <;> rfl

/-- any other bytes key is a `KeyError` -/
theorem src_idToWire_get_bad (b : Bytes) (h : ∀ c : Cmd, b ≠ c.idBytes) :
    Py.getItem Src.const_ID_TO_WIRE (.bytes b) = .error .keyError := by
  have table : Src.const_ID_TO_WIRE = .dict (Cmd.all.map fun c => (Py.Key.bytes c.idBytes, Py.Val.int c.wire)) := rfl
  have miss : ∀ l : List Cmd, Py.dlookup (.bytes b) (l.map fun c => (Py.Key.bytes c.idBytes, Py.Val.int c.wire)) = none := by
    intro l
    induction l with
    | nil => rfl
    | cons c l ih =>
      have hc : ¬ (Py.Key.bytes c.idBytes = Py.Key.bytes b) := fun e => h c (Py.Key.bytes.inj e).symm
      simp only [List.map_cons, Py.dlookup, hc, if_false, ih]
  rw [table]
  simp only [Py.getItem, Py.toKey, Py.bind_ok', Py.pure_ok', miss]
  rfl

/-- `x ^ 0xFFFFFFFF` on a non-negative int is the model's `magicOf` -/
theorem Py.bitxor_mask (n : Nat) : Py.bitxor (.int n) (.int 4294967295) = .ok (.int (magicOf n)) := by
  simp [Py.bitxor, Py.natOf, Py.asInt, magicOf, bind, Except.bind, pure, Except.pure]

/-- `AdbMessage.__init__` on a fresh object, whatever the payload object is: the five attributes in assignment order -/
theorem src_msg_init (cls : String) (c : Cmd) (a0 a1 : Nat) (d : Py.Val) :
    Src.AdbMessage_init (.obj cls []) (.bytes c.idBytes) (.int a0) (.int a1) d
      = .ok (.none, .obj cls [("command", .int c.wire), ("magic", .int (magicOf c.wire)), ("arg0", .int a0), ("arg1", .int a1), ("data", d)]) := by
  simp [Src.AdbMessage_init, src_idToWire_get, Py.bitxor_mask,
    setPath, setAcc, setAttr, asetS, getAttr, alookupS, bind, Except.bind, pure, Except.pure]

/-! ### attributes of an encoded message -/

theorem encMsg_attrs (cls : String) (m : Msg) :
    Py.getAttr (encMsg cls m) "command" = .ok (.int m.cmd.wire)
    ∧ Py.getAttr (encMsg cls m) "magic" = .ok (.int (magicOf m.cmd.wire))
    ∧ Py.getAttr (encMsg cls m) "arg0" = .ok (.int m.arg0)
    ∧ Py.getAttr (encMsg cls m) "arg1" = .ok (.int m.arg1)
    ∧ Py.getAttr (encMsg cls m) "data" = .ok (.bytes m.data) := by
  simp [encMsg, getAttr, alookupS, pure, Except.pure]

/-! ### `checksum` -/

theorem src_checksum_bytes (d : Bytes) : Src.checksum (.bytes d) = .ok (.int (checksum d)) := by
  cases d with
  | nil =>
    simp [Src.checksum, Py.isinstance, Py.truthy, Py.andV, Py.iter, Py.sum_, Py.sumInts, Py.bitand, Py.natOf, Py.asInt,
      checksum, byteSum, bind, Except.bind, pure, Except.pure]
  | cons b bs =>
    simp [Src.checksum, Py.isinstance, Py.truthy, Py.andV, Py.getItem, Py.iter, Py.sum_, Py.sumInts_bytes, Py.bitand,
      Py.natOf, Py.asInt, checksum, and_mask32, bind, Except.bind, pure, Except.pure, -List.map_cons]

theorem src_checksum_bytearray (d : Bytes) : Src.checksum (.bytearray d) = .ok (.int (checksum d)) := by
  simp [Src.checksum, Py.isinstance, Py.truthy, Py.iter, Py.sum_, Py.sumInts_bytes, Py.bitand, Py.natOf, Py.asInt,
    checksum, and_mask32, bind, Except.bind, pure, Except.pure]

/-- `AdbMessage.checksum` of any object whose `data` attribute is a bytes object -/
theorem src_msg_checksum_of_attr (v : Py.Val) (d : Bytes) (e5 : Py.getAttr v "data" = .ok (.bytes d)) :
    Src.AdbMessage_checksum v = .ok (.int (checksum d)) := by
  simp only [Src.AdbMessage_checksum, e5, src_checksum_bytes, Py.bind_ok']

/-! ### `struct.pack(MESSAGE_FORMAT, …)` / `struct.unpack(MESSAGE_FORMAT, …)` -/

/-- the generated `MESSAGE_FORMAT` is a six-word format -/
theorem src_structPack_msg (args : List Py.Val) :
    Py.structPack Src.const_MESSAGE_FORMAT args
      = if args.length = 6 then (Py.packWords args >>= fun b => pure (.bytes b)) else .error .structError := by
  have h : Py.fmtBytes Src.const_MESSAGE_FORMAT = .ok [60, 54, 73] := rfl
  have h2 : Py.fmtWords [60, 54, 73] = some 6 := by decide
  simp only [Py.structPack, h, bind, Except.bind, h2]
  rfl

theorem Py.packWords_nat (n : Nat) (vs : List Py.Val) :
    Py.packWords (.int n :: vs)
      = if n < 4294967296 then (Py.packWords vs >>= fun r => pure (le32 n ++ r)) else .error .structError := by
  by_cases h : n < 4294967296
  · have : (n : Int) < 4294967296 := by omega
    simp [Py.packWords, h, this]
  · have : ¬ (n : Int) < 4294967296 := by omega
    simp [Py.packWords, h, this, throw, throwThe, MonadExceptOf.throw]

/-- `AdbMessage.pack` of any object with the five attributes set to non-negative ints / a bytes object, command and
    magic in range: the six little-endian words, or `struct.error` when arg0, arg1 or the length do not fit 32 bits -/
theorem src_pack_of_attrs (v : Py.Val) (w mg a0 a1 : Nat) (d : Bytes)
    (e1 : Py.getAttr v "command" = .ok (.int w)) (e2 : Py.getAttr v "magic" = .ok (.int mg))
    (e3 : Py.getAttr v "arg0" = .ok (.int a0)) (e4 : Py.getAttr v "arg1" = .ok (.int a1))
    (e5 : Py.getAttr v "data" = .ok (.bytes d)) (hw : w < 4294967296) (hm : mg < 4294967296) :
    Src.AdbMessage_pack v =
      if a0 < 4294967296 ∧ a1 < 4294967296 ∧ d.length < 4294967296 then
        .ok (.bytes (le32 w ++ le32 a0 ++ le32 a1 ++ le32 d.length ++ le32 (checksum d) ++ le32 mg))
      else .error .structError := by
  have e6 := src_msg_checksum_of_attr v d e5
  have hc := checksum_lt d
  have hn : Py.packWords [] = .ok [] := id rfl
  simp only [Src.AdbMessage_pack, e1, e2, e3, e4, e5, e6, Py.len_, Py.bind_ok', Py.pure_ok', src_structPack_msg,
    Py.packWords_nat, List.length, if_pos hw, if_pos hm, if_pos hc, if_true, hn]
  by_cases h0 : a0 < 4294967296 <;> by_cases h1 : a1 < 4294967296 <;> by_cases h2 : d.length < 4294967296 <;>
    simp [h0, h1, h2, Py.bind_ok', Py.bind_err']

/-- `struct.unpack('<6I', bs)` against the model's `unpack`: the same five words plus a sixth (the magic), and it fails
    exactly when the model's `unpack` does -/
theorem Py.unpackWords_six (bs : Bytes) :
    match unpack bs with
    | some h => ∃ mg : Nat, Py.unpackWords 6 bs
        = some [.int h.cmd, .int h.arg0, .int h.arg1, .int h.len, .int h.sum, .int mg]
    | none => Py.unpackWords 6 bs = none := by
  simp only [unpack]
  cases h1 : rd32 bs with
  | none => simp [Py.unpackWords, h1]
  | some p1 =>
  obtain ⟨c, r1⟩ := p1
  cases h2 : rd32 r1 with
  | none => simp [Py.unpackWords, h1, h2]
  | some p2 =>
  obtain ⟨a0, r2⟩ := p2
  cases h3 : rd32 r2 with
  | none => simp [Py.unpackWords, h1, h2, h3]
  | some p3 =>
  obtain ⟨a1, r3⟩ := p3
  cases h4 : rd32 r3 with
  | none => simp [Py.unpackWords, h1, h2, h3, h4]
  | some p4 =>
  obtain ⟨ln, r4⟩ := p4
  cases h5 : rd32 r4 with
  | none => simp [Py.unpackWords, h1, h2, h3, h4, h5]
  | some p5 =>
  obtain ⟨sm, r5⟩ := p5
  cases h6 : rd32 r5 with
  | none => simp [Py.unpackWords, h1, h2, h3, h4, h5, h6]
  | some p6 =>
  obtain ⟨mg, r6⟩ := p6
  cases r6 with
  | nil => simp [Py.unpackWords, h1, h2, h3, h4, h5, h6]; exact ⟨mg, rfl⟩
  | cons x xs => simp [Py.unpackWords, h1, h2, h3, h4, h5, h6]

theorem src_structUnpack_msg (buf : Py.Val) (bs : Bytes) (hb : Py.bytesOf buf = .ok bs) :
    Py.structUnpack Src.const_MESSAGE_FORMAT buf
      = match Py.unpackWords 6 bs with
        | some l => .ok (.tuple l)
        | none => .error .structError := by
  have h : Py.fmtBytes Src.const_MESSAGE_FORMAT = .ok [60, 54, 73] := rfl
  have h2 : Py.fmtWords [60, 54, 73] = some 6 := by decide
  simp only [Py.structUnpack, h, hb, Py.bind_ok', h2]
  split <;> simp_all [Py.pure_ok', Py.throw_err']

/-- `unpack(message)` for any buffer object (`bytes` or `bytearray`) with content `bs` -/
theorem src_unpack_of_bytesOf (buf : Py.Val) (bs : Bytes) (hb : Py.bytesOf buf = .ok bs) :
    Src.unpack buf = (match unpack bs with
      | some h => .ok (encHdr h)
      | none => .error .valueError) := by
  simp only [Src.unpack, src_structUnpack_msg buf bs hb]
  have h6 := Py.unpackWords_six bs
  cases hu : unpack bs with
  | none =>
    simp only [hu] at h6
    simp only [h6, Py.bind_err']
    rfl
  | some h =>
    simp only [hu] at h6
    obtain ⟨mg, h6⟩ := h6
    simp only [h6, Py.bind_ok', Py.unpackN, List.length, if_true, Py.pure_ok', Py.nth, List.getD, encHdr]
    rfl

end Adb
