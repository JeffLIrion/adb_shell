import AdbProofs.Lemmas.PushTrace
import AdbProofs.Lemmas.WireLemmas
/-
  Specifications of the FileSync send side for C07: what `_send`, `_filesync_flush`, `_filesync_send`,
  the data loop of `_push`, `_filesync_read` and `_push` itself put on the wire on a normal return.
  All statements have the form `f args w = (.ok r, w') → w'.trace = evs ++ w.trace → facts about evs`.
-/
namespace Adb.Push
open Adb

/-- no event at all -/
def QNone : TEv → Prop := fun _ => False

theorem Tr.silent {α} {x : M α} (h : Tr QNone x) (w : World) : (x w).2.trace = w.trace := by
  obtain ⟨evs, h1, h2⟩ := h.trace w
  cases evs with
  | nil => simpa using h1
  | cons e es => exact (h2 e (by simp)).elim

/-- `_send` records exactly its message -/
theorem ioSend_ok_trace {m : Msg} {t : Txn} {w w' : World} {u : Unit} (h : ioSend m t w = (.ok u, w')) :
    w'.trace = .tx m :: w.trace := by
  unfold ioSend at h
  obtain ⟨-, w1, h1, rfl⟩ := withLock_ok_inv h
  exact (sendRaw_spec m t _ _ _ h1).2.2.1

/-- run a step whose trace class is known: the new events -/
theorem Tr.step {α} {Q} {x : M α} (h : Tr Q x) {w w1 : World} {r : Except Err α} (hx : x w = (r, w1)) :
    ∃ evs, w1.trace = evs ++ w.trace ∧ ∀ e ∈ evs, Q e := by
  have := h.trace w
  rw [hx] at this
  exact this

theorem get_bind_run {β} (f : World → M β) (w : World) : (M.get >>= f) w = f w w := rfl

theorem Fr.evs {α} {x : M α} (h : Fr x) {w w1 : World} {r : Except Err α} (hx : x w = (r, w1)) :
    ∃ e, w1.trace = e ++ w.trace := (Pres.run (R := Frame) h hx).trace

theorem Fr.maxdata {α} {x : M α} (h : Fr x) {w w1 : World} {r : Except Err α} (hx : x w = (r, w1)) :
    w1.maxdata = w.maxdata := (Pres.run (R := Frame) h hx).maxdata

theorem fsFlushLoop_ok {t : Txn} : ∀ {fuel : Nat} {fi fi' : FsInfo} {w w' : World},
    fsFlushLoop t fuel fi w = (.ok fi', w') →
    fi'.sendBuf = [] ∧ fi'.fmt = fi.fmt ∧ fi'.maxdata = fi.maxdata := by
  intro fuel
  induction fuel with
  | zero => intro fi fi' w w' h; simp [fsFlushLoop] at h
  | succ f ih =>
    intro fi fi' w w' h
    unfold fsFlushLoop at h
    obtain ⟨⟨cmd, data⟩, w1, h1, h2⟩ := bind_ok_inv h
    dsimp only at h2
    split at h2
    · simp only [pure_run, Prod.mk.injEq, Except.ok.injEq] at h2
      obtain ⟨rfl, _⟩ := h2
      simp
    · have := ih h2
      simpa using this

/-- `_filesync_flush`: exactly one WRTE, carrying the whole buffer; the buffer is empty afterwards -/
theorem fsFlush_ok {t : Txn} {fi fi' : FsInfo} {w w' : World} {evs : List TEv}
    (h : fsFlush t fi w = (.ok fi', w')) (hev : w'.trace = evs ++ w.trace) :
    transmitted evs ≠ [] ∧
    wrtePayloads (t.localId.getD 0) (t.remoteId.getD 0) evs = [fi.sendBuf] ∧ progressCalls evs = [] ∧
    fi'.sendBuf = [] ∧ fi'.fmt = fi.fmt ∧ fi'.maxdata = fi.maxdata := by
  unfold fsFlush at h
  obtain ⟨u, w1, h1, h2⟩ := bind_ok_inv h
  have ht1 := ioSend_ok_trace h1
  simp only [bind_run, M.get_run] at h2
  obtain ⟨e2, ht2, hq2⟩ := (Tr_fsFlushLoop QOkay.house QOkay.deliv QOkay.txOkay t w1.fuel fi).step h2
  have hevs : evs = e2 ++ [TEv.tx ⟨.WRTE, t.localId.getD 0, t.remoteId.getD 0, fi.sendBuf⟩] :=
    evs_split (e1 := [_]) ht1 ht2 hev
  subst hevs
  refine ⟨?_, ?_, ?_, fsFlushLoop_ok h2⟩
  · simp [transmitted_append]
  · rw [wrtePayloads_append, wrtePayloads_wrte, QOkay.wrtePayloads hq2]; rfl
  · rw [progressCalls_append, QOkay.progressCalls hq2]; rfl


/-- `_filesync_send`, normal return: either the record was appended to the buffer and nothing
    happened on the wire, or the buffer went out as one WRTE and the record starts a new buffer. -/
theorem fsSend_ok {id : SyncId} {t : Txn} {fi fi' : FsInfo} {data : Bytes} {size : Option Nat} {w w' : World}
    {evs : List TEv} (h : fsSend id t fi data size w = (.ok fi', w')) (hev : w'.trace = evs ++ w.trace) :
    ((fi.canAdd data.length = true ∧ evs = [] ∧
        fi'.sendBuf = fi.sendBuf ++ syncRec id (size.getD data.length) data) ∨
     (fi.canAdd data.length = false ∧ transmitted evs ≠ [] ∧
        wrtePayloads (t.localId.getD 0) (t.remoteId.getD 0) evs = [fi.sendBuf] ∧
        fi'.sendBuf = syncRec id (size.getD data.length) data)) ∧
    progressCalls evs = [] ∧ fi'.fmt = fi.fmt ∧ fi'.maxdata = fi.maxdata ∧ size.getD data.length < 4294967296 := by
  rw [fsSend_eq] at h
  obtain ⟨fi1, w1, h1, h2⟩ := bind_ok_inv h
  split at h2
  · simp at h2
  next hlt =>
  simp only [pure_run, Prod.mk.injEq, Except.ok.injEq] at h2
  obtain ⟨rfl, rfl⟩ := h2
  cases hc : fi.canAdd data.length with
  | true =>
    simp only [hc, Bool.not_true, Bool.false_eq_true, if_false, pure_run, Prod.mk.injEq, Except.ok.injEq] at h1
    obtain ⟨rfl, rfl⟩ := h1
    have : evs = [] := evs_unique (e1 := []) (t0 := w.trace) (evs := evs) (by simpa using hev)
    subst this
    exact ⟨Or.inl ⟨rfl, rfl, by simp [syncRec]⟩, rfl, rfl, rfl, by omega⟩
  | false =>
    simp only [hc, Bool.not_false, if_true] at h1
    obtain ⟨hne, hp, hpc, hsb, hf, hm⟩ := fsFlush_ok h1 hev
    exact ⟨Or.inr ⟨rfl, hne, hp, by simp [hsb, syncRec]⟩, hpc, hf, hm, by omega⟩

/-- the buffering law of `_filesync_send` -/
theorem fsSend_conservation {id : SyncId} {t : Txn} {fi fi' : FsInfo} {data : Bytes} {size : Option Nat} {w w' : World}
    {evs : List TEv} (h : fsSend id t fi data size w = (.ok fi', w')) (hev : w'.trace = evs ++ w.trace) :
    (wrtePayloads (t.localId.getD 0) (t.remoteId.getD 0) evs).flatten ++ fi'.sendBuf
      = fi.sendBuf ++ syncRec id (size.getD data.length) data := by
  obtain ⟨hcase, -⟩ := fsSend_ok h hev
  rcases hcase with ⟨-, rfl, hb⟩ | ⟨-, -, hp, hb⟩
  · simp [hb]
  · simp [hp, hb]

/-- the progress callback: never fails, touches nothing but the trace -/
theorem callProgress_run (cb : CbMode) (p : Bytes) (n tot : Nat) (w : World) :
    callProgress cb p n tot w =
      (.ok (), { w with trace := (if cb = CbMode.none then [] else [TEv.cbProgress p n tot]) ++ w.trace }) := by
  cases cb <;> rfl


/-- no WRTE of `_filesync_send` is empty or reaches maxdata, as long as the record fits an empty buffer -/
theorem fsSend_bound {id : SyncId} {t : Txn} {fi fi' : FsInfo} {data : Bytes} {size : Option Nat} {w w' : World}
    {evs : List TEv} (h : fsSend id t fi data size w = (.ok fi', w')) (hev : w'.trace = evs ++ w.trace)
    (hfit : fi.fmt.size + data.length < fi.maxdata)
    (hinv : 0 < fi.sendBuf.length → fi.sendBuf.length < fi.maxdata) :
    (∀ p ∈ wrtePayloads (t.localId.getD 0) (t.remoteId.getD 0) evs, 0 < p.length ∧ p.length < fi.maxdata) ∧
    0 < fi'.sendBuf.length ∧ fi'.sendBuf.length < fi.maxdata := by
  obtain ⟨hcase, -, -, -, -⟩ := fsSend_ok h hev
  have h8 := fmt_size_ge fi.fmt
  rcases hcase with ⟨hc, rfl, hb⟩ | ⟨hc, -, hp, hb⟩
  · simp only [FsInfo.canAdd, decide_eq_true_eq] at hc
    refine ⟨by simp, ?_, ?_⟩ <;> simp [hb] <;> omega
  · simp only [FsInfo.canAdd, decide_eq_false_iff_not] at hc
    rw [hp]
    refine ⟨?_, ?_, ?_⟩
    · intro p hp'
      simp only [List.mem_singleton] at hp'
      subst hp'
      have : 0 < fi.sendBuf.length := by omega
      exact ⟨this, hinv this⟩
    · simp [hb]; omega
    · simp [hb]; omega

/-- the events of one call of the progress callback -/
def cbEvs (cb : CbMode) (p : Bytes) (n tot : Nat) : List TEv :=
  if cb = CbMode.none then [] else [TEv.cbProgress p n tot]

theorem wrtePayloads_cbEvs (l r : Nat) (cb : CbMode) (p : Bytes) (n tot : Nat) :
    wrtePayloads l r (cbEvs cb p n tot) = [] := by
  unfold cbEvs; split <;> rfl

/-- One round of the data loop on a normal return: either the source is exhausted and nothing happened,
    or a chunk went through `_filesync_send`, the callback was called and the loop went on. -/
theorem pushDataLoop_succ_ok {devPath : Bytes} {cb : CbMode} {total chunk : Nat} {t : Txn} {f : Nat} {content : Bytes}
    {fi fi' : FsInfo} {w w' : World} {evs : List TEv}
    (h : pushDataLoop devPath cb total chunk t (f + 1) content fi w = (.ok fi', w')) (hev : w'.trace = evs ++ w.trace) :
    ((content.take chunk).isEmpty = true ∧ fi' = fi ∧ evs = []) ∨
    ((content.take chunk).isEmpty = false ∧ ∃ fi1 w1 w2 e1 e3,
      fsSend .DATA t fi (content.take chunk) none w = (.ok fi1, w1) ∧ w1.trace = e1 ++ w.trace ∧
      pushDataLoop devPath cb total chunk t f (content.drop chunk) fi1 w2 = (.ok fi', w') ∧ w'.trace = e3 ++ w2.trace ∧
      evs = e3 ++ (cbEvs cb devPath (content.take chunk).length total ++ e1)) := by
  unfold pushDataLoop at h
  dsimp only at h
  split at h
  · next hemp =>
    simp only [pure_run, Prod.mk.injEq, Except.ok.injEq] at h
    obtain ⟨rfl, rfl⟩ := h
    exact Or.inl ⟨hemp, rfl, evs_unique (e1 := []) (t0 := w.trace) (by simpa using hev)⟩
  · next hemp =>
    obtain ⟨fi1, w1, h1, h2⟩ := bind_ok_inv h
    obtain ⟨u, w2, h3, h4⟩ := bind_ok_inv h2
    rw [callProgress_run] at h3
    simp only [Prod.mk.injEq, true_and] at h3
    obtain ⟨e1, he1⟩ := Fr.evs (Fr_fsSend _ _ _ _ _) h1
    obtain ⟨e3, he3⟩ := Fr.evs (Fr_pushDataLoop _ _ _ _ _ _ _ _) h4
    have hw2 : w2.trace = (cbEvs cb devPath (content.take chunk).length total ++ e1) ++ w.trace := by
      rw [← h3, he1, List.append_assoc]; rfl
    exact Or.inr ⟨by simpa using hemp, fi1, w1, w2, e1, e3, h1, he1, h4, he3, evs_split hw2 he3 hev⟩

theorem pushDataLoop_ok {devPath : Bytes} {cb : CbMode} {total chunk : Nat} {t : Txn} :
    ∀ {fuel : Nat} {content : Bytes} {fi fi' : FsInfo} {w w' : World} {evs : List TEv},
    pushDataLoop devPath cb total chunk t fuel content fi w = (.ok fi', w') → w'.trace = evs ++ w.trace →
    (wrtePayloads (t.localId.getD 0) (t.remoteId.getD 0) evs).flatten ++ fi'.sendBuf
        = fi.sendBuf ++ ((chunksOf chunk content).map fun c => syncRec .DATA c.length c).flatten ∧
    progressCalls evs = (if cb = CbMode.none then [] else (chunksOf chunk content).map fun c => (devPath, c.length, total)) ∧
    fi'.fmt = fi.fmt ∧ fi'.maxdata = fi.maxdata := by
  intro fuel
  induction fuel with
  | zero => intro content fi fi' w w' evs h; simp [pushDataLoop] at h
  | succ f ih =>
    intro content fi fi' w w' evs h hev
    rw [chunksOf_unfold]
    rcases pushDataLoop_succ_ok h hev with ⟨hemp, rfl, rfl⟩ | ⟨hemp, fi1, w1, w2, e1, e3, h1, he1, h4, he3, rfl⟩
    · simp [hemp]
    · obtain ⟨-, hpc1, hf1, hm1, -⟩ := fsSend_ok h1 he1
      have hcons := fsSend_conservation h1 he1
      obtain ⟨ihc, ihp, ihf, ihm⟩ := ih h4 he3
      simp only [hemp, Bool.false_eq_true, if_false, List.map_cons, List.flatten_cons]
      refine ⟨?_, ?_, ihf.trans hf1, ihm.trans hm1⟩
      · rw [wrtePayloads_append, wrtePayloads_append, wrtePayloads_cbEvs, List.flatten_append, List.flatten_append,
          List.append_assoc, ihc, List.flatten_nil, List.append_nil, ← List.append_assoc, hcons]
        simp
      · rw [progressCalls_append, progressCalls_append, hpc1, ihp]
        cases cb <;> simp [cbEvs]

theorem pushDataLoop_bound {devPath : Bytes} {cb : CbMode} {total chunk : Nat} {t : Txn} :
    ∀ {fuel : Nat} {content : Bytes} {fi fi' : FsInfo} {w w' : World} {evs : List TEv},
    pushDataLoop devPath cb total chunk t fuel content fi w = (.ok fi', w') → w'.trace = evs ++ w.trace →
    fi.fmt.size + chunk < fi.maxdata → (0 < fi.sendBuf.length → fi.sendBuf.length < fi.maxdata) →
    (∀ p ∈ wrtePayloads (t.localId.getD 0) (t.remoteId.getD 0) evs, 0 < p.length ∧ p.length < fi.maxdata) ∧
    (0 < fi'.sendBuf.length → fi'.sendBuf.length < fi.maxdata) := by
  intro fuel
  induction fuel with
  | zero => intro content fi fi' w w' evs h; simp [pushDataLoop] at h
  | succ f ih =>
    intro content fi fi' w w' evs h hev hfit hinv
    rcases pushDataLoop_succ_ok h hev with ⟨-, rfl, rfl⟩ | ⟨-, fi1, w1, w2, e1, e3, h1, he1, h4, he3, rfl⟩
    · exact ⟨by simp, hinv⟩
    · obtain ⟨-, -, hf1, hm1, -⟩ := fsSend_ok h1 he1
      have hlen : (content.take chunk).length ≤ chunk := by simp; omega
      obtain ⟨hb1, hpos1, hlt1⟩ := fsSend_bound h1 he1 (by omega) hinv
      obtain ⟨ihb, ihi⟩ := ih h4 he3 (by rw [hf1, hm1]; exact hfit) (by rw [hm1]; exact fun _ => hlt1)
      rw [hm1] at ihb ihi
      refine ⟨?_, ihi⟩
      rw [wrtePayloads_append, wrtePayloads_append, wrtePayloads_cbEvs, List.append_nil]
      exact List.forall_mem_append.2 ⟨hb1, ihb⟩

/-- `_filesync_read`: whatever is buffered goes out as one WRTE before anything is read -/
theorem fsRead_ok {ex : List SyncId} {t : Txn} {fi : FsInfo} {x : SyncRec × FsInfo} {w w' : World} {evs : List TEv}
    (h : fsRead ex t fi w = (.ok x, w')) (hev : w'.trace = evs ++ w.trace) :
    wrtePayloads (t.localId.getD 0) (t.remoteId.getD 0) evs = (if fi.sendBuf.isEmpty then [] else [fi.sendBuf]) ∧
    progressCalls evs = [] := by
  rw [fsRead_eq_ite] at h
  cases hb : fi.sendBuf.isEmpty with
  | true =>
    simp only [hb, Bool.not_true, Bool.false_eq_true, if_false] at h
    obtain ⟨e, he, hq⟩ := (Tr_fsReadTail QOkay.house QOkay.deliv QOkay.txOkay ex t fi).step h
    have : evs = e := evs_unique (he ▸ hev)
    subst this
    exact ⟨by simp [QOkay.wrtePayloads hq], QOkay.progressCalls hq⟩
  | false =>
    simp only [hb, Bool.not_false, if_true] at h
    obtain ⟨fi1, w1, h1, h2⟩ := bind_ok_inv h
    obtain ⟨e1, he1⟩ := Fr.evs (Fr_fsFlush t fi) h1
    obtain ⟨e2, he2, hq2⟩ := (Tr_fsReadTail QOkay.house QOkay.deliv QOkay.txOkay ex t fi1).step h2
    have := evs_split he1 he2 hev
    subst this
    obtain ⟨-, hp, hpc, -⟩ := fsFlush_ok h1 he1
    exact ⟨by simp [wrtePayloads_append, hp, QOkay.wrtePayloads hq2],
           by simp [progressCalls_append, hpc, QOkay.progressCalls hq2]⟩

/-- `_push` returns normally only through an OKAY status record -/
theorem pushStatus_ok {t : Txn} {fi : FsInfo} {w w' : World} {u : Unit} (h : pushStatus t fi w = (.ok u, w')) :
    ∃ r fi2, fsRead [.OKAY, .FAIL] t fi w = (.ok (r, fi2), w') ∧ r.id = SyncId.OKAY := by
  unfold pushStatus at h
  obtain ⟨⟨r, fi2⟩, w1, h1, h2⟩ := bind_ok_inv h
  dsimp only at h2
  split at h2
  · next hid =>
    simp only [pure_run, Prod.mk.injEq, true_and] at h2
    subst h2
    exact ⟨r, fi2, h1, hid⟩
  · simp at h2


theorem chain4 {A1 A2 A3 b0 b1 b2 b3 S D N : Bytes} (h1 : A1 ++ b1 = b0 ++ S) (h2 : A2 ++ b2 = b1 ++ D)
    (h3 : A3 ++ b3 = b2 ++ N) : A1 ++ A2 ++ A3 ++ b3 = b0 ++ S ++ D ++ N := by
  calc A1 ++ A2 ++ A3 ++ b3 = A1 ++ (A2 ++ (A3 ++ b3)) := by simp [List.append_assoc]
    _ = A1 ++ (A2 ++ (b2 ++ N)) := by rw [h3]
    _ = A1 ++ ((A2 ++ b2) ++ N) := by simp [List.append_assoc]
    _ = A1 ++ ((b1 ++ D) ++ N) := by rw [h2]
    _ = (A1 ++ b1) ++ D ++ N := by simp [List.append_assoc]
    _ = b0 ++ S ++ D ++ N := by rw [h1]

/-- the four phases of a normally returning `_push` and the events of each -/
theorem pushOne_inv {content devPath : Bytes} {mode mtime : Nat} {cb : CbMode} {t : Txn} {fi0 : FsInfo} {w w' : World}
    {evs : List TEv} {u : Unit}
    (h : pushOne content devPath mode mtime cb t fi0 w = (.ok u, w')) (hev : w'.trace = evs ++ w.trace) :
    ∃ (fi1 fi2 fi3 : FsInfo) (w1 w2 w3 : World) (e1 e2 e3 e4 : List TEv),
      fsSend .SEND t fi0 (devPath ++ [44] ++ decimal mode) none w = (.ok fi1, w1) ∧
      pushDataLoop devPath cb content.length (maxChunkSize w.maxdata) t w1.fuel content fi1 w1 = (.ok fi2, w2) ∧
      fsSend .DONE t fi2 [] (some (if mtime = 0 then (w2.now / 1024).toNat else mtime)) w2 = (.ok fi3, w3) ∧
      pushStatus t fi3 w3 = (.ok (), w') ∧
      w1.trace = e1 ++ w.trace ∧ w2.trace = e2 ++ w1.trace ∧ w3.trace = e3 ++ w2.trace ∧ w'.trace = e4 ++ w3.trace ∧
      evs = e4 ++ (e3 ++ (e2 ++ e1)) := by
  unfold pushOne at h
  obtain ⟨fi1, w1, h1, h2⟩ := bind_ok_inv h
  rw [get_bind_run] at h2
  obtain ⟨fi2, w2, h3, h4⟩ := bind_ok_inv h2
  rw [get_bind_run] at h4
  obtain ⟨fi3, w3, h5, h6⟩ := bind_ok_inv h4
  rw [Fr.maxdata (Fr_fsSend _ _ _ _ _) h1] at h3
  obtain ⟨e1, he1⟩ := Fr.evs (Fr_fsSend _ _ _ _ _) h1
  obtain ⟨e2, he2⟩ := Fr.evs (Fr_pushDataLoop _ _ _ _ _ _ _ _) h3
  obtain ⟨e3, he3⟩ := Fr.evs (Fr_fsSend _ _ _ _ _) h5
  obtain ⟨e4, he4⟩ := Fr.evs (Fr_pushStatus _ _) h6
  have he12 : w2.trace = (e2 ++ e1) ++ w.trace := by rw [he2, he1, List.append_assoc]
  have he123 : w3.trace = (e3 ++ (e2 ++ e1)) ++ w.trace := by rw [he3, he12]; simp [List.append_assoc]
  exact ⟨fi1, fi2, fi3, w1, w2, w3, e1, e2, e3, e4, h1, h3, h5, h6, he1, he2, he3, he4, evs_split he123 he4 hev⟩

/-- everything `_push` establishes on a normal return -/
theorem pushOne_ok {content devPath : Bytes} {mode mtime : Nat} {cb : CbMode} {t : Txn} {fi0 : FsInfo} {w w' : World}
    {evs : List TEv} {u : Unit}
    (h : pushOne content devPath mode mtime cb t fi0 w = (.ok u, w')) (hev : w'.trace = evs ++ w.trace) :
    ∃ (fi1 fi2 fi3 : FsInfo) (w1 w2 w3 : World) (mtime' : Nat),
      fsSend .SEND t fi0 (devPath ++ [44] ++ decimal mode) none w = (.ok fi1, w1) ∧
      pushDataLoop devPath cb content.length (maxChunkSize w.maxdata) t w1.fuel content fi1 w1 = (.ok fi2, w2) ∧
      mtime' = (if mtime = 0 then (w2.now / 1024).toNat else mtime) ∧
      fsSend .DONE t fi2 [] (some mtime') w2 = (.ok fi3, w3) ∧
      pushStatus t fi3 w3 = (.ok (), w') ∧
      (wrtePayloads (t.localId.getD 0) (t.remoteId.getD 0) evs).flatten =
        fi0.sendBuf ++ syncRec .SEND (devPath ++ [44] ++ decimal mode).length (devPath ++ [44] ++ decimal mode) ++
        ((chunksOf (maxChunkSize w.maxdata) content).map fun c => syncRec .DATA c.length c).flatten ++
        syncRec .DONE mtime' [] ∧
      progressCalls evs = (if cb = CbMode.none then []
        else (chunksOf (maxChunkSize w.maxdata) content).map fun c => (devPath, c.length, content.length)) := by
  obtain ⟨fi1, fi2, fi3, w1, w2, w3, e1, e2, e3, e4, h1, h3, h5, h6, he1, he2, he3, he4, rfl⟩ := pushOne_inv h hev
  have c1 := fsSend_conservation h1 he1
  obtain ⟨c2, p2, -, -⟩ := pushDataLoop_ok h3 he2
  have c3 := fsSend_conservation h5 he3
  obtain ⟨-, p1, -, -, -⟩ := fsSend_ok h1 he1
  obtain ⟨-, p3, -, -, -⟩ := fsSend_ok h5 he3
  obtain ⟨r, fi4, h7, -⟩ := pushStatus_ok h6
  obtain ⟨c4, p4⟩ := fsRead_ok h7 he4
  refine ⟨fi1, fi2, fi3, w1, w2, w3, _, h1, h3, rfl, h5, h6, ?_, ?_⟩
  · have c4' : (wrtePayloads (t.localId.getD 0) (t.remoteId.getD 0) e4).flatten = fi3.sendBuf := by
      rw [c4]
      cases hb : fi3.sendBuf with
      | nil => simp
      | cons x xs => simp
    simp only [wrtePayloads_append, List.flatten_append, c4']
    simp only [Option.getD_none, Option.getD_some, List.length_nil] at c1 c3
    exact chain4 c1 c2 c3
  · simp [progressCalls_append, p1, p2, p3, p4]

theorem maxChunk_fits {maxdata : Nat} (h : 17 ≤ maxdata) : 8 + maxChunkSize maxdata < maxdata := by
  have := (maxChunkSize_spec maxdata).2.2 (by omega)
  omega

/-- no WRTE of a whole `_push` is empty or reaches maxdata, provided each record fits an empty buffer -/
theorem pushOne_bound {content devPath : Bytes} {mode mtime : Nat} {cb : CbMode} {t : Txn} {fi0 : FsInfo} {w w' : World}
    {evs : List TEv} {u : Unit}
    (h : pushOne content devPath mode mtime cb t fi0 w = (.ok u, w')) (hev : w'.trace = evs ++ w.trace)
    (hinv : 0 < fi0.sendBuf.length → fi0.sendBuf.length < fi0.maxdata)
    (hsend : fi0.fmt.size + (devPath ++ [44] ++ decimal mode).length < fi0.maxdata)
    (hdata : fi0.fmt.size + maxChunkSize w.maxdata < fi0.maxdata) :
    ∀ p ∈ wrtePayloads (t.localId.getD 0) (t.remoteId.getD 0) evs, 0 < p.length ∧ p.length < fi0.maxdata := by
  obtain ⟨fi1, fi2, fi3, w1, w2, w3, e1, e2, e3, e4, h1, h3, h5, h6, he1, he2, he3, he4, rfl⟩ := pushOne_inv h hev
  obtain ⟨-, -, hf1, hm1, -⟩ := fsSend_ok h1 he1
  obtain ⟨b1, pos1, lt1⟩ := fsSend_bound h1 he1 hsend hinv
  obtain ⟨-, -, hf2, hm2⟩ := pushDataLoop_ok h3 he2
  obtain ⟨b2, inv2⟩ := pushDataLoop_bound h3 he2 (by rw [hf1, hm1]; exact hdata) (by rw [hm1]; exact fun _ => lt1)
  rw [hm1] at b2 inv2
  obtain ⟨b3, pos3, lt3⟩ := fsSend_bound h5 he3 (by rw [hf2, hm2, hf1, hm1]; simp; omega) (by rw [hm2, hm1]; exact inv2)
  rw [hm2, hm1] at b3 lt3
  obtain ⟨r, fi4, h7, -⟩ := pushStatus_ok h6
  obtain ⟨c4, -⟩ := fsRead_ok h7 he4
  have b4 : ∀ p ∈ wrtePayloads (t.localId.getD 0) (t.remoteId.getD 0) e4, 0 < p.length ∧ p.length < fi0.maxdata := by
    rw [c4]
    split
    · simp
    · simpa using ⟨pos3, lt3⟩
  rw [wrtePayloads_append, wrtePayloads_append, wrtePayloads_append]
  exact List.forall_mem_append.2 ⟨List.forall_mem_append.2 ⟨List.forall_mem_append.2 ⟨b1, b2⟩, b3⟩, b4⟩

end Adb.Push
