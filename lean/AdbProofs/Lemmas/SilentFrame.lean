import AdbProofs.Lemmas.TimeFrameApi
/-
  The SILENCE frame (C11, outcomes): what the operations do when the device will never send anything any more.
  `World.Mute`: nothing is left to arrive on the open connection; `Silent`: mute, connected, nothing parked, no
  lock held.  Under silence every wait of `_AdbIOManager.read` / `_read_expected_packet_from_device` fails with a
  timeout kind and never returns a packet; `SF d mustFail x` propagates this through the operations: the silence
  persists, exceptions are in `opErrs`, and computations that have to wait cannot return normally.
-/
namespace Adb

/-- errors of a wait that meets silence (plus `hang`, excluded separately by the time frame) -/
def silentErrs : List Err := [.adbTimeout, .transportTimeout, .transportError, .hang]

theorem waitTimeout_errs {α : Type} {tt : Timeout} {w : World} {r : Except Err α} {w' : World}
    (h : (waitTimeout tt : M α) w = (r, w')) : ∃ e, r = .error e ∧ e ∈ silentErrs := by
  rw [waitTimeout_run] at h
  cases h
  exact ⟨_, rfl, by cases tt <;> simp [silentErrs]⟩

theorem CallOutcome.errs {α : Type} {B : Conn → Prop} {tt : Timeout} {w w' : World} {e : Err}
    (h : CallOutcome B tt w (.error e : Except Err α) w') : e ∈ silentErrs := by
  rcases h.2 with ⟨h, -⟩ | ⟨c, a, -, h, -⟩ | ⟨c, w0, -, -, -, hw⟩
  · cases h; simp [silentErrs]
  · cases h
  · obtain ⟨e', he, hm⟩ := waitTimeout_errs hw
    cases he; exact hm

theorem elapsedGt_some_run (start R : Int) (w : World) :
    elapsedGt start (some R) w = (.ok (decide (w.now - start > R)), w) := rfl

/-- a bind whose first part can only fail ends the way its first part does -/
theorem bind_fails {α β} {x : M α} {f : α → M β} {Q : Err → World → Prop} {w w' : World} {r : Except Err β}
    (h : (x >>= f) w = (r, w')) (hx : ∀ r1 w1, x w = (r1, w1) → ∃ e, r1 = .error e ∧ Q e w1) :
    ∃ e, r = .error e ∧ Q e w' := by
  rcases bind_any_inv h with ⟨e, he, rfl⟩ | ⟨a, w1, hok, -⟩
  · obtain ⟨e', he', hq⟩ := hx _ _ he
    cases he'
    exact ⟨e, rfl, hq⟩
  · obtain ⟨e', he', -⟩ := hx _ _ hok
    cases he'

/-- errors of the byte-level wait loops, without any hypothesis but a numeric read timeout -/
theorem readBytesLoop_errs (t : Txn) (start R : Int) (hrt : t.rt = some R) : ∀ (fuel rem : Nat) (acc : Bytes) (w : World)
    (e : Err) (w' : World), readBytesLoop t start fuel rem acc w = (.error e, w') → e ∈ silentErrs := by
  intro fuel
  induction fuel with
  | zero => intro rem acc w e w' h; cases h; simp [silentErrs]
  | succ n ih =>
    intro rem acc w e w' h
    rw [readBytesLoop] at h
    split at h
    · simp at h
    · rcases bind_err_inv h with he | ⟨_, w0, _, hrest⟩
      · simp at he
      rcases bind_err_inv hrest with he | ⟨bs, w1, _, hrest⟩
      · exact (bulkRead_call _ _ _ _ _ he).errs
      simp only at hrest
      split at hrest
      · simp at hrest
      · rw [timeoutCheck_run, hrt] at hrest
        simp only at hrest
        split at hrest
        · cases hrest; simp [silentErrs]
        · exact ih _ _ _ _ _ hrest

theorem writeAllLoop_errs (t : Txn) (start R : Int) (hrt : t.rt = some R) : ∀ (fuel : Nat) (data : Bytes) (w : World)
    (e : Err) (w' : World), writeAllLoop t start fuel data w = (.error e, w') → e ∈ silentErrs := by
  intro fuel
  induction fuel with
  | zero => intro data w e w' h; cases h; simp [silentErrs]
  | succ n ih =>
    intro data w e w' h
    rw [writeAllLoop] at h
    rcases bind_err_inv h with he | ⟨nw, w1, _, hrest⟩
    · exact (bulkWrite_call _ _ _ _ _ he).errs
    cases nw with
    | none => simp at hrest
    | some k =>
      simp only at hrest
      split at hrest
      · simp at hrest
      · rw [timeoutCheck_run, hrt] at hrest
        simp only at hrest
        split at hrest
        · cases hrest; simp [silentErrs]
        · exact ih _ _ _ _ hrest

/-- the device will never send anything any more on the open connection -/
def World.Mute (w : World) : Prop := w.inboundRest = []

/-- total silence for a connected, idle device object: nothing will arrive, nothing is parked, no lock is held -/
structure Silent (w : World) : Prop where
  mute : w.Mute
  store : w.store = []
  locks : w.locks = []
  avail : w.available = true

theorem readBytes_silent {n : Nat} {t : Txn} {R : Int} (hrt : t.rt = some R) (hn : n ≠ 0) {w w' : World}
    {r : Except Err Bytes} (h : readBytes n t w = (r, w')) (hm : w.Mute) :
    ∃ e, r = .error e ∧ w'.Mute ∧ SameDevice w w' ∧ e ∈ silentErrs := by
  obtain ⟨sd, -, -, got, hlen, hsplit, hok⟩ := readBytes_spec n t w r w' h
  unfold World.Mute at hm ⊢
  rw [hm] at hsplit
  have hg : got = [] ∧ w'.inboundRest = [] := by
    have := congrArg List.length hsplit
    simp only [List.length_nil, List.length_append] at this
    exact ⟨List.eq_nil_of_length_eq_zero (by omega), List.eq_nil_of_length_eq_zero (by omega)⟩
  cases r with
  | ok bs =>
    obtain ⟨-, hl⟩ := hok bs rfl
    rw [hg.1] at hl
    simp at hl; omega
  | error e =>
    refine ⟨e, rfl, hg.2, sd, ?_⟩
    simp only [readBytes, bind_run, now_run, M.get_run] at h
    exact readBytesLoop_errs t _ R hrt _ _ _ _ _ _ h

theorem readPacket_silent {t : Txn} {R : Int} (hrt : t.rt = some R) {w w' : World}
    {r : Except Err Pkt} (h : readPacket t w = (r, w')) (hm : w.Mute) :
    ∃ e, r = .error e ∧ w'.Mute ∧ SameDevice w w' ∧ e ∈ silentErrs := by
  rw [readPacket] at h
  exact bind_fails h fun _ _ h1 => readBytes_silent hrt (by decide) h1 hm

theorem expectLoop_silent (ex : List Cmd) (t : Txn) {R : Int} (hrt : t.rt = some R) (start : Int) :
    ∀ (fuel : Nat) {w w' : World} {r : Except Err Pkt}, expectLoop ex t start fuel w = (r, w') → w.Mute →
    ∃ e, r = .error e ∧ w'.Mute ∧ SameDevice w w' ∧ e ∈ silentErrs := by
  intro fuel
  cases fuel with
  | zero =>
    intro w w' r h hm
    cases h
    exact ⟨_, rfl, hm, SameDevice.refl _, by simp [silentErrs]⟩
  | succ n =>
    intro w w' r h hm
    rw [expectLoop] at h
    exact bind_fails h fun _ _ h1 => readPacket_silent hrt h1 hm

/-- `_read_expected_packet_from_device` on a mute connection: never returns, fails with a timeout kind -/
theorem expectPacket_silent {ex : List Cmd} {t : Txn} {R : Int} (hrt : t.rt = some R) {w w' : World}
    {r : Except Err Pkt} (h : expectPacket ex t w = (r, w')) (hm : w.Mute) :
    ∃ e, r = .error e ∧ w'.Mute ∧ SameDevice w w' ∧ e ∈ silentErrs := by
  simp only [expectPacket, bind_run, now_run, M.get_run] at h
  exact expectLoop_silent ex t hrt _ _ h hm

theorem SameDevice.silent {w w' : World} (sd : SameDevice w w') (hm : w'.Mute) (hs : Silent w) : Silent w' :=
  ⟨hm, by rw [sd.1, hs.store], by rw [sd.2.2.2.2.2.2.1, hs.locks], by rw [sd.2.1, hs.avail]⟩

/-- silence survives a `withLock` whose body left the device alone and the connection mute -/
theorem Silent.unlock {l : Nat} {w w1 : World} (hs : Silent w) (sd : SameDevice { w with locks := l :: w.locks } w1)
    (hm : w1.Mute) : Silent { w1 with locks := w1.locks.erase l } :=
  ⟨hm, by simp only; rw [sd.1]; exact hs.store, by simp only; rw [sd.2.2.2.2.2.2.1]; simp [hs.locks],
    by simp only; rw [sd.2.1]; exact hs.avail⟩

theorem storeFind_nil (t : Txn) (az : Bool) (w : World) (hs : w.store = []) : storeFind t az w = (.ok none, w) := by
  unfold storeFind
  rw [hs]
  cases az <;> simp [Store.find, Store.findAllowZeros]

/-- with nothing parked the drain loop finds nothing (or, without fuel, hangs) and changes nothing -/
theorem lockedDrain_silent (ex : List Cmd) (t : Txn) (az : Bool) (fuel : Nat) {w : World}
    (hs : w.store = []) (hl : lockStore ∉ w.locks) :
    withLock lockStore (drainLoop ex t az fuel) w = (.ok none, w) ∨
    withLock lockStore (drainLoop ex t az fuel) w = (.error .hang, w) := by
  rcases h : withLock lockStore (drainLoop ex t az fuel) w with ⟨r, w'⟩
  obtain ⟨w1, hb, rfl⟩ := withLock_any_inv h hl
  cases fuel with
  | zero =>
    simp only [drainLoop, M.throw_run, Prod.mk.injEq] at hb
    obtain ⟨rfl, rfl⟩ := hb
    exact Or.inr (by simp)
  | succ n =>
    rw [drainLoop, bind_run, storeFind_nil t az _ (by exact hs)] at hb
    cases hb
    exact Or.inl (by simp)

theorem readIter_silent {ex : List Cmd} {t : Txn} {az : Bool} {R : Int} (hrt : t.rt = some R) {w w' : World}
    {r : Except Err (Option Pkt)} (h : readIter ex t az w = (r, w')) (hs : Silent w) :
    ∃ e, r = .error e ∧ Silent w' ∧ e ∈ silentErrs := by
  rw [readIter_eq_body] at h
  obtain ⟨w1, hb, rfl⟩ := withLock_any_inv h (by simp [hs.locks])
  rw [readIterBody, bind_run_ok (M.get_run _)] at hb
  rcases lockedDrain_silent ex t az w.fuel (w := { w with locks := lockTransport :: w.locks }) hs.store
    (by simp [hs.locks, lockStore, lockTransport]) with hd | hd
  · rw [bind_run_ok hd] at hb
    obtain ⟨e, rfl, a, sd, hm'⟩ := bind_fails hb fun _ _ h1 => readPacket_silent hrt h1 hs.mute
    exact ⟨e, rfl, hs.unlock sd a, hm'⟩
  · rw [bind_run_err hd] at hb
    cases hb
    exact ⟨_, rfl, ⟨hs.mute, hs.store, by simp [hs.locks], hs.avail⟩, by simp [silentErrs]⟩

theorem readLoop_silent (ex : List Cmd) (t : Txn) (az : Bool) {R : Int} (hrt : t.rt = some R) (start : Int) :
    ∀ (fuel : Nat) {w w' : World} {r : Except Err Pkt}, readLoop ex t az start fuel w = (r, w') → Silent w →
    ∃ e, r = .error e ∧ Silent w' ∧ e ∈ silentErrs := by
  intro fuel
  cases fuel with
  | zero =>
    intro w w' r h hs
    cases h
    exact ⟨_, rfl, hs, by simp [silentErrs]⟩
  | succ n =>
    intro w w' r h hs
    rw [readLoop] at h
    exact bind_fails h fun _ _ h1 => readIter_silent hrt h1 hs

/-- `_AdbIOManager.read` under total silence: it never returns a packet; it fails with AdbTimeoutError, the
    transport's timeout error or a transport error (or the model's `hang`), and the silence persists -/
theorem ioRead_silent {ex : List Cmd} {t : Txn} {az : Bool} {R : Int} (hrt : t.rt = some R) {w w' : World}
    {r : Except Err Pkt} (h : ioRead ex t az w = (r, w')) (hs : Silent w) :
    ∃ e, r = .error e ∧ Silent w' ∧ e ∈ silentErrs := by
  rw [ioRead, bind_run_ok (M.get_run _)] at h
  rcases lockedDrain_silent ex t az w.fuel hs.store (by simp [hs.locks]) with hd | hd
  · rw [bind_run_ok hd] at h
    simp only at h
    rw [bind_run_ok (now_run _)] at h
    exact readLoop_silent ex t az hrt _ _ h hs
  · rw [bind_run_err hd] at h
    cases h
    exact ⟨_, rfl, hs, by simp [silentErrs]⟩

/-- `_send` / `send` on a silent world: the silence persists; failures are timeout kinds or `struct.error` -/
theorem sendRaw_silent {m : Msg} {t : Txn} {R : Int} (hrt : t.rt = some R) {w w' : World} {r : Except Err Unit}
    (h : sendRaw m t w = (r, w')) :
    (w.Mute → w'.Mute) ∧ SameDevice w w' ∧ ∀ e, r = .error e → e ∈ Err.pyStructError :: silentErrs := by
  obtain ⟨sd, hin, -⟩ := sendRaw_spec m t w r w' h
  refine ⟨fun hm => by unfold World.Mute at hm ⊢; rw [hin, hm], sd, ?_⟩
  intro e he
  subst he
  simp only [sendRaw, bind_run, emit_run] at h
  cases hp : m.pack? with
  | none =>
    simp only [hp, M.throw_run, Prod.mk.injEq, Except.error.injEq] at h
    obtain ⟨rfl, -⟩ := h
    simp
  | some hdr =>
    simp only [hp] at h
    have key : ∀ d w0 e0 w1, writeAll d t w0 = (.error e0, w1) → e0 ∈ silentErrs := by
      intro d w0 e0 w1 hw
      simp only [writeAll, bind_run, now_run, M.get_run] at hw
      exact writeAllLoop_errs t _ R hrt _ _ _ _ _ hw
    rcases bind_err_inv h with he | ⟨_, w1, _, hrest⟩
    · exact List.mem_cons_of_mem _ (key _ _ _ _ he)
    · split at hrest
      · exact List.mem_cons_of_mem _ (key _ _ _ _ hrest)
      · simp at hrest

theorem ioSend_silent {m : Msg} {t : Txn} {R : Int} (hrt : t.rt = some R) {w w' : World} {r : Except Err Unit}
    (h : ioSend m t w = (r, w')) (hs : Silent w) :
    Silent w' ∧ ∀ e, r = .error e → e ∈ Err.pyStructError :: silentErrs := by
  obtain ⟨w1, hb, rfl⟩ := withLock_any_inv h (by simp [hs.locks])
  obtain ⟨hm, sd, he⟩ := sendRaw_silent hrt hb
  exact ⟨hs.unlock sd (hm hs.mute), he⟩

/-! ### the silence frame -/

/-- what an operation can raise when it meets total silence: the timeout kinds (and the model's `hang`, excluded
    by the time frame), or an exception raised before any wait: `struct.error` for an unpackable message (a
    destination of 4 GiB or more), a missing local file (`push`) -/
def opErrs : List Err :=
  [.pyStructError, .adbTimeout, .transportTimeout, .transportError, .hang, .localFileError]

theorem silentErrs_sub_opErrs {e : Err} (h : e ∈ Err.pyStructError :: silentErrs) : e ∈ opErrs := by
  simp only [silentErrs, List.mem_cons, List.not_mem_nil, or_false] at h
  rcases h with rfl | rfl | rfl | rfl | rfl <;> simp [opErrs]

/-- under total silence (and with the default transport timeout `d`): the silence persists, every exception is in
    `opErrs`, and — when `mustFail` — the computation cannot return normally -/
def SF {α : Type} (d : Timeout) (mustFail : Bool) (x : M α) : Prop :=
  ∀ w r w', x w = (r, w') → Silent w → w.defaultTT = d →
    Silent w' ∧ w'.defaultTT = d ∧ (∀ e, r = .error e → e ∈ opErrs) ∧ (mustFail = true → okB r = false)

theorem SF.weaken {α} {d : Timeout} {x : M α} (h : SF d true x) : SF d false x :=
  fun w r w' hx hs hd => by
    obtain ⟨a, b, c, -⟩ := h w r w' hx hs hd
    exact ⟨a, b, c, by simp⟩

theorem SF_bind_fail {α β} {d : Timeout} {x : M α} {f : α → M β} (hx : SF d true x) : SF d true (x >>= f) := by
  intro w r w' h hs hd
  rcases bind_any_inv h with ⟨e, he, rfl⟩ | ⟨a, w1, hxa, -⟩
  · obtain ⟨a, b, c, -⟩ := hx w _ w' he hs hd
    exact ⟨a, b, fun e' he' => c e' (by simpa using he'), fun _ => rfl⟩
  · obtain ⟨-, -, -, c⟩ := hx w _ w1 hxa hs hd
    simp at c

theorem SF_bind {α β} {d : Timeout} {b : Bool} {x : M α} {f : α → M β} (hx : SF d false x) (hf : ∀ a, SF d b (f a)) :
    SF d b (x >>= f) := by
  intro w r w' h hs hd
  rcases bind_any_inv h with ⟨e, he, rfl⟩ | ⟨a, w1, hxa, hfa⟩
  · obtain ⟨a, b', c, -⟩ := hx w _ w' he hs hd
    exact ⟨a, b', fun e' he' => c e' (by simpa using he'), fun _ => rfl⟩
  · obtain ⟨a1, b1, -, -⟩ := hx w _ w1 hxa hs hd
    exact hf a w1 r w' hfa a1 b1

theorem SF_throw {α} {d : Timeout} {e : Err} (he : e ∈ opErrs) : SF d true (M.throw e : M α) := by
  intro w r w' h hs hd
  cases h
  exact ⟨hs, hd, fun e' he' => by cases he'; exact he, fun _ => rfl⟩

theorem SF_ite {α} {d : Timeout} {b : Bool} {c : Prop} [Decidable c] {x y : M α} (hx : SF d b x) (hy : SF d b y) :
    SF d b (if c then x else y) := by
  split <;> assumption

/-- a quiet computation whose exceptions are in `opErrs` -/
theorem SF_of_TQ {α} {d : Timeout} {x : M α} (hq : TQ x) (he : ∀ w e w', x w = (.error e, w') → e ∈ opErrs) : SF d false x := by
  intro w r w' h hs hd
  have q := hq.at h
  refine ⟨⟨?_, by rw [q.store, hs.store], by rw [q.locks, hs.locks], by rw [q.avail, hs.avail]⟩, by rw [q.dtt, hd], ?_, by simp⟩
  · have := hs.mute
    unfold World.Mute World.inboundRest at this ⊢
    rw [q.cur]; exact this
  · intro e hr; subst hr; exact he w e w' h

theorem SF_ioSend {d : Timeout} (m : Msg) (t : Txn) {R : Int} (hrt : t.rt = some R) : SF d false (ioSend m t) := by
  intro w r w' h hs hd
  obtain ⟨a, b⟩ := ioSend_silent hrt h hs
  have hdt : w'.defaultTT = w.defaultTT := by have := (Fr_ioSend m t w).defaultTT; rw [h] at this; exact this
  exact ⟨a, by rw [hdt, hd], fun e he => silentErrs_sub_opErrs (b e he), by simp⟩

theorem SF_ioRead {d : Timeout} (ex : List Cmd) (t : Txn) (az : Bool) {R : Int} (hrt : t.rt = some R) :
    SF d true (ioRead ex t az) := by
  intro w r w' h hs hd
  obtain ⟨e, rfl, a, he⟩ := ioRead_silent hrt h hs
  have hdt : w'.defaultTT = w.defaultTT := by have := (Fr_ioRead ex t az w).defaultTT; rw [h] at this; exact this
  refine ⟨a, by rw [hdt, hd], ?_, fun _ => rfl⟩
  intro e' he'
  simp only [Except.error.injEq] at he'
  subst he'
  exact silentErrs_sub_opErrs (List.mem_cons_of_mem _ he)

/-- `_open` under total silence: the OPEN is sent, the wait for its OKAY fails with a timeout kind -/
theorem SF_openStream {P : TP} (dest : Bytes) (tt rt total : Timeout) (heff : EffT P tt rt total) :
    SF P.dtt true (openStream dest tt rt total) := by
  rw [openStream_eq]
  intro w r w' h hs hd
  rcases bind_any_inv h with ⟨e, he, rfl⟩ | ⟨t, w1, ht, hrest⟩
  · obtain ⟨hr, -⟩ := openTxnBlock_spec he hs.locks
    obtain ⟨t0, h0, -, -⟩ := heff
    rw [hd] at hr
    exact absurd h0 (Txn.make_err_ids hr.symm t0)
  · obtain ⟨hr, q⟩ := openTxnBlock_spec ht hs.locks
    obtain ⟨t0, h0, h1, h2⟩ := heff
    rw [hd] at hr
    obtain ⟨hrt, -, -⟩ := Txn.make_fields hr.symm h0
    have hm : w1.Mute := by
      have := hs.mute
      unfold World.Mute World.inboundRest at this ⊢
      rw [q.cur]; exact this
    have hs1 : Silent w1 := ⟨hm, by rw [q.store, hs.store], by rw [q.locks, hs.locks], by rw [q.avail, hs.avail]⟩
    have hrt' : t.rt = some P.R := hrt.trans h1
    exact SF_bind (SF_ioSend _ t hrt') (fun _ => SF_bind_fail (SF_ioRead _ t _ hrt')) w1 r w' hrest hs1 (by rw [q.dtt, hd])

theorem runGuards_ok : ∀ (gs : List String) {p : Option Bytes} {w : World}, w.available = true → p ≠ some [] →
    runGuards gs p w = (.ok (), w) := by
  intro gs
  induction gs with
  | nil => intro p w _ _; rfl
  | cons g gs ih =>
    intro p w ha hp
    unfold runGuards
    have h1 : runGuard g p w = (.ok (), w) := by
      unfold runGuard
      split
      · rfl
      · split
        · rfl
        · rfl
    rw [bind_run_ok h1]
    exact ih ha hp

theorem SF_runGuards {d : Timeout} (gs : List String) (p : Option Bytes) (hp : p ≠ some []) : SF d false (runGuards gs p) := by
  intro w r w' h hs hd
  rw [runGuards_ok gs hs.avail hp] at h
  cases h
  exact ⟨hs, hd, by simp, by simp⟩

theorem SF_streamingCommand {P : TP} (svc cmd : Bytes) (tt rt total : Timeout) (heff : EffT P tt rt total) :
    SF P.dtt true (streamingCommand svc cmd tt rt total) := by
  unfold streamingCommand
  exact SF_bind_fail (SF_openStream _ tt rt total heff)

theorem SF_devShellLike {P : TP} (op : String) (svc cmd : Bytes) (tt rt total : Timeout) (dec : Bool)
    (heff : EffT P tt rt total) : SF P.dtt true (devShellLike op svc cmd tt rt total dec) := by
  unfold devShellLike service
  exact SF_bind (SF_runGuards _ _ (by simp)) fun _ => SF_bind_fail (SF_streamingCommand svc cmd tt rt total heff)

theorem SF_quiet_unit {d : Timeout} {x : M Unit} (hq : TQ x) (he : ∀ w e w', x w ≠ (.error e, w')) : SF d false x :=
  SF_of_TQ hq fun w e w' h => absurd h (he w e w')

/-- every stream operation started under total silence fails: the silence persists and the exception is a
    timeout kind or one raised before any wait -/
theorem ApiOp.silent {P : TP} (op : ApiOp) (hop : op.isStreamOp = true) (heff : op.Eff P)
    (hpath : op.devicePath ≠ some []) : SF P.dtt true op.run := by
  cases op with
  | connect => simp [ApiOp.isStreamOp] at hop
  | close => simp [ApiOp.isStreamOp] at hop
  | shell cmd tt rt total dec => exact SF_devShellLike _ _ cmd tt rt total dec heff
  | execOut cmd tt rt total dec => exact SF_devShellLike _ _ cmd tt rt total dec heff
  | root tt rt total =>
    show SF P.dtt true (devRoot tt rt total)
    unfold devRoot service
    exact SF_bind (SF_runGuards _ _ (by simp)) fun _ => SF_bind_fail (SF_bind_fail (SF_streamingCommand _ _ tt rt total heff))
  | reboot fb tt rt total =>
    show SF P.dtt true (devReboot fb tt rt total)
    unfold devReboot
    exact SF_bind (SF_runGuards _ _ (by simp)) fun _ => SF_bind_fail (SF_openStream _ tt rt total heff)
  | streamingShell cmd tt rt dec =>
    show SF P.dtt true (devStreamingShell cmd tt rt dec)
    unfold devStreamingShell streamingService
    exact SF_bind (SF_runGuards _ _ (by simp)) fun _ => SF_bind_fail (SF_streamingCommand _ _ tt rt none heff)
  | list p tt rt =>
    show SF P.dtt true (devList p tt rt)
    unfold devList
    exact SF_bind (SF_runGuards _ _ hpath) fun _ => SF_bind_fail (SF_openStream _ tt rt none heff)
  | stat p tt rt =>
    show SF P.dtt true (devStat p tt rt)
    unfold devStat
    exact SF_bind (SF_runGuards _ _ hpath) fun _ => SF_bind_fail (SF_openStream _ tt rt none heff)
  | pull p cb tt rt =>
    show SF P.dtt true (devPull p cb tt rt)
    unfold devPull
    refine SF_bind (SF_runGuards _ _ hpath) fun _ => SF_bind (SF_of_TQ (by tq) fun w e w' h => ?_) fun _ =>
      SF_bind_fail (SF_openStream _ tt rt none heff)
    simp at h
  | push src p mode mtime cb tt rt =>
    show SF P.dtt true (devPush src p mode mtime cb tt rt)
    have hfile : ∀ fid path, SF P.dtt true (pushFile fid path mode mtime cb tt rt) := by
      intro fid path
      unfold pushFile
      refine SF_bind (SF_of_TQ (TQ_lookupFile fid) fun w e w' h => ?_) fun _ =>
        SF_bind_fail (SF_openStream _ tt rt none heff.1)
      unfold lookupFile at h
      split at h
      · simp at h
      · simp only [Prod.mk.injEq, Except.error.injEq] at h; obtain ⟨rfl, -⟩ := h; simp [opErrs]
    unfold devPush
    refine SF_bind (SF_runGuards _ _ hpath) fun _ => ?_
    cases src with
    | bytesio id => exact SF_bind_fail (hfile id p)
    | file id => exact SF_bind_fail (hfile id p)
    | dir id =>
      refine SF_bind (SF_of_TQ TQ_get fun w e w' h => by simp at h) fun wg => ?_
      split
      · exact SF_throw (by simp [opErrs])
      · exact SF_bind_fail (SF_devShellLike _ _ _ tt rt none true heff.1)

/-! ### waits that begin in silence in the middle of an operation -/

theorem SF_readUntil {d : Timeout} (ex : List Cmd) (t : Txn) {R : Int} (hrt : t.rt = some R) : SF d true (readUntil ex t) := by
  unfold readUntil
  exact SF_bind_fail (SF_ioRead ex t true hrt)

theorem SF_clse {d : Timeout} (t : Txn) {R : Int} (hrt : t.rt = some R) : SF d true (clse t) := by
  unfold clse
  exact SF_bind (SF_ioSend _ t hrt) fun _ => SF_bind_fail (SF_readUntil _ t hrt)

theorem SF_readUntilClose {d : Timeout} (t : Txn) {R : Int} (hrt : t.rt = some R) : SF d true (readUntilClose t) := by
  unfold readUntilClose
  refine SF_bind (SF_of_TQ TQ_now fun w e w' h => by simp at h) fun start =>
    SF_bind (SF_of_TQ TQ_get fun w e w' h => by simp at h) fun wg => ?_
  cases wg.fuel with
  | zero => unfold readUntilCloseLoop; exact SF_throw (by simp [opErrs])
  | succ n => unfold readUntilCloseLoop; exact SF_bind_fail (SF_readUntil _ t hrt)

theorem SF_fsFlush {d : Timeout} (t : Txn) (fi : FsInfo) {R : Int} (hrt : t.rt = some R) : SF d true (fsFlush t fi) := by
  unfold fsFlush
  refine SF_bind (SF_ioSend _ t hrt) fun _ => SF_bind (SF_of_TQ TQ_get fun w e w' h => by simp at h) fun wg => ?_
  cases wg.fuel with
  | zero => unfold fsFlushLoop; exact SF_throw (by simp [opErrs])
  | succ n => unfold fsFlushLoop; exact SF_bind_fail (SF_readUntil _ t hrt)

/-- `pull`'s clean-up discipline under silence: whatever the body did, the close handshake fails too, and an
    exception is reported — the body's if it raised, the close handshake's otherwise -/
theorem SF_tryFinally {α} {d : Timeout} {b : Bool} {x : M α} {fin : M Unit} (hx : SF d b x) (hf : SF d true fin) :
    SF d true (M.tryFinally x fin) := by
  intro w r w' h hs hd
  obtain ⟨rx, w1, rf, hxw, hfw, rfl⟩ := tryFinally_inv h
  obtain ⟨a1, b1, c1, -⟩ := hx w rx w1 hxw hs hd
  obtain ⟨a2, b2, c2, d2⟩ := hf w1 rf w' hfw a1 b1
  cases rf with
  | ok u => simp at d2
  | error e2 =>
    cases rx with
    | ok v => exact ⟨a2, b2, fun e' he' => c2 e' (by simpa using he'), fun _ => rfl⟩
    | error e => exact ⟨a2, b2, fun e' he' => c1 e' (by simpa using he'), fun _ => rfl⟩

/-! ### `connect` to a device that never answers -/

theorem connTail_silent {banner : Bytes} {keys : List Nat} {authT : Timeout} {hasCb : Bool} {t : Txn} {R : Int}
    (hrt : t.rt = some R) {w w' : World} {r : Except Err Nat}
    (h : connTail banner keys authT hasCb t w = (r, w')) (hm : w.Mute) :
    ∃ e, r = .error e ∧ e ∈ Err.pyStructError :: silentErrs := by
  unfold connTail at h
  rcases bind_any_inv h with ⟨e, he, rfl⟩ | ⟨_, w1, hs, hrest⟩
  · exact ⟨e, rfl, (sendRaw_silent hrt he).2.2 e rfl⟩
  · have hm1 := (sendRaw_silent hrt hs).1 hm
    obtain ⟨e, rfl, -, -, hmem⟩ := bind_fails hrest fun _ _ h1 => expectPacket_silent hrt h1 hm1
    exact ⟨e, rfl, List.mem_cons_of_mem _ hmem⟩

/-- `connect` when the next connection never sends anything: it fails with a timeout kind (or the transport error
    of a refused connection, or `struct.error` for an unpackable banner), never with a fabricated success -/
theorem devConnect_silent {P : TP} {keys : List Nat} {tt authT rt : Timeout} {hasCb : Bool}
    (heff : ConnEff P tt authT rt) {w w' : World} {r : Except Err Val}
    (h : devConnect keys tt authT rt hasCb w = (r, w')) (hl : w.locks = []) (hd : w.defaultTT = P.dtt)
    (hmute : ∀ c, w.conns.head? = some c → c.inboundRest = []) :
    ∃ e, r = .error e ∧ e ∈ Err.pyStructError :: silentErrs := by
  obtain ⟨t0, τ0, A, hmk, hrt, htt, h0, hle, rfl, hA, hAle⟩ := heff
  have hmk' : Txn.make none none (if tt.isSome then tt else w.defaultTT) rt none = .ok t0 := by rw [hd]; exact hmk
  unfold devConnect at h
  simp only [getTT, bind_run, liftExcept_run, hmk', M.modify_run, M.get_run] at h
  rcases hio : ioConnect w.banner keys (some A) hasCb t0 { w with available := false } with ⟨r1, w1⟩
  simp only [hio] at h
  have key : ∃ e, r1 = .error e ∧ e ∈ Err.pyStructError :: silentErrs := by
    rw [ioConnect_eq] at hio
    obtain ⟨w2, hb, -⟩ := withLock_any_inv hio (by simp [hl])
    rcases bind_any_inv hb with ⟨e, he, rfl⟩ | ⟨_, wa, hca, hrest⟩
    · have := (tClose_still he).1; simp at this
    obtain ⟨-, s1, hcur1, hcn1⟩ := tClose_still hca
    have hls : lockStore ∉ wa.locks := by rw [s1.locks]; simp [hl, lockStore, lockTransport]
    rcases bind_any_inv hrest with ⟨e, he, rfl⟩ | ⟨_, wb, hcb, hrest⟩
    · have := (clearAll_still he hls).1; simp at this
    obtain ⟨-, s2, hcur2, hcn2, -⟩ := clearAll_still hcb hls
    rcases bind_any_inv hrest with ⟨e, he, rfl⟩ | ⟨_, wc, hcc, hrest⟩
    · obtain ⟨-, -, hor⟩ := tConnect_still he
      rcases hor with ⟨he', -⟩ | ⟨he', -⟩
      · simp only [Except.error.injEq] at he'
        subst he'
        exact ⟨_, rfl, by simp [silentErrs]⟩
      · simp at he'
    · obtain ⟨-, -, hor⟩ := tConnect_still hcc
      rcases hor with ⟨he', -⟩ | ⟨-, c, hhead, hcur3⟩
      · simp at he'
      · have hm : wc.Mute := by
          unfold World.Mute World.inboundRest
          rw [hcur3]
          exact hmute c (by rw [← hcn1, ← hcn2] at *; exact hhead)
        exact connTail_silent hrt hrest hm
  obtain ⟨e, rfl, he⟩ := key
  simp only [Prod.mk.injEq] at h
  obtain ⟨rfl, -⟩ := h
  exact ⟨e, rfl, he⟩

end Adb
