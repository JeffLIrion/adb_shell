import AdbProofs.Lemmas.FragRel
import AdbProofs.Lemmas.WireLemmas
/-
  Base case of the fragmentation-independence proof: `_read_bytes_from_device`.
  `refRead tt rem acc` is a reference semantics of "read `rem` more bytes" that never looks at the
  fragmentation script (it takes the readable bytes one at a time).  One `bulk_read` that returns `k` bytes is `k`
  steps of the reference on the erased world (`bulkRead_ref`; `Frag.erase w` is the canonical world of the
  `FragAgree` class of `w`).  Hence every run of the real loop `readBytesLoop` either ends in `hang` or returns
  what `refRead` returns on the erased world and ends in a world with the same erasure (`readBytesLoop_ref`),
  and two `FragAgree` worlds have the same erasure: `Ins (readBytes n t)` for every transaction with a numeric
  non-negative read timeout.
-/
namespace Adb.Frag
open Adb

/-! ### segments -/

theorem readablePrefix_eq_take (out : Nat) (k : Nat) (segs : List Seg) :
    readablePrefix out k segs = (readableOf out segs).take k := by
  induction segs generalizing k with
  | nil => cases k <;> simp [readablePrefix, readableOf]
  | cons s rest ih =>
    cases k with
    | zero => simp [readablePrefix]
    | succ n =>
      simp only [readablePrefix, readableOf]
      split
      · split
        · next hge => rw [List.take_append_of_le_length (by omega)]
        · next hlt =>
          rw [ih, List.take_append]
          have : s.bytes.take (n + 1) = s.bytes := List.take_of_length_le (by omega)
          rw [this]
      · simp

theorem anyReadable_eq (out : Nat) (segs : List Seg) :
    anyReadable out segs = !(readableOf out segs).isEmpty := by
  induction segs with
  | nil => rfl
  | cons s rest ih =>
    simp only [anyReadable, readableOf]
    split
    · split
      · next he =>
        have : s.bytes = [] := by simpa using he
        rw [ih, this]; rfl
      · next he =>
        cases hb : s.bytes with
        | nil => simp [hb] at he
        | cons b bs => simp
    · rfl

theorem dropSegs_one_cons (s : Seg) (rest : List Seg) :
    dropSegs 1 (s :: rest) =
      match s.bytes with
      | [] => dropSegs 1 rest
      | [_] => rest
      | _ :: bs => { s with bytes := bs } :: rest := by
  simp only [dropSegs]
  rcases s.bytes with _ | ⟨b, _ | ⟨b', t⟩⟩
  · rfl
  · exact dropSegs_zero rest
  · rfl

theorem dropSegs_one_add (k : Nat) (segs : List Seg) : dropSegs k (dropSegs 1 segs) = dropSegs (k + 1) segs := by
  induction segs with
  | nil => cases k <;> rfl
  | cons s rest ih =>
    rw [dropSegs_one_cons]
    simp only [dropSegs]
    rcases hb : s.bytes with _ | ⟨b, _ | ⟨b', t⟩⟩
    · exact ih
    · rfl
    · cases k with
      | zero => exact dropSegs_zero _
      | succ k =>
        simp only [dropSegs, List.length_cons, List.drop_succ_cons, Nat.add_le_add_iff_right, Nat.add_sub_add_right]

theorem readableOf_dropOne (out : Nat) (segs : List Seg) (b : UInt8) (bs : Bytes)
    (h : readableOf out segs = b :: bs) : readableOf out (dropSegs 1 segs) = bs := by
  induction segs with
  | nil => cases h
  | cons s rest ih =>
    rw [dropSegs_one_cons]
    simp only [readableOf] at h
    split at h
    · next hg =>
      rcases hb : s.bytes with _ | ⟨b', _ | ⟨b'', t⟩⟩ <;> rw [hb] at h
      · exact ih h
      · exact (List.cons.inj h).2
      · simp only [readableOf, hg, if_true]
        exact (List.cons.inj h).2
    · cases h

/-! ### faults -/

theorem faultLimit_foldl_le (off : Nat) (l : List Fault) (acc : Option Nat) :
    (∀ a, acc = some a → ∃ d, l.foldl (fun acc f => match acc with
        | none => some (f.off - off) | some d => some (min d (f.off - off))) acc = some d ∧ d ≤ a) ∧
    (∀ f ∈ l, ∃ d, l.foldl (fun acc f => match acc with
        | none => some (f.off - off) | some d => some (min d (f.off - off))) acc = some d ∧ d ≤ f.off - off) := by
  induction l generalizing acc with
  | nil => exact ⟨fun a ha => ⟨a, by simpa using ha, Nat.le_refl _⟩, by simp⟩
  | cons g rest ih =>
    simp only [List.foldl_cons]
    constructor
    · intro a ha
      subst ha
      obtain ⟨d, hd, hle⟩ := (ih (some (min a (g.off - off)))).1 _ rfl
      exact ⟨d, hd, by omega⟩
    · intro f hf
      rcases List.mem_cons.1 hf with rfl | hf
      · cases acc with
        | none =>
          obtain ⟨d, hd, hle⟩ := (ih (some (f.off - off))).1 _ rfl
          exact ⟨d, hd, hle⟩
        | some a =>
          obtain ⟨d, hd, hle⟩ := (ih (some (min a (f.off - off)))).1 _ rfl
          exact ⟨d, hd, by omega⟩
      · exact (ih _).2 f hf

/-- no inbound fault sits strictly inside the window a read is allowed to cross -/
theorem no_fault_within (off : Nat) (fs : List Fault) (a k j : Nat)
    (hk : k ≤ minOpt a (faultLimit true off fs)) (hj0 : 0 < j) (hj : j < k) :
    nextFault true (off + j) fs = none := by
  unfold nextFault
  rw [List.find?_eq_none]
  intro f hf hcond
  simp only [Bool.and_eq_true, beq_iff_eq] at hcond
  obtain ⟨hin, hoff⟩ := hcond
  have hmem : f ∈ fs.filter (fun f => f.inbound == true && decide (f.off > off)) := by
    simp only [List.mem_filter, Bool.and_eq_true, beq_iff_eq, decide_eq_true_eq]
    exact ⟨hf, hin, by omega⟩
  obtain ⟨d, hd, hle⟩ := (faultLimit_foldl_le off _ none).2 f hmem
  have : faultLimit true off fs = some d := hd
  rw [this] at hk
  simp only [minOpt] at hk
  omega

/-! ### the reference semantics -/

/-- "read `rem` more bytes", one readable byte at a time, never looking at `frags` / `fragLeft` -/
def refRead (tt : Timeout) : Nat → Bytes → M Bytes
  | 0, acc => fun w => (.ok acc, w)
  | rem + 1, acc => fun w =>
    match w.cur with
    | none => (.error .transportError, w)
    | some c =>
      if c.isReset then (.error .transportError, w)
      else if c.isEof then (.error .hang, w)
      else
        match nextFault true c.inOff c.faults with
        | some f =>
          match f.kind with
          | .timeout => waitTimeout tt { w with cur := some { c with faults := c.faults.filter (· != f) } }
          | .reset => (.error .transportError,
              { w with cur := some { c with faults := c.faults.filter (· != f), isReset := true } })
          | .eof => (.error .hang, w)
        | none =>
          match readableOf c.outOff c.segs with
          | [] => waitTimeout tt w
          | b :: _ =>
            refRead tt rem (acc ++ [b])
              { w with cur := some { c with segs := dropSegs 1 c.segs, inOff := c.inOff + 1 } }

section
variable {tt : Timeout} {rem : Nat} {acc : Bytes} {w : World} {c : Conn}

theorem refRead_none (hc : w.cur = none) : refRead tt (rem + 1) acc w = (.error .transportError, w) := by
  unfold refRead; simp only [hc]

theorem refRead_reset (hc : w.cur = some c) (hr : c.isReset = true) :
    refRead tt (rem + 1) acc w = (.error .transportError, w) := by
  unfold refRead; simp only [hc, hr, if_true]

theorem refRead_fault {f : Fault} (hc : w.cur = some c) (hr : c.isReset = false) (he : c.isEof = false)
    (hf : nextFault true c.inOff c.faults = some f) :
    refRead tt (rem + 1) acc w =
      match f.kind with
      | .timeout => waitTimeout tt { w with cur := some { c with faults := c.faults.filter (· != f) } }
      | .reset => (.error .transportError,
          { w with cur := some { c with faults := c.faults.filter (· != f), isReset := true } })
      | .eof => (.error .hang, w) := by
  unfold refRead; simp only [hc, hr, he, hf, Bool.false_eq_true, if_false]

theorem refRead_nil (hc : w.cur = some c) (hr : c.isReset = false) (he : c.isEof = false)
    (hf : nextFault true c.inOff c.faults = none) (hav : readableOf c.outOff c.segs = []) :
    refRead tt (rem + 1) acc w = waitTimeout tt w := by
  unfold refRead; simp only [hc, hr, he, hf, hav, Bool.false_eq_true, if_false]

theorem refRead_cons {b : UInt8} {bs : Bytes} (hc : w.cur = some c) (hr : c.isReset = false) (he : c.isEof = false)
    (hf : nextFault true c.inOff c.faults = none) (hav : readableOf c.outOff c.segs = b :: bs) :
    refRead tt (rem + 1) acc w =
      refRead tt rem (acc ++ [b]) { w with cur := some { c with segs := dropSegs 1 c.segs, inOff := c.inOff + 1 } } := by
  conv => lhs; unfold refRead
  simp only [hc, hr, he, hf, hav, Bool.false_eq_true, if_false]

end

/-- `k` readable bytes with no fault in the way can be taken in one go -/
theorem refRead_advance (tt : Timeout) : ∀ (k rem : Nat) (acc : Bytes) (w : World) (c : Conn),
    w.cur = some c → c.isReset = false → c.isEof = false → k ≤ rem →
    k ≤ (readableOf c.outOff c.segs).length →
    (∀ j, j < k → nextFault true (c.inOff + j) c.faults = none) →
    refRead tt rem acc w =
      refRead tt (rem - k) (acc ++ (readableOf c.outOff c.segs).take k)
        { w with cur := some { c with segs := dropSegs k c.segs, inOff := c.inOff + k } } := by
  intro k
  induction k with
  | zero =>
    intro rem acc w c hc _ _ _ _ _
    have : ({ w with cur := some { c with segs := dropSegs 0 c.segs, inOff := c.inOff + 0 } } : World) = w := by
      rw [dropSegs_zero]
      cases w
      simp only at hc
      subst hc
      rfl
    rw [this]
    simp
  | succ k ih =>
    intro rem acc w c hc hr he hk hlen hnf
    cases rem with
    | zero => omega
    | succ rem' =>
      cases hav : readableOf c.outOff c.segs with
      | nil => rw [hav] at hlen; simp at hlen
      | cons b bs =>
        have h0 : nextFault true c.inOff c.faults = none := by simpa using hnf 0 (by omega)
        rw [refRead_cons hc hr he h0 hav]
        have hav' := readableOf_dropOne _ _ _ _ hav
        rw [hav] at hlen
        simp only [List.length_cons] at hlen
        rw [ih rem' (acc ++ [b]) _ { c with segs := dropSegs 1 c.segs, inOff := c.inOff + 1 } rfl hr he (by omega)
          (by simp only [hav']; omega)
          (by intro j hj; have := hnf (j + 1) (by omega); simpa [Nat.add_assoc, Nat.add_comm 1 j] using this)]
        simp only [hav', dropSegs_one_add, List.take_succ_cons, List.append_assoc, List.singleton_append]
        have e1 : rem' + 1 - (k + 1) = rem' - k := by omega
        have e2 : c.inOff + 1 + k = c.inOff + (k + 1) := by omega
        rw [e1, e2]

/-! ### one `bulk_read` -/

/-- one `bulk_read` on a healthy connection with no fault at the current offset: nothing is readable and the call
    waits, or it takes some `k ≤ n` of the readable bytes (`k = 0`: an empty fragment) without crossing a fault -/
theorem bulkRead_take (n : Nat) (tt : Timeout) (w : World) (c : Conn) (hc : w.cur = some c)
    (hr : c.isReset = false) (he : c.isEof = false) (hf : nextFault true c.inOff c.faults = none) :
    (readableOf c.outOff c.segs = [] ∧ bulkRead n tt w = waitTimeout tt w) ∨
    (∃ k fl fr, k ≤ n ∧ k ≤ (readableOf c.outOff c.segs).length ∧
      (∀ j, j < k → nextFault true (c.inOff + j) c.faults = none) ∧
      bulkRead n tt w = (.ok ((readableOf c.outOff c.segs).take k),
        { w with cur := some { c with segs := dropSegs k c.segs, inOff := c.inOff + k, fragLeft := fl, frags := fr },
                 now := w.now + c.dt })) := by
  rcases bulkRead_healthy n tt w c hc hr he hf with ⟨hne, hb⟩ | ⟨m, fr, hm, hb⟩
  · left
    rw [anyReadable_eq] at hne
    exact ⟨by simpa using hne, hb⟩
  · right
    obtain ⟨fl, hb⟩ := hb _ rfl
    have hw := (readablePrefix_spec c.outOff (minOpt m (faultLimit true c.inOff c.faults)) c.segs).1
    rw [readablePrefix_eq_take] at hw hb
    refine ⟨_, fl, fr, Nat.le_trans hw (Nat.le_trans (minOpt_le _ _) hm), ?_, ?_,
      by rw [hb, List.length_take, ← List.take_eq_take_min]⟩
    · rw [List.length_take]; exact Nat.min_le_right _ _
    · intro j hj
      by_cases hj0 : j = 0
      · subst hj0; exact hf
      · exact no_fault_within _ _ _ _ j hw (by omega) hj

theorem erase_cur {w : World} {c : Conn} (h : w.cur = some c) : (erase w).cur = some c.unfrag := by
  simp only [erase, h, Option.map_some]

/-- One `bulk_read` on a connection whose calls take no time, seen from the reference run on the erased world:
    it fails and so does the reference; or it reports the end of the stream; or it returns `bs` and the reference,
    having taken the bytes of `bs` one by one, is where the read has left the world. -/
theorem bulkRead_ref (n : Nat) (tt : Timeout) (w : World) (hd : ∀ c, w.cur = some c → c.dt = 0) :
    (∃ e w', bulkRead n tt w = (.error e, w') ∧
      ∀ rem acc, refRead tt (rem + 1) acc (erase w) = (.error e, erase w')) ∨
    (∃ c w', bulkRead n tt w = (.ok [], w') ∧ w'.cur = some c ∧ c.isReset = false ∧ c.isEof = true ∧ c.dt = 0 ∧
      w'.now = w.now) ∨
    (∃ bs w', bulkRead n tt w = (.ok bs, w') ∧ bs.length ≤ n ∧ w'.now = w.now ∧ (∀ c, w'.cur = some c → c.dt = 0) ∧
      ∀ rem acc, bs.length ≤ rem →
        refRead tt rem acc (erase w) = refRead tt (rem - bs.length) (acc ++ bs) (erase w')) := by
  cases hc : w.cur with
  | none =>
    exact Or.inl ⟨_, _, bulkRead_none n tt w hc, fun _ _ => refRead_none (by simp only [erase, hc, Option.map_none])⟩
  | some c =>
    have hce := erase_cur hc
    have hdt := hd c hc
    have hnow : w.now + c.dt = w.now := by rw [hdt, Int.add_zero]
    cases hr : c.isReset with
    | true => exact Or.inl ⟨_, _, bulkRead_reset n tt w c hc hr, fun _ _ => refRead_reset hce hr⟩
    | false =>
      cases he : c.isEof with
      | true => exact Or.inr (Or.inl ⟨c, _, bulkRead_eof n tt w c hc hr he, hc, hr, he, hdt, hnow⟩)
      | false =>
        cases hf : nextFault true c.inOff c.faults with
        | some f =>
          have hb := bulkRead_fault n tt w c f hc hr he hf
          have hR := fun rem acc => refRead_fault (tt := tt) (rem := rem) (acc := acc) hce hr he hf
          cases hk : f.kind with
          | timeout =>
            simp only [hk] at hb hR
            cases tt <;> exact Or.inl ⟨_, _, hb, hR⟩
          | reset =>
            simp only [hk] at hb hR
            exact Or.inl ⟨_, _, hb, hR⟩
          | eof =>
            simp only [hk] at hb
            exact Or.inr (Or.inl ⟨_, _, hb, rfl, hr, rfl, hdt, hnow⟩)
        | none =>
          rcases bulkRead_take n tt w c hc hr he hf with ⟨hav, hb⟩ | ⟨k, fl, fr, hk1, hk2, hk3, hb⟩
          · cases tt <;> exact Or.inl ⟨_, _, hb, fun _ _ => refRead_nil hce hr he hf hav⟩
          · rw [hnow] at hb
            have hlen : ((readableOf c.outOff c.segs).take k).length = k := by rw [List.length_take]; omega
            refine Or.inr (Or.inr ⟨_, _, hb, by omega, rfl, ?_, ?_⟩)
            · intro c' hc'
              cases hc'
              exact hdt
            · intro rem acc hle
              rw [hlen] at hle ⊢
              exact refRead_advance tt k rem acc (erase w) c.unfrag hce hr he hle hk2 hk3

/-- the part of the loop body after the `bulk_read` -/
def cont (t : Txn) (start : Int) (fuel rem : Nat) (acc temp : Bytes) : M Bytes :=
  if rem - temp.length = 0 then pure (acc ++ temp) else do
    if (← elapsedGt start t.rt) then M.throw .adbTimeout
    readBytesLoop t start fuel (rem - temp.length) (acc ++ temp)

theorem readBytesLoop_succ (t : Txn) (start : Int) (fuel rem : Nat) (acc : Bytes) (w : World) (h : rem ≠ 0) :
    readBytesLoop t start (fuel + 1) rem acc w =
      (bulkRead rem t.tt >>= cont t start fuel rem acc) { w with trace := .req rem rem :: w.trace } := by
  rw [readBytesLoop]
  simp only [h, if_false]
  rfl

theorem cont_run (t : Txn) (start l : Int) (hrt : t.rt = some l) (fuel rem : Nat) (acc temp : Bytes) (w : World) :
    cont t start fuel rem acc temp w =
      if rem - temp.length = 0 then (.ok (acc ++ temp), w)
      else if w.now - start > l then (.error .adbTimeout, w)
      else readBytesLoop t start fuel (rem - temp.length) (acc ++ temp) w := by
  unfold cont
  split
  · rfl
  · rw [timeoutCheck_run, hrt]

/-- once the transport reports EOF the loop spins (no virtual time passes) until the budget is gone -/
theorem readBytesLoop_eof_hang (t : Txn) (start l : Int) (hrt : t.rt = some l) (hl : 0 ≤ l) :
    ∀ (fuel rem : Nat) (acc : Bytes) (w : World) (c : Conn), rem ≠ 0 → w.cur = some c → c.isReset = false →
      c.isEof = true → c.dt = 0 → w.now = start →
      (readBytesLoop t start fuel rem acc w).1 = .error .hang := by
  intro fuel
  induction fuel with
  | zero => intro rem acc w c _ _ _ _ _ _; rfl
  | succ fuel ih =>
    intro rem acc w c hrem hc hr he hdt hnow
    rw [readBytesLoop_succ _ _ _ _ _ _ hrem]
    have hc1 : ({ w with trace := .req rem rem :: w.trace } : World).cur = some c := hc
    have hn1 : ({ w with trace := .req rem rem :: w.trace } : World).now = start := hnow
    generalize ({ w with trace := .req rem rem :: w.trace } : World) = w1 at hc1 hn1
    rw [bind_run_ok (bulkRead_eof rem t.tt w1 c hc1 hr he), cont_run t start l hrt]
    simp only [List.length_nil, Nat.sub_zero, hrem, if_false, hdt, Int.add_zero, List.append_nil]
    rw [if_neg (by rw [hn1]; omega)]
    exact ih rem acc _ c hrem hc1 hr he hdt hn1

theorem readBytesLoop_ref (t : Txn) (start l : Int) (hrt : t.rt = some l) (hl : 0 ≤ l) :
    ∀ (fuel rem : Nat) (acc : Bytes) (w : World), w.now = start → (∀ c, w.cur = some c → c.dt = 0) →
      (readBytesLoop t start fuel rem acc w).1 = .error .hang ∨
      refRead t.tt rem acc (erase w) =
        ((readBytesLoop t start fuel rem acc w).1, erase (readBytesLoop t start fuel rem acc w).2) := by
  intro fuel
  induction fuel with
  | zero => intro rem acc w _ _; exact Or.inl rfl
  | succ fuel ih =>
    intro rem acc w hnow hdt
    by_cases hrem : rem = 0
    · subst hrem
      rw [readBytesLoop]
      exact Or.inr rfl
    · rw [readBytesLoop_succ _ _ _ _ _ _ hrem]
      -- the recorded request is invisible after erasure
      have key : ∀ w1 : World, w1.now = start → (∀ c, w1.cur = some c → c.dt = 0) →
          ((bulkRead rem t.tt >>= cont t start fuel rem acc) w1).1 = .error .hang ∨
          refRead t.tt rem acc (erase w1) =
            (((bulkRead rem t.tt >>= cont t start fuel rem acc) w1).1,
              erase ((bulkRead rem t.tt >>= cont t start fuel rem acc) w1).2) := by
        intro w1 hn1 hd1
        rcases bulkRead_ref rem t.tt w1 hd1 with
          ⟨e, w', hb, hR⟩ | ⟨c, w', hb, hc, hr, he, hc0, hn⟩ | ⟨bs, w', hb, hlen, hn, hd', hR⟩
        · obtain ⟨rem', rfl⟩ := Nat.exists_eq_succ_of_ne_zero hrem
          rw [bind_run_err hb]
          exact Or.inr (hR rem' acc)
        · rw [bind_run_ok hb, cont_run t start l hrt]
          simp only [List.length_nil, Nat.sub_zero, hrem, if_false, List.append_nil]
          rw [if_neg (by rw [hn, hn1]; omega)]
          exact Or.inl (readBytesLoop_eof_hang t start l hrt hl _ _ acc w' c hrem hc hr he hc0 (hn.trans hn1))
        · rw [bind_run_ok hb, cont_run t start l hrt, hR rem acc hlen]
          by_cases hz : rem - bs.length = 0
          · rw [if_pos hz, hz]
            exact Or.inr rfl
          · rw [if_neg hz, if_neg (by rw [hn, hn1]; omega)]
            exact ih _ _ w' (hn.trans hn1) hd'
      exact key _ hnow hdt

/-! ### `dt = 0` is kept -/

theorem Dt0_refRead (tt : Timeout) : ∀ (rem : Nat) (acc : Bytes) (w : World), w.Dt0 → (refRead tt rem acc w).2.Dt0 := by
  intro rem
  induction rem with
  | zero => intro acc w h; exact h
  | succ rem ih =>
    intro acc w h
    unfold refRead
    split
    · exact h
    · next c hc =>
      split
      · exact h
      · split
        · exact h
        · split
          · split
            · exact Dt0_waitTimeout tt (Dt0_setCur h hc _ _ rfl)
            · exact Dt0_setCur h hc _ _ rfl
            · exact h
          · split
            · exact Dt0_waitTimeout tt h
            · exact ih _ _ (Dt0_setCur h hc _ _ rfl)

theorem readBytes_eq (n : Nat) (t : Txn) (w : World) : readBytes n t w = readBytesLoop t w.now w.fuel n [] w := rfl

/-- base case: `_read_bytes_from_device(n)` with a numeric non-negative read timeout -/
theorem Ins_readBytes (n : Nat) (t : Txn) (h : RtOk t.rt) : Ins (readBytes n t) := by
  obtain ⟨l, hrt, hl⟩ := h
  intro w₁ w₂ hfr
  obtain ⟨ha, hd⟩ := hfr
  have r1 := readBytesLoop_ref t w₁.now l hrt hl w₁.fuel n [] w₁ rfl hd.1
  have r2 := readBytesLoop_ref t w₂.now l hrt hl w₂.fuel n [] w₂ rfl (ha.dt0 hd).1
  rw [← ha.erase_eq] at r2
  unfold Out
  rw [readBytes_eq, readBytes_eq]
  rcases r1 with g | a
  · exact Or.inl g
  · rcases r2 with g | b
    · exact Or.inr (Or.inl g)
    · obtain ⟨e1, e2⟩ := Prod.mk.inj (a.symm.trans b)
      have hd' := Dt0_refRead t.tt n [] _ (Dt0_erase.2 hd)
      rw [a] at hd'
      exact Or.inr (Or.inr ⟨e1, FragAgree.of_erase e2, Dt0_erase.1 hd'⟩)

end Adb.Frag
