import AdbProofs.Lemmas.PeerFrame
import AdbProofs.Lemmas.Blocks
/- `Pw` (PeerFrame.lean) for every function of the sequential model, bottom-up.  Each proof follows the
   function's `do` block: `Pw_bind` for a `←`, `Pw_ite` for an `if`, the lemma of the callee for a call;
   where the block has a join point (`have __do_jp := …`, the code after an `if` without `else`),
   `extract_lets` names it and it is proved once.  `bulkWrite` / `writeAllLoop` / `writeAll` are covered
   through `Pw_sendRaw` (their only caller); `tClose` / `tConnect` / `ioClose` / `authLoop` / `ioConnect` /
   `devConnect` / `devClose` / `devPull` are treated at the end. -/
namespace Adb
namespace PeerF

/-! ### base functions that append nothing -/

theorem Pw_storeFind {s t az} : Pw s (storeFind t az) := Pw_of_same fun _ => ⟨rfl, rfl, rfl⟩
theorem Pw_storeGet {s k} : Pw s (storeGet k) :=
  Pw_of_same fun w => by unfold storeGet; split <;> exact ⟨rfl, rfl, rfl⟩
/-- parking a packet records `park`/`lost`, not a transmission -/
theorem Pw_storePut {s p} : Pw s (storePut p) := by
  intro w r w' h
  unfold storePut at h
  simp only [Prod.mk.injEq] at h
  obtain ⟨-, rfl⟩ := h
  refine ⟨[_], rfl, ?_, Or.inl rfl⟩
  have : ∀ e : TEv, (e = .lost p ∨ e = .park p) → transmitted [e] = [] := by
    rintro e (rfl | rfl) <;> rfl
  rw [this _ (by split <;> simp)]
  exact Out.nil _
theorem Pw_storeClear {s a0 a1} : Pw s (storeClear a0 a1) := Pw_of_same fun _ => ⟨rfl, rfl, rfl⟩
theorem Pw_getTT {s tt} : Pw s (getTT tt) := Pw_of_same fun _ => ⟨rfl, rfl, rfl⟩
theorem Pw_lookupFile {s id} : Pw s (lookupFile id) :=
  Pw_of_same fun w => by unfold lookupFile; split <;> exact ⟨rfl, rfl, rfl⟩
theorem Pw_runGuard {s g p} : Pw s (runGuard g p) :=
  Pw_of_same fun w => by
    unfold runGuard
    repeat' split
    all_goals exact ⟨rfl, rfl, rfl⟩
/-- the progress callback (whatever it does, its exception is swallowed) records `cbProgress` only -/
theorem Pw_callProgress {s cb path n total} : Pw s (callProgress cb path n total) := by
  intro w r w' h
  cases cb with
  | none =>
    simp only [callProgress, pure_run, Prod.mk.injEq] at h
    obtain ⟨-, rfl⟩ := h
    exact ⟨[], rfl, Out.nil _, Or.inl rfl⟩
  | count =>
    simp [callProgress, M.swallow, bind_run] at h
    obtain ⟨-, rfl⟩ := h
    exact ⟨[.cbProgress path n total], rfl, Out.nil _, Or.inl rfl⟩
  | raise =>
    simp [callProgress, M.swallow, bind_run] at h
    obtain ⟨-, rfl⟩ := h
    exact ⟨[.cbProgress path n total], rfl, Out.nil _, Or.inl rfl⟩

/-! ### wire, stream, FileSync and device layers -/

theorem Pw_readBytesLoop {s t start} : ∀ fuel rem acc, Pw s (readBytesLoop t start fuel rem acc)
  | 0, _, _ => Pw_throw _
  | fuel + 1, _, _ =>
    Pw_ite (Pw_pure _) <| Pw_bind (Pw_emit rfl) fun _ => Pw_bind Pw_bulkRead fun _ =>
      Pw_ite (Pw_pure _) <| Pw_bind Pw_elapsedGt fun _ => Pw_ite (Pw_throw _) (Pw_readBytesLoop fuel _ _)

theorem Pw_readBytes {s n t} : Pw s (readBytes n t) :=
  Pw_bind Pw_now fun _ => Pw_bind Pw_get fun _ => Pw_readBytesLoop _ _ _

theorem Pw_readPacket {s t} : Pw s (readPacket t) :=
  Pw_bind Pw_readBytes fun _ => by
    split
    · exact Pw_throw _
    split
    · exact Pw_throw _
    exact Pw_ite (Pw_pure _) <| Pw_bind Pw_readBytes fun _ =>
      Pw_ite (Pw_bind (Pw_throw _) fun _ => Pw_pure _) (Pw_pure _)

theorem Pw_ioSend {s m t} : Pw s (ioSend m t) := Pw_withLock Pw_sendRaw

theorem Pw_expectLoop {s ex t start} : ∀ fuel, Pw s (expectLoop ex t start fuel)
  | 0 => Pw_throw _
  | fuel + 1 =>
    Pw_bind Pw_readPacket fun _ => Pw_ite (Pw_bind (Pw_emit rfl) fun _ => Pw_pure _) <|
      Pw_bind (Pw_emit rfl) fun _ => Pw_bind Pw_elapsedGt fun _ => Pw_ite (Pw_throw _) (Pw_expectLoop fuel)

theorem Pw_expectPacket {s ex t} : Pw s (expectPacket ex t) :=
  Pw_bind Pw_now fun _ => Pw_bind Pw_get fun _ => Pw_expectLoop _

theorem Pw_drainLoop {s ex t az} : ∀ fuel, Pw s (drainLoop ex t az fuel)
  | 0 => Pw_throw _
  | fuel + 1 =>
    Pw_bind Pw_storeFind fun
      | none => Pw_pure _
      | some _ => Pw_bind Pw_storeGet fun _ => Pw_ite (Pw_bind (Pw_emit rfl) fun _ => Pw_pure _) <|
          Pw_bind (Pw_emit rfl) fun _ => Pw_drainLoop fuel

theorem Pw_readIterTail {s ex t az} : Pw s (readIterTail ex t az) :=
  Pw_bind Pw_readPacket fun _ => Pw_ite (Pw_bind (Pw_withLock Pw_storePut) fun _ => Pw_pure _) <| by
    extract_lets k
    have hk : ∀ u, Pw s (k u) := fun _ =>
      Pw_ite (Pw_bind (Pw_emit rfl) fun _ => Pw_pure _) (Pw_bind (Pw_emit rfl) fun _ => Pw_pure _)
    exact Pw_ite (Pw_bind (Pw_withLock Pw_storeClear) hk) (hk ())

theorem Pw_readIter {s ex t az} : Pw s (readIter ex t az) :=
  Pw_withLock <| Pw_bind Pw_get fun _ => Pw_bind (Pw_withLock (Pw_drainLoop _)) fun
    | some _ => Pw_pure _
    | none => Pw_readIterTail

theorem Pw_readLoop {s ex t az start} : ∀ fuel, Pw s (readLoop ex t az start fuel)
  | 0 => Pw_throw _
  | fuel + 1 =>
    Pw_bind Pw_readIter fun
      | some _ => Pw_pure _
      | none => Pw_bind Pw_elapsedGt fun _ => Pw_ite (Pw_throw _) (Pw_readLoop fuel)

theorem Pw_ioRead {s ex t az} : Pw s (ioRead ex t az) :=
  Pw_bind Pw_get fun _ => Pw_bind (Pw_withLock (Pw_drainLoop _)) fun
    | some _ => Pw_pure _
    | none => Pw_bind Pw_now fun _ => Pw_readLoop _

theorem Pw_openStream {s dest tt rt total} : Pw s (openStream dest tt rt total) :=
  Pw_bind (Pw_withLock <| Pw_bind (Pw_modify fun _ => ⟨rfl, rfl, rfl⟩) fun _ => Pw_bind Pw_get fun _ =>
      Pw_bind Pw_getTT fun _ => Pw_liftExcept) fun _ =>
    Pw_bind Pw_ioSend fun _ => Pw_bind Pw_ioRead fun _ => Pw_pure _

theorem Pw_okay {s t} : Pw s (okay t) := Pw_ioSend

theorem Pw_readUntil {s ex t} : Pw s (readUntil ex t) :=
  Pw_bind Pw_ioRead fun _ => Pw_ite (Pw_bind Pw_okay fun _ => Pw_pure _) (Pw_pure _)

theorem Pw_clse {s t} : Pw s (clse t) :=
  Pw_bind Pw_ioSend fun _ => Pw_bind Pw_readUntil fun _ => Pw_pure _

theorem Pw_readUntilCloseLoop {s t start} : ∀ fuel acc, Pw s (readUntilCloseLoop t start fuel acc)
  | 0, _ => Pw_throw _
  | fuel + 1, _ =>
    Pw_bind Pw_readUntil fun _ => Pw_ite (Pw_bind Pw_ioSend fun _ => Pw_pure _) <|
      Pw_bind (Pw_emit rfl) fun _ => by
        split
        · exact Pw_readUntilCloseLoop fuel _
        · exact Pw_bind Pw_elapsedGt fun _ => Pw_ite (Pw_throw _) (Pw_readUntilCloseLoop fuel _)

theorem Pw_readUntilClose {s t} : Pw s (readUntilClose t) :=
  Pw_bind Pw_now fun _ => Pw_bind Pw_get fun _ => Pw_readUntilCloseLoop _ _

theorem Pw_streamingCommand {s svc cmd tt rt total} : Pw s (streamingCommand svc cmd tt rt total) :=
  Pw_bind Pw_openStream fun _ => Pw_readUntilClose

theorem Pw_service {s svc cmd tt rt total dec} : Pw s (service svc cmd tt rt total dec) :=
  Pw_bind Pw_streamingCommand fun _ => Pw_pure _

theorem Pw_streamingService {s svc cmd tt rt dec} : Pw s (streamingService svc cmd tt rt dec) :=
  Pw_bind Pw_streamingCommand fun _ => Pw_pure _

theorem Pw_fsFlushLoop {s t} : ∀ fuel fi, Pw s (fsFlushLoop t fuel fi)
  | 0, _ => Pw_throw _
  | fuel + 1, _ => Pw_bind Pw_readUntil fun _ => Pw_ite (Pw_pure _) (Pw_fsFlushLoop fuel _)

theorem Pw_fsFlush {s t fi} : Pw s (fsFlush t fi) :=
  Pw_bind Pw_ioSend fun _ => Pw_bind Pw_get fun _ => Pw_fsFlushLoop _ _

theorem Pw_fsSend {s id t fi data size} : Pw s (fsSend id t fi data size) := by
  unfold fsSend
  extract_lets size k
  have hk : ∀ fi, Pw s (k fi) := fun _ => Pw_ite (Pw_bind (Pw_throw _) fun _ => Pw_pure _) (Pw_pure _)
  exact Pw_ite (Pw_bind Pw_fsFlush hk) (Pw_bind (Pw_pure _) hk)

theorem Pw_fsReadBufferedLoop {s size t} : ∀ fuel fi, Pw s (fsReadBufferedLoop size t fuel fi)
  | 0, _ => Pw_throw _
  | fuel + 1, _ => Pw_ite (Pw_bind Pw_readUntil fun _ => Pw_fsReadBufferedLoop fuel _) (Pw_pure _)

theorem Pw_fsReadBuffered {s size t fi} : Pw s (fsReadBuffered size t fi) :=
  Pw_bind Pw_get fun _ => Pw_fsReadBufferedLoop _ _

theorem Pw_fsReadCheck {s ex cid header data fi} : Pw s (fsReadCheck ex cid header data fi) :=
  Pw_ite (Pw_ite (Pw_bind (Pw_throw _) fun _ => Pw_ite (Pw_pure _) (Pw_pure _))
    (Pw_bind (Pw_throw _) fun _ => Pw_ite (Pw_pure _) (Pw_pure _))) (Pw_ite (Pw_pure _) (Pw_pure _))

theorem Pw_fsReadTail {s ex t fi} : Pw s (fsReadTail ex t fi) :=
  Pw_bind Pw_fsReadBuffered fun (hdr, fi) => by
    dsimp -zeta only
    extract_lets header
    split
    · exact Pw_throw _
    exact Pw_ite (Pw_bind Pw_fsReadBuffered fun _ => Pw_fsReadCheck) (Pw_bind (Pw_pure _) fun _ => Pw_fsReadCheck)

theorem Pw_fsRead {s ex t fi} : Pw s (fsRead ex t fi) := by
  rw [fsRead_eq_tail]
  exact Pw_bind (Pw_ite Pw_fsFlush (Pw_pure _)) fun _ => Pw_fsReadTail

theorem Pw_pushDataLoop {s devPath cb total chunk t} :
    ∀ fuel content fi, Pw s (pushDataLoop devPath cb total chunk t fuel content fi)
  | 0, _, _ => Pw_throw _
  | fuel + 1, _, _ =>
    Pw_ite (Pw_pure _) <| Pw_bind Pw_fsSend fun _ => Pw_bind Pw_callProgress fun _ => Pw_pushDataLoop fuel _ _

theorem Pw_pushStatus {s t fi} : Pw s (pushStatus t fi) :=
  Pw_bind Pw_fsRead fun (_, _) => Pw_ite (Pw_pure _) (Pw_throw _)

theorem Pw_pushOne {s content devPath mode mtime cb t fi} : Pw s (pushOne content devPath mode mtime cb t fi) :=
  Pw_bind Pw_fsSend fun _ => Pw_bind Pw_get fun _ => Pw_bind (Pw_pushDataLoop _ _ _) fun _ =>
    Pw_bind Pw_get fun _ => Pw_bind Pw_fsSend fun _ => Pw_pushStatus

theorem Pw_runGuards {s} : ∀ gs p, Pw s (runGuards gs p)
  | [], _ => Pw_pure _
  | _ :: gs, _ => Pw_bind Pw_runGuard fun _ => Pw_runGuards gs _

theorem Pw_devShellLike {s op svc cmd tt rt total dec} : Pw s (devShellLike op svc cmd tt rt total dec) :=
  Pw_bind (Pw_runGuards _ _) fun _ => Pw_service

theorem Pw_devRoot {s tt rt total} : Pw s (devRoot tt rt total) :=
  Pw_bind (Pw_runGuards _ _) fun _ => Pw_bind Pw_service fun _ => Pw_pure _

theorem Pw_devReboot {s fb tt rt total} : Pw s (devReboot fb tt rt total) :=
  Pw_bind (Pw_runGuards _ _) fun _ => Pw_bind Pw_openStream fun _ => Pw_pure _

theorem Pw_devStreamingShell {s cmd tt rt dec} : Pw s (devStreamingShell cmd tt rt dec) :=
  Pw_bind (Pw_runGuards _ _) fun _ => Pw_streamingService

theorem Pw_listLoop {s t} : ∀ fuel fi acc, Pw s (listLoop t fuel fi acc)
  | 0, _, _ => Pw_throw _
  | fuel + 1, _, _ => Pw_bind Pw_fsRead fun (_, _) => Pw_ite (Pw_pure _) (Pw_listLoop fuel _ _)

theorem Pw_devList {s p tt rt} : Pw s (devList p tt rt) :=
  Pw_bind (Pw_runGuards _ _) fun _ => Pw_bind Pw_openStream fun _ => Pw_bind Pw_get fun _ =>
    Pw_bind Pw_fsSend fun _ => Pw_bind (Pw_listLoop _ _ _) fun _ => Pw_bind Pw_clse fun _ => Pw_pure _

theorem Pw_devStat {s p tt rt} : Pw s (devStat p tt rt) :=
  Pw_bind (Pw_runGuards _ _) fun _ => Pw_bind Pw_openStream fun _ => Pw_bind Pw_get fun _ =>
    Pw_bind Pw_fsSend fun _ => Pw_bind Pw_fsRead fun (_, _) => Pw_bind Pw_clse fun _ => Pw_pure _

theorem Pw_pullLoop {s devPath cb total t} : ∀ fuel fi, Pw s (pullLoop devPath cb total t fuel fi)
  | 0, _ => Pw_throw _
  | fuel + 1, _ =>
    Pw_bind Pw_fsRead fun (_, _) => Pw_ite (Pw_pure _) <|
      Pw_bind (Pw_modify fun _ => ⟨rfl, rfl, rfl⟩) fun _ => Pw_bind Pw_callProgress fun _ => Pw_pullLoop fuel _

theorem Pw_pullInner {s devPath cb t fi} : Pw s (pullInner devPath cb t fi) := by
  rw [pullInner_eq]
  refine Pw_bind (Pw_ite (Pw_bind Pw_devStat fun v => ?_) (Pw_pure _)) fun _ =>
    Pw_bind Pw_fsSend fun _ => Pw_bind Pw_get fun _ => Pw_pullLoop _ _
  split <;> exact Pw_pure _

theorem Pw_pushFile {s fid devPath mode mtime cb tt rt} : Pw s (pushFile fid devPath mode mtime cb tt rt) :=
  Pw_bind Pw_lookupFile fun _ => Pw_bind Pw_openStream fun _ => Pw_bind Pw_get fun _ =>
    Pw_bind Pw_pushOne fun _ => Pw_clse

theorem Pw_pushFiles {s devPath mode mtime cb tt rt} : ∀ es, Pw s (pushFiles devPath mode mtime cb tt rt es)
  | [] => Pw_pure _
  | (_, _) :: es => Pw_bind Pw_pushFile fun _ => Pw_pushFiles es

theorem Pw_devPush {s src devPath mode mtime cb tt rt} : Pw s (devPush src devPath mode mtime cb tt rt) :=
  Pw_bind (Pw_runGuards _ _) fun _ => by
    cases src with
    | dir id =>
      refine Pw_bind Pw_get fun w => ?_
      split
      · exact Pw_throw _
      · exact Pw_bind Pw_devShellLike fun _ => Pw_bind (Pw_pushFiles _) fun _ => Pw_pure _
    | _ => exact Pw_bind Pw_pushFile fun _ => Pw_pure _

/-! ### `try … finally` (only `pull` uses it): two phases -/

/-- two-phase version of `Pw`: the run splits into a first part (events `evs1`) and a second part
    (`evs2`, the `finally` clause), each of which is whole messages plus — only if the call raised — a
    proper prefix of one more -/
def Pw2 (s : Bool) {α : Type} (x : M α) : Prop :=
  ∀ w r w', x w = (r, w') →
    ∃ evs1 evs2 mid, w'.trace = evs2 ++ evs1 ++ w.trace ∧
      Out (Failed r) (transmitted evs1) w.peerAll mid ∧ Out (Failed r) (transmitted evs2) mid w'.peerAll ∧
      (w'.past = w.past ∨ (s = false ∧ Failed r))

theorem Pw2_tryFinally {s α} {x : M α} {fin : M Unit} (hx : Pw s x) (hf : Pw s fin) :
    Pw2 s (M.tryFinally x fin) := by
  intro w r w' h
  obtain ⟨rx, w1, rf, hxw, hfw, hr⟩ := tryFinally_inv h
  obtain ⟨e1, ht1, ho1, hp1⟩ := hx w _ _ hxw
  obtain ⟨e2, ht2, ho2, hp2⟩ := hf w1 _ _ hfw
  have key : (Failed rx → Failed r) ∧ (Failed rf → Failed r) := by
    cases rx <;> cases rf <;> cases hr
    case ok.ok => exact ⟨id, fun h => (not_failed_ok _ h).elim⟩
    all_goals exact ⟨fun _ => failed_error _, fun _ => failed_error _⟩
  obtain ⟨k1, k2⟩ := key
  refine ⟨e1, e2, w1.peerAll, by rw [ht2, ht1, List.append_assoc], ho1.mono k1, ho2.mono k2, ?_⟩
  rcases hp1 with hp1 | ⟨hs, hf1⟩
  · rcases hp2 with hp2 | ⟨hs, hf2⟩
    · exact Or.inl (hp2.trans hp1)
    · exact Or.inr ⟨hs, k2 hf2⟩
  · exact Or.inr ⟨hs, k1 hf1⟩

/-- a one-phase prefix in front of a two-phase computation -/
theorem Pw2_bind_left {s α β} {x : M α} {f : α → M β} (hx : Pw s x) (hf : ∀ a, Pw2 s (f a)) : Pw2 s (x >>= f) := by
  intro w r w' h
  rcases bind_any_inv h with ⟨e, he, rfl⟩ | ⟨a, w1, he, hrest⟩
  · obtain ⟨evs, ht, ho, hp⟩ := hx w _ _ he
    exact ⟨evs, [], w'.peerAll, by simpa using ht, ho.mono (fun _ => failed_error e), Out.nil _,
      hp.imp_right fun h => ⟨h.1, failed_error e⟩⟩
  · obtain ⟨e1, ht1, ho1, hp1⟩ := hx w _ _ he
    obtain ⟨e2, e3, mid, ht2, ho2, ho3, hp2⟩ := hf a w1 _ _ hrest
    have hp1' : w1.past = w.past := hp1.resolve_right fun h => not_failed_ok a h.2
    refine ⟨e2 ++ e1, e3, mid, by rw [ht2, ht1]; simp only [List.append_assoc], ?_, ho3, hp2.imp_left (·.trans hp1')⟩
    rw [transmitted_append]
    exact Out.trans (ho1.mono (not_failed_ok a)) ho2

/-- a two-phase computation followed by a `pure` -/
theorem Pw2_bind_pure {s α β} {x : M α} (b : β) (hx : Pw2 s x) : Pw2 s (x >>= fun _ => (pure b : M β)) := by
  intro w r w' h
  -- the run is that of `x`, and it raised if `x` did
  obtain ⟨rx, hxw, hF⟩ : ∃ rx, x w = (rx, w') ∧ (Failed rx → Failed r) := by
    rcases bind_any_inv h with ⟨e, he, rfl⟩ | ⟨a, w1, he, hrest⟩
    · exact ⟨_, he, fun _ => failed_error e⟩
    · cases hrest
      exact ⟨_, he, fun hf => (not_failed_ok a hf).elim⟩
  obtain ⟨e1, e2, mid, ht, ho1, ho2, hp⟩ := hx w _ _ hxw
  exact ⟨e1, e2, mid, ht, ho1.mono hF, ho2.mono hF, hp.imp_right fun h => ⟨h.1, hF h.2⟩⟩

/-- `pull`: everything up to and including `_pull` is the first phase, the `finally: self._clse()` the second -/
theorem Pw2_devPull {s devPath cb tt rt} : Pw2 s (devPull devPath cb tt rt) :=
  Pw2_bind_left (Pw_runGuards _ _) fun _ => Pw2_bind_left (Pw_modify fun _ => ⟨rfl, rfl, rfl⟩) fun _ =>
    Pw2_bind_left Pw_openStream fun _ => Pw2_bind_left Pw_get fun _ =>
      Pw2_bind_pure _ (Pw2_tryFinally Pw_pullInner Pw_clse)

/-! ### connect / close -/

theorem tClose_run (w : World) :
    ∃ w1, tClose w = (.ok (), w1) ∧ w1.trace = .tclose :: w.trace ∧ w1.peerAll = w.peerAll ∧ w1.cur = none
      ∧ w1.conns = w.conns ∧ w1.locks = w.locks ∧ w1.past.reverse.flatten = w.peerAll := by
  refine ⟨_, Adb.tClose_run w, rfl, ?_, rfl, rfl, rfl, ?_⟩ <;> cases hc : w.cur <;>
    simp [closed0, World.peerAll, World.peerGot, hc]

/-- `self._transport.close()` followed by `raise`: what the peer had is kept (moved to `past`) -/
theorem Pw_tClose_throw {α} (e : Err) : Pw false (tClose >>= fun _ => (M.throw e : M α)) := by
  intro w r w' h
  obtain ⟨w1, h1, ht, hpa, -⟩ := tClose_run w
  rw [bind_run_ok h1] at h
  simp only [M.throw_run, Prod.mk.injEq] at h
  obtain ⟨rfl, rfl⟩ := h
  refine ⟨[.tclose], by simp [ht], ?_, Or.inr ⟨rfl, failed_error e⟩⟩
  rw [hpa]
  exact Out.nil _
/-- the same in front of a dead continuation (how `do` elaborates `if c then do close; raise` in mid-block) -/
theorem Pw_tClose_throw_bind {α β} (e : Err) (f : α → M β) :
    Pw false (tClose >>= fun _ => ((M.throw e : M α) >>= f)) := by
  have : (tClose >>= fun _ => ((M.throw e : M α) >>= f)) = (tClose >>= fun _ => (M.throw e : M β)) := rfl
  rw [this]
  exact Pw_tClose_throw e

theorem lockedClear_run (w : World) :
    ∃ r w1, withLock lockStore storeClearAll w = (r, w1) ∧ w1.trace = w.trace ∧ w1.cur = w.cur ∧ w1.past = w.past
      ∧ w1.conns = w.conns := by
  rw [withLock_run]
  split
  · exact ⟨_, _, rfl, rfl, rfl, rfl, rfl⟩
  · exact ⟨_, _, rfl, rfl, rfl, rfl, rfl⟩

/-- `close()`: nothing is written; what the peer had is kept -/
theorem ioClose_peer (w : World) (r : Except Err Unit) (w' : World) (h : ioClose w = (r, w')) :
    ∃ evs, w'.trace = evs ++ w.trace ∧ transmitted evs = [] ∧ w'.peerAll = w.peerAll := by
  unfold ioClose at h
  by_cases hl : lockTransport ∈ w.locks
  · rw [withLock_run, if_pos hl] at h
    cases h
    exact ⟨[], rfl, rfl, rfl⟩
  obtain ⟨w1, hb, rfl⟩ := withLock_any_inv h hl
  obtain ⟨w2, h2, (ht2 : w2.trace = .tclose :: w.trace), (hpa2 : w2.peerAll = w.peerAll), -⟩ :=
    tClose_run { w with locks := lockTransport :: w.locks }
  rw [bind_run_ok h2] at hb
  obtain ⟨r3, w3, h3, ht3, hcur3, hpast3, -⟩ := lockedClear_run w2
  rw [h3] at hb
  cases hb
  exact ⟨[.tclose], (ht3.trans ht2 : w1.trace = _), rfl, ((peerAll_congr hcur3 hpast3).trans hpa2 : w1.peerAll = _)⟩

theorem Pw_authLoop {t} : ∀ keys last, Pw false (authLoop t keys last)
  | [], _ => Pw_pure _
  | _ :: ks, _ => by
    unfold authLoop
    extract_lets rest
    have hrest : ∀ u, Pw false (rest u) := fun _ =>
      Pw_bind Pw_sendRaw fun _ => Pw_bind Pw_expectPacket fun _ => Pw_ite (Pw_pure _) (Pw_authLoop ks _)
    exact Pw_ite (Pw_tClose_throw_bind _ _) (hrest ())

/-- use a `Pw` fact on a concrete run -/
theorem Pw.apply {s α} {x : M α} {w w' : World} {r : Except Err α} (h : x w = (r, w')) (hp : Pw s x) :
    ∃ evs, w'.trace = evs ++ w.trace ∧ Out (Failed r) (transmitted evs) w.peerAll w'.peerAll ∧
      (w'.past = w.past ∨ (s = false ∧ Failed r)) := hp w r w' h

theorem tConnect_run (tt : Timeout) (w : World) (r : Except Err Unit) (w1 : World) (h : tConnect tt w = (r, w1)) :
    w1.trace = .tconnect :: w.trace ∧ w1.past = w.past ∧
      ((Failed r ∧ w1.cur = w.cur) ∨ (r = .ok () ∧ ∃ c rest, w.conns = c :: rest ∧ w1.cur = some c)) := by
  rcases tConnect_cases tt w with h' | ⟨c, rest, hc, h'⟩ <;> cases h'.symm.trans h
  · exact ⟨rfl, rfl, Or.inl ⟨failed_error _, rfl⟩⟩
  · exact ⟨rfl, rfl, Or.inr ⟨rfl, c, rest, hc, rfl⟩⟩

/-- What `connect` does to the peer's bytes: the old connection is closed (its bytes are kept in `past`), and
    on the new connection — whose peer starts with `base` (nothing, for a fresh connection) — the CNXN/AUTH
    exchange writes whole messages, plus a proper prefix of one more only if it raised.  A normal
    return leaves the new connection open with exactly these messages received by its peer. -/
def ConnOut {α} (w : World) (r : Except Err α) (w' : World) : Prop :=
  ∃ evs base, w'.trace = evs ++ w.trace ∧
    (base = [] ∨ ∃ c rest, w.conns = c :: rest ∧ base = c.peerGot) ∧
    Out (Failed r) (transmitted evs) (w.peerAll ++ base) w'.peerAll ∧
    (∀ v, r = .ok v → w'.peerGot = base ++ flat (transmitted evs))

theorem ConnOut.quiet {α} {w w' : World} {e : Err} (evs : List TEv) (ht : w'.trace = evs ++ w.trace)
    (hT : transmitted evs = []) (hp : w'.peerAll = w.peerAll) : ConnOut w (.error e : Except Err α) w' :=
  ⟨evs, [], ht, Or.inl rfl, by rw [hT, List.append_nil, hp]; exact Out.nil _, fun _ h => by cases h⟩

theorem Pw_pubkeyStep {s keys authT hasCb t} : Pw s (pubkeyStep keys authT hasCb t) := by
  have hsend : ∀ _ : Unit, Pw s (do
      sendRaw (pubMsg keys) t
      let p ← expectPacket [.CNXN] { t with tt := authT }
      pure p.arg1) := fun _ => Pw_bind Pw_sendRaw fun _ => Pw_bind Pw_expectPacket fun _ => Pw_pure _
  exact Pw_ite (Pw_bind (Pw_emit rfl) hsend) (hsend ())

theorem Pw_connTail {banner keys authT hasCb t} : Pw false (connTail banner keys authT hasCb t) :=
  Pw_bind Pw_sendRaw fun _ => Pw_bind Pw_expectPacket fun _ => Pw_ite (Pw_pure _) <|
    Pw_ite (Pw_tClose_throw_bind _ _) <| Pw_bind (Pw_authLoop _ _) fun
      | (some _, _) => Pw_pure _
      | (none, _) => Pw_pubkeyStep

theorem ioConnect_peer (banner : Bytes) (keys : List Nat) (authTimeout : Timeout) (hasCb : Bool) (t : Txn)
    (w : World) (r : Except Err Nat) (w' : World) (h : ioConnect banner keys authTimeout hasCb t w = (r, w')) :
    ConnOut w r w' := by
  rw [ioConnect_eq] at h
  by_cases hl : lockTransport ∈ w.locks
  · rw [withLock_run, if_pos hl] at h
    cases h
    exact .quiet [] rfl rfl rfl
  obtain ⟨w9, hb, rfl⟩ := withLock_any_inv h hl
  suffices ConnOut w r w9 from this
  obtain ⟨w1, h1, (ht1 : w1.trace = .tclose :: w.trace), (hpa1 : w1.peerAll = w.peerAll), -,
    (hconns1 : w1.conns = w.conns), -, (hpast1 : w1.past.reverse.flatten = w.peerAll)⟩ :=
    tClose_run { w with locks := lockTransport :: w.locks }
  rw [bind_run_ok h1] at hb
  obtain ⟨r2, w2, h2, ht2, hcur2, hpast2, hconns2⟩ := lockedClear_run w1
  have hpa2 : w2.peerAll = w.peerAll := by rw [peerAll_congr hcur2 hpast2, hpa1]
  rcases bind_any_inv hb with ⟨e, he, rfl⟩ | ⟨u, w2', he, hb⟩ <;> rw [h2] at he <;> cases he
  · exact .quiet [.tclose] (by rw [ht2, ht1]; rfl) rfl hpa2
  rcases bind_any_inv hb with ⟨e, he, rfl⟩ | ⟨u3, w3, he, hb⟩ <;> obtain ⟨ht3, hpast3, hc3⟩ := tConnect_run _ _ _ _ he
  · have hcur3 : w9.cur = w2.cur := by
      rcases hc3 with ⟨_, hc⟩ | ⟨hr, _⟩
      · exact hc
      · cases hr
    exact .quiet [.tconnect, .tclose] (by rw [ht3, ht2, ht1]; rfl) rfl (by rw [peerAll_congr hcur3 hpast3, hpa2])
  rcases hc3 with ⟨hf, _⟩ | ⟨-, c, rest, hc, hcur3⟩
  · exact (not_failed_ok _ hf).elim
  have hpa3 : w3.peerAll = w.peerAll ++ c.peerGot := by
    rw [World.peerAll, World.peerGot, hcur3, hpast3, hpast2, hpast1]
  obtain ⟨evs, ht, ho, hp⟩ := Pw.apply (s := false) hb Pw_connTail
  have hT : transmitted (evs ++ [.tconnect, .tclose]) = transmitted evs := by
    rw [transmitted_append]; rfl
  refine ⟨evs ++ [.tconnect, .tclose], c.peerGot, by rw [ht, ht3, ht2, ht1]; simp,
    Or.inr ⟨c, rest, by rw [← hconns1, ← hconns2, hc], rfl⟩, by rw [hT, ← hpa3]; exact ho, ?_⟩
  rintro v rfl
  have hpast9 : w9.past = w3.past := hp.resolve_right fun h => not_failed_ok _ h.2
  obtain ⟨-, hb9⟩ := (ho.mono (not_failed_ok v)).of_ok
  rw [World.peerAll, World.peerAll, hpast9, List.append_assoc] at hb9
  rw [hT, List.append_cancel_left hb9, World.peerGot, hcur3]

end PeerF
end Adb
