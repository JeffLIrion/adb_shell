import AdbModel.Usb
/-
  Helper lemmas for C20 (USB transport on a scripted libusb backend).
-/
namespace Adb.Usb

/-! ### the backend -/

theorem call_log (b : Backend) (c : Call) : (b.call c).2.log = b.log ++ [c] := by
  unfold Backend.call; cases b.script <;> rfl

theorem call_opened (b : Backend) (c : Call) : (b.call c).2.opened = b.opened := by
  unfold Backend.call; cases b.script <;> rfl

theorem call_script (b : Backend) (c : Call) : (b.call c).2.script = b.script.drop 1 := by
  unfold Backend.call; cases b.script <;> rfl

theorem call_res (b : Backend) (c : Call) : (b.call c).1 = b.script.head?.getD (.ok [] 0) := by
  unfold Backend.call; cases b.script <;> rfl

theorem call_cases (b : Backend) (c : Call) :
    ∃ r b1, b.call c = (r, b1) ∧ b1.log = b.log ++ [c] ∧ b1.opened = b.opened :=
  ⟨_, _, rfl, call_log b c, call_opened b c⟩

theorem usbInfo_log (b : Backend) : (usbInfo b).log = b.log ++ [.serial] := call_log b .serial

theorem usbInfo_script (b : Backend) : (usbInfo b).script = b.script.drop 1 := call_script b .serial

/-! ### endpoint scan -/

def scanStep (acc : Option Nat × Option Nat) (a : Nat) : Option Nat × Option Nat :=
  if isIn a then (some a, acc.2) else (acc.1, some a)

theorem scanEndpoints_eq (eps : List Nat) : scanEndpoints eps = eps.foldl scanStep (none, none) := rfl

theorem scan_foldl (eps : List Nat) (acc : Option Nat × Option Nat) :
    eps.foldl scanStep acc =
      (((eps.filter isIn).getLast?).or acc.1, ((eps.filter (fun a => !isIn a)).getLast?).or acc.2) := by
  induction eps generalizing acc with
  | nil => rfl
  | cons a eps ih =>
    rw [List.foldl_cons, ih]
    cases ha : isIn a
    · rw [List.filter_cons_of_neg (by rw [ha]; exact Bool.false_ne_true),
        List.filter_cons_of_pos (p := fun a => !isIn a) (by rw [ha]; rfl), List.getLast?_cons]
      cases (eps.filter (fun a => !isIn a)).getLast? <;> simp [scanStep, ha]
    · rw [List.filter_cons_of_pos ha,
        List.filter_cons_of_neg (p := fun a => !isIn a) (by rw [ha]; exact Bool.false_ne_true), List.getLast?_cons]
      cases (eps.filter isIn).getLast? <;> simp [scanStep, ha]

/-- which endpoints `connect` picks: the LAST IN address and the LAST OUT address of the setting -/
theorem scanEndpoints_last (eps : List Nat) :
    scanEndpoints eps = ((eps.filter isIn).getLast?, (eps.filter (fun a => !isIn a)).getLast?) := by
  rw [scanEndpoints_eq, scan_foldl, Option.or_none, Option.or_none]

theorem scan_mem {eps : List Nat} {r wr : Nat} (h : scanEndpoints eps = (some r, some wr)) :
    r ∈ eps ∧ wr ∈ eps ∧ isIn r = true ∧ isIn wr = false := by
  rw [scanEndpoints_last, Prod.mk.injEq] at h
  have h1 := List.mem_filter.1 (List.mem_of_getLast? h.1)
  have h2 := List.mem_filter.1 (List.mem_of_getLast? h.2)
  exact ⟨h1.1, h2.1, h1.2, by simpa using h2.2⟩

theorem isIn_iff (a : Nat) : isIn a = true ↔ a &&& 0x80 ≠ 0 := by
  simp [isIn]

theorem isIn_false_iff (a : Nat) : isIn a = false ↔ a &&& 0x80 = 0 := by
  simp [isIn]

/-! ### kernel driver step -/

/-- the kernel-driver calls of `connect` on handle `h`, interface `i` (none on Windows) -/
def KdCalls (win : Bool) (h i : Nat) (mid : List Call) : Prop :=
  (win = true ∧ mid = []) ∨ (win = false ∧ (mid = [.kda h i] ∨ mid = [.kda h i, .detach h i]))

theorem kernelStep_backend (win : Bool) (h i : Nat) (b : Backend) :
    (win = true ∧ (kernelStep win h i b).2 = b) ∨
    (win = false ∧ ((kernelStep win h i b).2 = (b.call (.kda h i)).2 ∨
      (kernelStep win h i b).2 = ((b.call (.kda h i)).2.call (.detach h i)).2)) := by
  unfold kernelStep
  cases win with
  | true => exact .inl ⟨rfl, rfl⟩
  | false =>
    refine .inr ⟨rfl, ?_⟩
    simp only [Bool.false_eq_true, if_false]
    split
    · exact .inl rfl
    · exact .inl rfl
    · split
      · exact .inl rfl
      · split <;> exact .inr rfl

theorem kernelStep_spec (win : Bool) (h i : Nat) (b : Backend) :
    ∃ mid, (kernelStep win h i b).2.log = b.log ++ mid ∧ (kernelStep win h i b).2.opened = b.opened ∧
      KdCalls win h i mid := by
  rcases kernelStep_backend win h i b with ⟨hw, e⟩ | ⟨hw, e | e⟩ <;> rw [e]
  · exact ⟨[], (List.append_nil _).symm, rfl, .inl ⟨hw, rfl⟩⟩
  · exact ⟨_, call_log .., call_opened .., .inr ⟨hw, .inl rfl⟩⟩
  · refine ⟨[.kda h i, .detach h i], ?_, ?_, .inr ⟨hw, .inr rfl⟩⟩
    · rw [call_log, call_log, List.append_assoc]; rfl
    · rw [call_opened, call_opened]

/-! ### connect -/

/-- `connect`, outcome by outcome: no IN or no OUT endpoint (nothing happens); `open` fails; the kernel-driver
    step fails; and — the attributes now set — `claimInterface` fails or succeeds. -/
theorem connect_cases (w : World) :
    connect w = (.err .assertion, w) ∨
    ∃ r wr, scanEndpoints w.cfg.eps = (some r, some wr) ∧
      ((∃ k b, connect w = (.err (.usb k), { w with be := b }) ∧ b.log = w.be.log ++ [.open]) ∨
       ∃ mid, KdCalls w.cfg.windows (w.be.opened + 1) w.cfg.iface mid ∧
        ((∃ k b, connect w = (.err (.usb k), { w with be := b }) ∧ b.log = w.be.log ++ ([.open] ++ mid)) ∨
         ∃ out b, connect w = (out, { w with
              st := { w.st with handle := some ⟨w.be.opened + 1⟩, readEp := some r, writeEp := some wr,
                                iface := some w.cfg.iface }, be := b }) ∧
            (out = .ok () ∨ ∃ k, out = .err (.usb k)) ∧
            b.log = w.be.log ++ ([.open] ++ mid ++ [.claim (w.be.opened + 1) w.cfg.iface]))) := by
  unfold connect
  rcases hs : scanEndpoints w.cfg.eps with ⟨_ | r, w?⟩
  · exact .inl rfl
  rcases w? with _ | wr
  · exact .inl rfl
  refine .inr ⟨r, wr, rfl, ?_⟩
  obtain ⟨ro, b1, hc, hol, hoo⟩ := call_cases w.be .open
  rw [hc]
  simp only
  cases ro with
  | err k => exact .inl ⟨k, b1, rfl, hol⟩
  | ok bs0 n0 =>
    rw [← hoo]
    simp only
    obtain ⟨mid, hkl, _, hmid⟩ :=
      kernelStep_spec w.cfg.windows (b1.opened + 1) w.cfg.iface { b1 with opened := b1.opened + 1 }
    refine .inr ⟨mid, hmid, ?_⟩
    rcases hk : kernelStep w.cfg.windows (b1.opened + 1) w.cfg.iface { b1 with opened := b1.opened + 1 }
      with ⟨k?, b2⟩
    rw [hk] at hkl
    simp only at hkl ⊢
    cases k? with
    | some k => exact .inl ⟨k, b2, rfl, by rw [hkl, hol, List.append_assoc]⟩
    | none =>
      simp only
      obtain ⟨rc, b3, hcc, hcl, _⟩ := call_cases b2 (.claim (b1.opened + 1) w.cfg.iface)
      rw [hcc]
      have hlog : b3.log = w.be.log ++ ([Call.open] ++ mid ++ [Call.claim (b1.opened + 1) w.cfg.iface]) := by
        rw [hcl, hkl, hol]; simp only [List.append_assoc]
      cases rc with
      | ok _ _ => exact .inr ⟨_, b3, rfl, .inl rfl, hlog⟩
      | err k => exact .inr ⟨_, b3, rfl, .inr ⟨k, rfl⟩, hlog⟩

/-- everything a successful `connect` does -/
theorem connect_ok {w w' : World} (h : connect w = (.ok (), w')) :
    ∃ r wr mid, scanEndpoints w.cfg.eps = (some r, some wr) ∧ w'.cfg = w.cfg ∧
      w'.st = { w.st with handle := some ⟨w.be.opened + 1⟩, readEp := some r, writeEp := some wr, iface := some w.cfg.iface } ∧
      w'.be.log = w.be.log ++ ([Call.open] ++ mid ++ [Call.claim (w.be.opened + 1) w.cfg.iface]) ∧
      KdCalls w.cfg.windows (w.be.opened + 1) w.cfg.iface mid := by
  rcases connect_cases w with e | ⟨r, wr, hs, ⟨k, b, e, _⟩ | ⟨mid, hmid, ⟨k, b, e, _⟩ | ⟨out, b, e, _, hlog⟩⟩⟩ <;>
    rw [e] at h <;> cases h
  exact ⟨r, wr, mid, hs, rfl, rfl, hlog, hmid⟩

/-- a backend call is about the setting the transport was built for: transfers use an endpoint of that setting with the
    right direction bit, interface calls use the setting's number -/
def GoodCall (cfg : Dev) : Call → Prop
  | .bulkRead _ ep _ _ => ∃ a, ep = some a ∧ a ∈ cfg.eps ∧ a &&& 0x80 ≠ 0
  | .bulkWrite _ ep _ _ => ∃ a, ep = some a ∧ a ∈ cfg.eps ∧ a &&& 0x80 = 0
  | .kda _ i => i = cfg.iface
  | .detach _ i => i = cfg.iface
  | .claim _ i => i = cfg.iface
  | .release _ i => i = some cfg.iface
  | .open => True
  | .hclose _ => True
  | .serial => True

/-- shape of `connect` in every outcome: the configuration is kept, the calls are open / kernel-driver / claim calls for the
    setting's interface number, and the attributes are either untouched or set from the endpoint scan -/
theorem connect_shape (w : World) :
    (connect w).2.cfg = w.cfg ∧
    (∃ calls, (connect w).2.be.log = w.be.log ++ calls ∧ ∀ c ∈ calls, GoodCall w.cfg c) ∧
    ((connect w).2.st = w.st ∨ ∃ r wr h, scanEndpoints w.cfg.eps = (some r, some wr) ∧
      (connect w).2.st = { w.st with handle := some ⟨h⟩, readEp := some r, writeEp := some wr, iface := some w.cfg.iface }) := by
  have hopen : ∀ c ∈ [Call.open], GoodCall w.cfg c := List.forall_mem_singleton.2 trivial
  have hmem : ∀ {mid : List Call}, KdCalls w.cfg.windows (w.be.opened + 1) w.cfg.iface mid →
      ∀ c ∈ mid, GoodCall w.cfg c := by
    rintro mid (⟨_, rfl⟩ | ⟨_, rfl | rfl⟩)
    · nofun
    · exact List.forall_mem_singleton.2 rfl
    · exact List.forall_mem_cons.2 ⟨rfl, List.forall_mem_singleton.2 rfl⟩
  rcases connect_cases w with e | ⟨r, wr, hs, ⟨k, b, e, hl⟩ | ⟨mid, hmid, ⟨k, b, e, hl⟩ | ⟨out, b, e, _, hl⟩⟩⟩ <;> rw [e]
  · exact ⟨rfl, ⟨[], (List.append_nil _).symm, nofun⟩, .inl rfl⟩
  · exact ⟨rfl, ⟨_, hl, hopen⟩, .inl rfl⟩
  · exact ⟨rfl, ⟨_, hl, List.forall_mem_append.2 ⟨hopen, hmem hmid⟩⟩, .inl rfl⟩
  · exact ⟨rfl, ⟨_, hl, List.forall_mem_append.2 ⟨List.forall_mem_append.2 ⟨hopen, hmem hmid⟩,
      List.forall_mem_singleton.2 rfl⟩⟩, .inr ⟨r, wr, _, hs, rfl⟩⟩

/-! ### bulk transfers and close -/

theorem bulkRead_closed {w : World} (h : w.st.handle = none) (n : Nat) (t : Option Nat) :
    bulkRead w n t = (.err .usbReadFailed, w) := by
  simp [bulkRead, h]

theorem bulkWrite_closed {w : World} (h : w.st.handle = none) (d : Bytes) (t : Option Nat) :
    bulkWrite w d t = (.err .usbWriteFailed, w) := by
  simp [bulkWrite, h]

/-- what a transfer on an open transport leaves behind: attributes and configuration as they were, the call `c` logged,
    followed by `serial` (for the error message) when it failed -/
structure Transfer (w w' : World) (c : Call) : Prop where
  st : w'.st = w.st
  cfg : w'.cfg = w.cfg
  log : ∃ tail, w'.be.log = w.be.log ++ c :: tail ∧ (tail = [] ∨ tail = [.serial])

theorem transfer_of {w w' : World} {c : Call}
    (h : w' = { w with be := (w.be.call c).2 } ∨ w' = { w with be := usbInfo (w.be.call c).2 }) : Transfer w w' c := by
  rcases h with rfl | rfl
  · exact ⟨rfl, rfl, [], call_log .., .inl rfl⟩
  · exact ⟨rfl, rfl, [.serial], by rw [usbInfo_log, call_log, List.append_assoc]; rfl, .inr rfl⟩

theorem bulkRead_open {w : World} {h : Handle} (hh : w.st.handle = some h) (n : Nat) (t : Option Nat) :
    Transfer w (bulkRead w n t).2 (.bulkRead h.id w.st.readEp n (timeoutMs w.st t)) := by
  apply transfer_of
  simp only [bulkRead, hh]
  rcases w.be.call (.bulkRead h.id w.st.readEp n (timeoutMs w.st t)) with ⟨_ | _, b1⟩
  · exact .inl rfl
  · exact .inr rfl

theorem bulkWrite_open {w : World} {h : Handle} (hh : w.st.handle = some h) (d : Bytes) (t : Option Nat) :
    Transfer w (bulkWrite w d t).2 (.bulkWrite h.id w.st.writeEp d (timeoutMs w.st t)) := by
  apply transfer_of
  simp only [bulkWrite, hh]
  rcases w.be.call (.bulkWrite h.id w.st.writeEp d (timeoutMs w.st t)) with ⟨_ | _, b1⟩
  · exact .inl rfl
  · exact .inr rfl

/-- result and remaining script of a read on an open transport, by the head of the script -/
theorem bulkRead_script {w : World} {h : Handle} (hh : w.st.handle = some h) (n : Nat) (t : Option Nat) :
    match w.be.script with
    | [] => (bulkRead w n t).1 = .ok [] ∧ (bulkRead w n t).2.be.script = []
    | .ok bs _ :: rest => (bulkRead w n t).1 = .ok bs ∧ (bulkRead w n t).2.be.script = rest
    | .err _ :: rest => (bulkRead w n t).1 = .err .usbReadFailed ∧ (bulkRead w n t).2.be.script = rest.drop 1 := by
  simp only [bulkRead, hh, Backend.call]
  cases hs : w.be.script with
  | nil => simp
  | cons r rest =>
    cases r with
    | ok bs k => simp
    | err k => simp [usbInfo, Backend.call]; cases rest <;> simp

theorem bulkWrite_script {w : World} {h : Handle} (hh : w.st.handle = some h) (d : Bytes) (t : Option Nat) :
    match w.be.script with
    | [] => (bulkWrite w d t).1 = .ok 0
    | .ok _ k :: _ => (bulkWrite w d t).1 = .ok k
    | .err _ :: _ => (bulkWrite w d t).1 = .err .usbWriteFailed := by
  simp only [bulkWrite, hh, Backend.call]
  cases hs : w.be.script with
  | nil => simp
  | cons r rest => cases r <;> simp

theorem close_closed {w : World} (h : w.st.handle = none) : close w = w := by
  simp [close, h]

theorem close_handle (w : World) : (close w).st.handle = none := by
  unfold close
  cases h : w.st.handle with
  | none => simpa using h
  | some hd => simp

theorem close_open {w : World} {h : Handle} (hh : w.st.handle = some h) :
    (close w).cfg = w.cfg ∧ (close w).st = { w.st with handle := none } ∧
    ∃ tail, (close w).be.log = w.be.log ++ (.release h.id w.st.iface :: tail) ∧
      (tail = [.hclose h.id] ∨ tail = [.serial] ∨ tail = [.hclose h.id, .serial]) := by
  obtain ⟨r, b1, hc, hl, _⟩ := call_cases w.be (.release h.id w.st.iface)
  simp only [close, hh, hc]
  cases r with
  | err k => exact ⟨trivial, trivial, [.serial], by simp [usbInfo_log, hl], .inr (.inl rfl)⟩
  | ok bs k =>
    simp only
    obtain ⟨r2, b2, hc2, hl2, _⟩ := call_cases b1 (.hclose h.id)
    rw [hc2]
    cases r2 with
    | ok _ _ => exact ⟨trivial, trivial, [.hclose h.id], by simp [hl2, hl], .inl rfl⟩
    | err _ => exact ⟨trivial, trivial, [.hclose h.id, .serial], by simp [usbInfo_log, hl2, hl], .inr (.inr rfl)⟩

/-! ### invariant of every run -/

/-- while a handle is held, the attributes describe the setting -/
def WF (w : World) : Prop :=
  ∀ h, w.st.handle = some h → w.st.iface = some w.cfg.iface ∧
    ∃ r wr, w.st.readEp = some r ∧ w.st.writeEp = some wr ∧ r ∈ w.cfg.eps ∧ wr ∈ w.cfg.eps ∧ isIn r = true ∧ isIn wr = false

def Inv (w : World) : Prop := WF w ∧ ∀ c ∈ w.be.log, GoodCall w.cfg c

theorem inv_new (cfg : Dev) (d : Option Nat) (script : List Res) : Inv (World.new cfg d script) := by
  refine ⟨?_, ?_⟩
  · intro h hh; simp [World.new, St.new] at hh
  · intro c hc; simp [World.new] at hc

/-- preservation from the shape every operation has -/
theorem inv_of_calls {w w' : World} (hI : Inv w) (hcfg : w'.cfg = w.cfg) (hW : WF w') {calls : List Call}
    (hlog : w'.be.log = w.be.log ++ calls) (hgood : ∀ c ∈ calls, GoodCall w.cfg c) :
    Inv w' ∧ w'.cfg = w.cfg := by
  refine ⟨⟨hW, ?_⟩, hcfg⟩
  rw [hcfg, hlog]
  exact List.forall_mem_append.2 ⟨hI.2, hgood⟩

theorem wf_of_eq {w w' : World} (hW : WF w) (hcfg : w'.cfg = w.cfg) (hst : w'.st = w.st) : WF w' := by
  intro h hh
  rw [hcfg, hst] at *
  exact hW h hh

theorem inv_transfer {w w' : World} {c : Call} (hI : Inv w) (ht : Transfer w w' c) (hc : GoodCall w.cfg c) :
    Inv w' ∧ w'.cfg = w.cfg := by
  obtain ⟨tail, hlog, htail⟩ := ht.log
  refine inv_of_calls hI ht.cfg (wf_of_eq hI.1 ht.cfg ht.st) hlog (List.forall_mem_cons.2 ⟨hc, ?_⟩)
  rcases htail with rfl | rfl
  · nofun
  · exact List.forall_mem_singleton.2 trivial

theorem inv_step {w : World} (hI : Inv w) (op : Op) : Inv (step w op) ∧ (step w op).cfg = w.cfg := by
  have hW := hI.1
  cases op with
  | connect =>
    obtain ⟨hcfg, ⟨calls, hlog, hcalls⟩, hst⟩ := connect_shape w
    refine inv_of_calls hI hcfg ?_ hlog hcalls
    rcases hst with hst | ⟨r, wr, h', hscan, hst⟩
    · exact wf_of_eq hW hcfg hst
    · intro h hh
      rw [show (step w .connect).cfg = w.cfg from hcfg, show (step w .connect).st = _ from hst]
      obtain ⟨hr, hwr, hri, hwi⟩ := scan_mem hscan
      exact ⟨rfl, r, wr, rfl, rfl, hr, hwr, hri, hwi⟩
  | read n t =>
    cases hh : w.st.handle with
    | none =>
      rw [show step w (.read n t) = w from congrArg Prod.snd (bulkRead_closed hh n t)]; exact ⟨hI, rfl⟩
    | some h =>
      obtain ⟨_, r, wr, hr, _, hrm, _, hri, _⟩ := hW h hh
      exact inv_transfer hI (bulkRead_open hh n t) ⟨r, hr, hrm, (isIn_iff r).mp hri⟩
  | write d t =>
    cases hh : w.st.handle with
    | none =>
      rw [show step w (.write d t) = w from congrArg Prod.snd (bulkWrite_closed hh d t)]; exact ⟨hI, rfl⟩
    | some h =>
      obtain ⟨_, r, wr, _, hwr, _, hwm, _, hwi⟩ := hW h hh
      exact inv_transfer hI (bulkWrite_open hh d t) ⟨wr, hwr, hwm, (isIn_false_iff wr).mp hwi⟩
  | close =>
    cases hh : w.st.handle with
    | none =>
      rw [show step w .close = w from close_closed hh]; exact ⟨hI, rfl⟩
    | some h =>
      obtain ⟨hcfg, hst, tail, hlog, htail⟩ := close_open hh
      refine inv_of_calls hI hcfg (fun h' hh' => ?_) hlog (List.forall_mem_cons.2 ⟨(hW h hh).1, ?_⟩)
      · rw [show (step w .close).st = _ from hst] at hh'; cases hh'
      · rcases htail with rfl | rfl | rfl
        · exact List.forall_mem_singleton.2 trivial
        · exact List.forall_mem_singleton.2 trivial
        · exact List.forall_mem_cons.2 ⟨trivial, List.forall_mem_singleton.2 trivial⟩

theorem inv_run {w : World} (hI : Inv w) (ops : List Op) : Inv (run w ops) ∧ (run w ops).cfg = w.cfg := by
  induction ops generalizing w with
  | nil => exact ⟨hI, rfl⟩
  | cons op ops ih =>
    obtain ⟨h1, h2⟩ := inv_step hI op
    obtain ⟨h3, h4⟩ := ih h1
    exact ⟨h3, h4.trans h2⟩

theorem step_defaultMs (w : World) (op : Op) : (step w op).st.defaultMs = w.st.defaultMs := by
  cases op with
  | connect =>
    obtain ⟨_, _, hst⟩ := connect_shape w
    simp only [step]
    rcases hst with hst | ⟨r, wr, h', _, hst⟩ <;> rw [hst]
  | read n t =>
    cases hh : w.st.handle with
    | none => simp only [step, bulkRead_closed hh]
    | some h => simp only [step, (bulkRead_open hh n t).st]
  | write d t =>
    cases hh : w.st.handle with
    | none => simp only [step, bulkWrite_closed hh]
    | some h => simp only [step, (bulkWrite_open hh d t).st]
  | close =>
    cases hh : w.st.handle with
    | none => simp only [step, close_closed hh]
    | some h => simp only [step, (close_open hh).2.1]

theorem run_defaultMs (w : World) (ops : List Op) : (run w ops).st.defaultMs = w.st.defaultMs := by
  induction ops generalizing w with
  | nil => rfl
  | cons o os ih => simp only [run, List.foldl_cons]; exact (ih (step w o)).trans (step_defaultMs w o)

/-! ### runs of reads against a conforming backend -/

theorem bulkRead_conforming {w : World} {h : Handle} (hh : w.st.handle = some h) (n : Nat) (t : Option Nat)
    {ns : List Nat} {stream : Bytes} (hc : Conforming (n :: ns) stream w.be.script) :
    ∃ stream', Conforming ns stream' (bulkRead w n t).2.be.script ∧
      (∀ bs, (bulkRead w n t).1 = .ok bs → bs.length ≤ n) ∧
      ∀ rs, okBytes rs <+: stream' → okBytes ((bulkRead w n t).1 :: rs) <+: stream := by
  have hscr := bulkRead_script hh n t
  simp only [Conforming] at hc
  cases hs : w.be.script with
  | nil =>
    rw [hs] at hc hscr
    rw [hscr.1, hscr.2]
    exact ⟨stream, hc, fun bs hb => by cases hb; exact Nat.zero_le _, fun rs h => h⟩
  | cons r0 rest0 =>
    rw [hs] at hc hscr
    cases r0 with
    | ok bs k =>
      rw [hscr.1, hscr.2]
      refine ⟨stream.drop bs.length, hc.2.2, fun bs' hb => by cases hb; exact hc.1, fun rs h => ?_⟩
      obtain ⟨tl, rfl⟩ := hc.2.1
      rw [List.drop_left] at h
      exact (List.prefix_append_right_inj bs).mpr h
    | err k =>
      rw [hscr.1, hscr.2]
      exact ⟨stream, hc, (fun bs hb => by cases hb), fun rs h => h⟩

theorem readMany_conforming (calls : List (Nat × Option Nat)) :
    ∀ (w : World) (h : Handle) (stream : Bytes), w.st.handle = some h →
      Conforming (calls.map (·.1)) stream w.be.script →
      ((readMany w calls).1.length = calls.length ∧
        ∀ (i : Nat) (c : Nat × Option Nat) (bs : Bytes),
          calls[i]? = some c → (readMany w calls).1[i]? = some (Out.ok bs) → bs.length ≤ c.1) ∧
        okBytes (readMany w calls).1 <+: stream ∧ (readMany w calls).2.st = w.st := by
  induction calls with
  | nil => intro w h stream _ _; exact ⟨⟨rfl, nofun⟩, by simp [readMany, okBytes], rfl⟩
  | cons c rest ih =>
    intro w h stream hh hc
    obtain ⟨n, t⟩ := c
    have hst := (bulkRead_open hh n t).st
    obtain ⟨stream', hc', hlen, hpre⟩ := bulkRead_conforming hh n t hc
    obtain ⟨⟨ihl, ihg⟩, ih2, ih3⟩ := ih (bulkRead w n t).2 h stream' (by rw [hst]; exact hh) hc'
    refine ⟨⟨congrArg (· + 1) ihl, fun i c bs hc hr => ?_⟩, hpre _ ih2, ih3.trans hst⟩
    cases i with
    | zero => cases hc; exact hlen bs (Option.some.inj hr)
    | succ i => exact ihg i c bs hc hr

/-! ### example values for the non-vacuity checks in Properties/C20.lean -/

/-- a device with two IN and two OUT endpoints on interface 3; the kernel driver is active -/
def c20Cfg : Dev := { iface := 3, eps := [0x81, 0x01, 0x82, 0x02] }

def c20Script : List Res :=
  [.ok [] 0, .ok [] 1, .ok [] 0, .ok [] 0,          -- open, kernelDriverActive = True, detach, claim
   .ok [1, 2] 0, .err .timeout, .ok [] 0, .ok [3, 4, 5] 0, .ok [] 7]

def c20W0 : World := World.new c20Cfg none c20Script

/-- after `connect` -/
def c20W1 : World := (connect c20W0).2

end Adb.Usb
