import AdbProofs.Lemmas.SrcEnc
import AdbProofs.Lemmas.Monad
/-
  Pure "one iteration" functions of the model's transport loops (`readBytesLoop`, `writeAllLoop` in AdbModel/Wire.lean) and the lemmas that the
  model's loops are exactly: effect, then this step. The *Src theorems (C03Src, C15Src) prove the SOURCE's loop bodies (translated with the effect
  results as parameters) equal to these steps.
-/
set_option linter.unusedSimpArgs false
namespace Adb
open Py

/-- outcome of one loop iteration -/
inductive LoopStep (σ : Type) where
  | done (s : σ)          -- leave the loop (`break` / `return`)
  | again (s : σ)         -- next iteration with this state
  | fail (e : Err)
  deriving Repr

/-- one iteration of `_read_bytes_from_device` after `bulk_read` returned `temp` and the clock reads `now`: state = (remaining length, data so far) -/
def readStep (t : Txn) (start now : Int) (rem : Nat) (acc temp : Bytes) : LoopStep (Nat × Bytes) :=
  let acc' := acc ++ temp
  let rem' := rem - temp.length
  if rem' = 0 then .done (rem', acc')
  else match t.rt with
    | none => .fail .pyTypeError
    | some l => if now - start > l then .fail .adbTimeout else .again (rem', acc')

/-- The model's read loop is: stop when nothing remains; otherwise request exactly `rem` bytes with the transaction's transport timeout and apply `readStep`
    to what came back and to the clock after the call. -/
theorem readBytesLoop_step (t : Txn) (start : Int) (fuel rem : Nat) (acc : Bytes) (w : World) :
    readBytesLoop t start (fuel + 1) rem acc w =
      if rem = 0 then (.ok acc, w) else
      match bulkRead rem t.tt { w with trace := .req rem rem :: w.trace } with
      | (.error e, w1) => (.error e, w1)
      | (.ok temp, w1) =>
        match readStep t start w1.now rem acc temp with
        | .done s => (.ok s.2, w1)
        | .again s => readBytesLoop t start fuel s.1 s.2 w1
        | .fail e => (.error e, w1) := by
  by_cases h0 : rem = 0
  · simp [readBytesLoop, h0]
  · simp only [readBytesLoop, h0, if_false, bind, M.bind, emit_run]
    cases hb : bulkRead rem t.tt { w with trace := .req rem rem :: w.trace } with
    | mk r w1 =>
      cases r with
      | error e => simp
      | ok temp =>
        simp only [readStep]
        by_cases h1 : rem - temp.length = 0
        · simp [h1]
        · cases hrt : t.rt with
          | none => simp [h1, elapsedGt, hrt, M.bind, M.throw]
          | some l =>
            by_cases h2 : w1.now - start > l
            · simp [h1, elapsedGt, hrt, h2, M.bind, M.throw]
            · simp [h1, elapsedGt, hrt, h2, M.bind, M.throw]

/-- one iteration of `_write_all` after `bulk_write` reported `nw` (None = everything) and the clock reads `now`: state = data still to write -/
def writeStep (t : Txn) (start now : Int) (data : Bytes) (nw : Option Nat) : LoopStep Bytes :=
  match nw with
  | none => .done data
  | some k =>
    if k ≥ data.length then .done data
    else match t.rt with
      | none => .fail .pyTypeError
      | some l => if now - start > l then .fail .adbTimeout else .again (data.drop k)

theorem writeAllLoop_step (t : Txn) (start : Int) (fuel : Nat) (data : Bytes) (w : World) :
    writeAllLoop t start (fuel + 1) data w =
      match bulkWrite data t.tt w with
      | (.error e, w1) => (.error e, w1)
      | (.ok nw, w1) =>
        match writeStep t start w1.now data nw with
        | .done _ => (.ok (), w1)
        | .again d => writeAllLoop t start fuel d w1
        | .fail e => (.error e, w1) := by
  simp only [writeAllLoop, bind, M.bind]
  cases hb : bulkWrite data t.tt w with
  | mk r w1 =>
    cases r with
    | error e => simp
    | ok nw =>
      cases nw with
      | none => simp [writeStep]
      | some k =>
        simp only [writeStep]
        by_cases h1 : k ≥ data.length
        · simp [h1]
        · cases hrt : t.rt with
          | none => simp [h1, elapsedGt, hrt, M.bind, M.throw]
          | some l =>
            by_cases h2 : w1.now - start > l
            · simp [h1, elapsedGt, hrt, h2, M.bind, M.throw]
            · simp [h1, elapsedGt, hrt, h2, M.bind, M.throw]

end Adb
