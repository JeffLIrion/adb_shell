import AdbProofs.Lemmas.PushDeliver
import AdbProofs.Lemmas.SyncParse
import AdbProofs.Lemmas.SyncSink
/-
  The FileSync receive side against the reference parser (C08, C09, C10).

  `deliveredWrteData evs` (PushLemmas) is the byte stream handed over by the events `evs`: the
  payloads of the device's WRTE packets delivered, concatenated, oldest first.  For EVERY outcome of
  `_filesync_read_buffered` / `_filesync_read` this file says what the outcome means in terms of
  `parse` on `recvBuf ++ deliveredWrteData evs`; then the three loops built on `_filesync_read`
  (`_pull`, `list`, the status read of `_push`).
-/
namespace Adb.SR
open Adb Adb.Push

theorem dwd_single {e : List TEv} {p : Pkt} (hd : delivered e = [p]) (hw : p.cmd = Cmd.WRTE) :
    deliveredWrteData e = p.data := by
  simp [deliveredWrteData, hd, hw]

theorem delivered_length_append (e2 e1 : List TEv) :
    (delivered (e2 ++ e1)).length = (delivered e1).length + (delivered e2).length := by
  rw [delivered_append, List.length_append]

/-! ### `_filesync_read_buffered` -/

/-- what an outcome of `_filesync_read_buffered(size)` means.  Normal return: exactly `size` bytes, and
    buffer-before ++ delivered-meanwhile = returned ++ buffer-after.  Exception: either the loop budget
    of the model ran out after at least `fuel` packets, or it is the exception of a `_read_until([WRTE])`
    that was called while fewer than `size` bytes had been handed over (`e0` = events before that call). -/
def BufPost (size : Nat) (t : Txn) (fuel : Nat) (fi : FsInfo) (w : World) (evs : List TEv)
    (res : Except Err (Bytes × FsInfo)) (w' : World) : Prop :=
  match res with
  | .ok (bs, fi') => bs.length = size ∧ fi.recvBuf ++ deliveredWrteData evs = bs ++ fi'.recvBuf ∧
      fi'.sendBuf = fi.sendBuf ∧ fi'.fmt = fi.fmt ∧ fi'.maxdata = fi.maxdata
  | .error e => (e = .hang ∧ fuel ≤ (delivered evs).length) ∨
      ∃ e0 el w1, evs = el ++ e0 ∧ w1.trace = e0 ++ w.trace ∧
        (fi.recvBuf ++ deliveredWrteData e0).length < size ∧ readUntil [.WRTE] t w1 = (.error e, w')

theorem fsReadBufferedLoop_any {size : Nat} {t : Txn} :
    ∀ {fuel : Nat} {fi : FsInfo} {w w' : World} {res : Except Err (Bytes × FsInfo)},
    fsReadBufferedLoop size t fuel fi w = (res, w') →
    ∃ evs, w'.trace = evs ++ w.trace ∧ BufPost size t fuel fi w evs res w' := by
  intro fuel
  induction fuel with
  | zero =>
    intro fi w w' res h
    cases h
    exact ⟨[], rfl, Or.inl ⟨rfl, Nat.le_refl _⟩⟩
  | succ f ih =>
    intro fi w w' res h
    unfold fsReadBufferedLoop at h
    split at h
    · next hlt =>
      rcases bind_any_inv h with ⟨e, hx, rfl⟩ | ⟨⟨c, d⟩, w1, hx, h⟩
      · obtain ⟨el, hel⟩ := Fr.evs (Fr_readUntil _ _) hx
        exact ⟨el, hel, Or.inr ⟨[], el, w, by simp, by simp, by simpa using hlt, hx⟩⟩
      obtain ⟨e1, p, he1, hd1, rfl, rfl, hx1⟩ := readUntil_ok hx
      have hw : p.cmd = Cmd.WRTE := by simpa using hx1
      have hdw : deliveredWrteData e1 = p.data := dwd_single hd1 hw
      obtain ⟨e2, he2, hpost⟩ := ih h
      refine ⟨e2 ++ e1, by rw [he2, he1, List.append_assoc], ?_⟩
      cases res with
      | ok x =>
        obtain ⟨bs, fi'⟩ := x
        simp only [BufPost] at hpost ⊢
        obtain ⟨h1, h2, h3, h4, h5⟩ := hpost
        refine ⟨h1, ?_, h3, h4, h5⟩
        rw [deliveredWrteData_append, hdw, ← List.append_assoc]; exact h2
      | error e =>
        simp only [BufPost] at hpost ⊢
        rcases hpost with ⟨rfl, hb⟩ | ⟨e0, el, w2, rfl, hw2, hl, hr⟩
        · left
          refine ⟨rfl, ?_⟩
          rw [delivered_length_append, hd1]
          simp only [List.length_cons, List.length_nil]; omega
        · right
          refine ⟨e0 ++ e1, el, w2, by simp, by rw [hw2, he1]; simp, ?_, hr⟩
          rw [deliveredWrteData_append, hdw, ← List.append_assoc]; exact hl
    · next hge =>
      cases h
      refine ⟨[], rfl, ?_⟩
      simp only [BufPost, deliveredWrteData_nil, List.append_nil, List.take_append_drop, List.length_take]
      exact ⟨by omega, trivial, trivial, trivial, trivial⟩

theorem fsReadBuffered_any {size : Nat} {t : Txn} {fi : FsInfo} {w w' : World} {res : Except Err (Bytes × FsInfo)}
    (h : fsReadBuffered size t fi w = (res, w')) :
    ∃ evs, w'.trace = evs ++ w.trace ∧ BufPost size t w.fuel fi w evs res w' := by
  unfold fsReadBuffered at h
  rw [get_bind_run] at h
  exact fsReadBufferedLoop_any h

/-! ### `_filesync_read` -/

/-- an exception raised below the parser: the model's loop budget ran out (after at least `w.fuel`
    packets), or `_filesync_flush` of the buffered request raised, or a `_read_until([WRTE])` raised that was
    called while the bytes handed over so far (`e0` = the events before that call) did not yet hold a
    complete record -/
def Aborted (t : Txn) (fi : FsInfo) (w : World) (evs : List TEv) (e : Err) (w' : World) : Prop :=
  (e = .hang ∧ w.fuel ≤ (delivered evs).length) ∨
  (fi.sendBuf ≠ [] ∧ fsFlush t fi w = (.error e, w')) ∨
  ∃ e0 el w1, evs = el ++ e0 ∧ w1.trace = e0 ++ w.trace ∧
    parse fi.fmt (fi.recvBuf ++ deliveredWrteData e0) = .more ∧ readUntil [.WRTE] t w1 = (.error e, w')

/-- what an outcome of `_filesync_read(expected)` means in terms of the reference parser applied to
    the byte stream `recvBuf ++ deliveredWrteData evs` -/
def ReadPost (ex : List SyncId) (t : Txn) (fi : FsInfo) (w : World) (evs : List TEv)
    (res : Except Err (SyncRec × FsInfo)) (w' : World) : Prop :=
  match res with
  | .ok (r, fi') => parse fi.fmt (fi.recvBuf ++ deliveredWrteData evs) = .record r fi'.recvBuf ∧ r.id ∈ ex ∧
      fi'.fmt = fi.fmt ∧ fi'.maxdata = fi.maxdata
  | .error e =>
      (∃ f m rest, e = .adbCommandFailure m ∧ SyncId.FAIL ∉ ex ∧
        parse fi.fmt (fi.recvBuf ++ deliveredWrteData evs) = .record ⟨.FAIL, f, some m⟩ rest) ∨
      (∃ r rest, e = .invalidResponse ∧ r.id ∉ ex ∧ r.id ≠ SyncId.FAIL ∧
        parse fi.fmt (fi.recvBuf ++ deliveredWrteData evs) = .record r rest) ∨
      (∃ word, e = .pyKeyError ∧ parse fi.fmt (fi.recvBuf ++ deliveredWrteData evs) = .badId word) ∨
      Aborted t fi w evs e w'

theorem fsReadCheck_run (ex : List SyncId) (cid : SyncId) (header : List Nat) (data : Bytes) (fi : FsInfo) (w : World) :
    fsReadCheck ex cid header data fi w =
      (if ex.contains cid then
        .ok (if cid = .STAT then ⟨cid, header.drop 1, none⟩ else ⟨cid, (header.drop 1).dropLast, some data⟩, fi)
      else .error (if cid = .FAIL then .adbCommandFailure data else .invalidResponse), w) := by
  unfold fsReadCheck
  cases ex.contains cid with
  | true => by_cases hs : cid = .STAT <;> simp [hs]
  | false => by_cases hf : cid = .FAIL <;> simp [hf, bind_run]

theorem fsReadCheck_any {ex : List SyncId} {t : Txn} {fi fi2 : FsInfo} {w w2 w' : World} {evs : List TEv}
    {cid : SyncId} {header : List Nat} {data : Bytes} {res : Except Err (SyncRec × FsInfo)}
    (h : fsReadCheck ex cid header data fi2 w2 = (res, w'))
    (hparse : parse fi.fmt (fi.recvBuf ++ deliveredWrteData evs) =
      .record (if cid = .STAT then ⟨cid, header.drop 1, none⟩ else ⟨cid, (header.drop 1).dropLast, some data⟩) fi2.recvBuf)
    (hf : fi2.fmt = fi.fmt) (hm : fi2.maxdata = fi.maxdata) :
    w' = w2 ∧ ReadPost ex t fi w evs res w' ∧ ∀ r fi', res = .ok (r, fi') → fi' = fi2 := by
  rw [fsReadCheck_run] at h
  cases h
  refine ⟨rfl, ?_⟩
  have hid : (if cid = .STAT then (⟨cid, header.drop 1, none⟩ : SyncRec) else ⟨cid, (header.drop 1).dropLast, some data⟩).id = cid := by
    split <;> rfl
  cases hex : ex.contains cid with
  | true =>
    refine ⟨⟨hparse, ?_, hf, hm⟩, ?_⟩
    · rw [hid]; simpa using hex
    · rintro r fi' ⟨⟩; rfl
  | false =>
    refine ⟨?_, by simp⟩
    by_cases hfail : cid = .FAIL
    · subst hfail
      exact Or.inl ⟨_, _, _, rfl, by simpa using hex, hparse⟩
    · exact Or.inr (Or.inl ⟨_, _, by rw [if_neg hfail], by rw [hid]; simpa using hex, by rw [hid]; exact hfail, hparse⟩)

theorem fsReadTail_any {ex : List SyncId} {t : Txn} {fi : FsInfo} {w w' : World}
    {res : Except Err (SyncRec × FsInfo)} (h : fsReadTail ex t fi w = (res, w')) :
    ∃ evs, w'.trace = evs ++ w.trace ∧ ReadPost ex t fi w evs res w' ∧
      ∀ r fi', res = .ok (r, fi') → fi'.sendBuf = fi.sendBuf := by
  unfold fsReadTail at h
  rcases bind_any_inv h with ⟨e, hx, rfl⟩ | ⟨⟨hdr, fi1⟩, w1, hx, h⟩ <;> obtain ⟨e1, he1, hp1⟩ := fsReadBuffered_any hx
  · refine ⟨e1, he1, Or.inr (Or.inr (Or.inr ?_)), by simp⟩
    rcases hp1 with ⟨rfl, hb⟩ | ⟨e0, el, w2, rfl, hw2, hl, hr⟩
    · exact Or.inl ⟨rfl, hb⟩
    · exact Or.inr (Or.inr ⟨e0, el, w2, rfl, hw2, parse_short hl, hr⟩)
  simp only [BufPost] at hp1
  obtain ⟨hl1, hc1, hs1, hf1, hm1⟩ := hp1
  simp only at h
  rw [hf1] at h
  cases hid : SyncId.ofWire? ((unpackWords (fi.fmt.size / 4) hdr).headD 0) with
  | none =>
    rw [hid] at h
    cases h
    exact ⟨e1, he1, Or.inr (Or.inr (Or.inl ⟨_, rfl, by rw [hc1]; exact parse_hdr_badId hl1 hid⟩)), by simp⟩
  | some cid =>
    rw [hid] at h
    simp only at h
    by_cases hc : cid = SyncId.STAT
    · -- STAT: no data
      subst hc
      simp only [ne_eq, not_true_eq_false, if_false, bind_run, pure_run] at h
      obtain ⟨rfl, hp, hfi⟩ := fsReadCheck_any (t := t) (w := w) h
        (by rw [if_pos rfl, hc1]; exact parse_hdr_stat hl1 hid) hf1 hm1
      exact ⟨e1, he1, hp, fun r fi' hr => by rw [hfi r fi' hr]; exact hs1⟩
    · simp only [ne_eq, hc, not_false_eq_true, if_true] at h
      have hfuel : w1.fuel = w.fuel := by
        have := (Fr_fsReadBuffered fi.fmt.size t fi w).fuel
        rwa [hx] at this
      rcases bind_any_inv h with ⟨e, hx2, rfl⟩ | ⟨⟨data, fi2⟩, w2, hx2, h⟩ <;>
        obtain ⟨e2, he2, hp2⟩ := fsReadBuffered_any hx2
      · refine ⟨e2 ++ e1, by rw [he2, he1, List.append_assoc], Or.inr (Or.inr (Or.inr ?_)), by simp⟩
        rcases hp2 with ⟨rfl, hb⟩ | ⟨e0, el, w3, rfl, hw3, hl, hr⟩
        · refine Or.inl ⟨rfl, ?_⟩
          rw [delivered_length_append, ← hfuel]; omega
        · refine Or.inr (Or.inr ⟨e0 ++ e1, el, w3, by simp, by rw [hw3, he1]; simp, ?_, hr⟩)
          rw [deliveredWrteData_append, ← List.append_assoc, hc1, List.append_assoc]
          exact parse_hdr_more hl1 hid hc hl
      simp only [BufPost] at hp2
      obtain ⟨hl2, hc2, hs2, hf2, hm2⟩ := hp2
      obtain ⟨rfl, hp, hfi⟩ := fsReadCheck_any (t := t) (w := w) (evs := e2 ++ e1) h
        (by rw [if_neg hc, deliveredWrteData_append, ← List.append_assoc, hc1, List.append_assoc, hc2]
            exact parse_hdr_data hl1 hid hc hl2) (hf2.trans hf1) (hm2.trans hm1)
      exact ⟨e2 ++ e1, by rw [he2, he1, List.append_assoc], hp, fun r fi' hr => by rw [hfi r fi' hr]; exact hs2.trans hs1⟩

/-- `_filesync_read`, every outcome: the flush (if any) and then the parser -/
theorem fsRead_any {ex : List SyncId} {t : Txn} {fi : FsInfo} {w w' : World}
    {res : Except Err (SyncRec × FsInfo)} (h : fsRead ex t fi w = (res, w')) :
    ∃ evs, w'.trace = evs ++ w.trace ∧ ReadPost ex t fi w evs res w' ∧
      ∀ r fi', res = .ok (r, fi') → fi'.sendBuf = [] := by
  rw [fsRead_eq_ite] at h
  cases hb : fi.sendBuf.isEmpty with
  | true =>
    simp only [hb, Bool.not_true, Bool.false_eq_true, if_false] at h
    obtain ⟨evs, hev, hp, hs⟩ := fsReadTail_any h
    refine ⟨evs, hev, hp, ?_⟩
    intro r fi' hr
    rw [hs r fi' hr]
    simpa using hb
  | false =>
    simp only [hb, Bool.not_false, if_true] at h
    have hne : fi.sendBuf ≠ [] := by intro h0; simp [h0] at hb
    rcases bind_any_inv h with ⟨e, hx, rfl⟩ | ⟨fi1, w1, hx, h⟩
    · obtain ⟨e1, he1⟩ := Fr.evs (Fr_fsFlush t fi) hx
      exact ⟨e1, he1, Or.inr (Or.inr (Or.inr (Or.inr (Or.inl ⟨hne, hx⟩)))), by simp⟩
    obtain ⟨e1, he1⟩ := Fr.evs (Fr_fsFlush t fi) hx
    obtain ⟨-, -, -, hsb, hf, hm⟩ := fsFlush_ok hx he1
    have hrb := fsFlush_recv hx he1
    have hfuel : w1.fuel = w.fuel := by
      have := (Fr_fsFlush t fi w).fuel
      rwa [hx] at this
    obtain ⟨e2, he2, hp, hs⟩ := fsReadTail_any h
    have hev : w'.trace = (e2 ++ e1) ++ w.trace := by rw [he2, he1, List.append_assoc]
    have hstream : fi.recvBuf ++ deliveredWrteData (e2 ++ e1) = fi1.recvBuf ++ deliveredWrteData e2 := by
      rw [deliveredWrteData_append, hrb, List.append_assoc]
    refine ⟨e2 ++ e1, hev, ?_, ?_⟩
    · cases res with
      | ok x =>
        obtain ⟨r, fi'⟩ := x
        simp only [ReadPost] at hp ⊢
        obtain ⟨h1, h2, h3, h4⟩ := hp
        exact ⟨by rw [hstream, ← hf]; exact h1, h2, h3.trans hf, h4.trans hm⟩
      | error e =>
        simp only [ReadPost] at hp ⊢
        rw [hstream, ← hf]
        -- only an exception raised below the parser is described relative to the world before the flush
        refine hp.imp_right (Or.imp_right (Or.imp_right ?_))
        rintro (⟨rfl, hbud⟩ | ⟨hne1, -⟩ | ⟨e0, el, w2, rfl, hw2, hpm, hr⟩)
        · refine Or.inl ⟨rfl, ?_⟩
          rw [delivered_length_append, ← hfuel]; omega
        · exact absurd hsb hne1
        · refine Or.inr (Or.inr ⟨e0 ++ e1, el, w2, by simp, by rw [hw2, he1]; simp, ?_, hr⟩)
          rw [deliveredWrteData_append, ← List.append_assoc, ← hrb, ← hf]
          exact hpm
    · intro r fi' hr
      rw [hs r fi' hr]
      exact hsb

theorem fsRead_post {ex : List SyncId} {t : Txn} {fi : FsInfo} {w w' : World} {res : Except Err (SyncRec × FsInfo)}
    {evs : List TEv} (h : fsRead ex t fi w = (res, w')) (hev : w'.trace = evs ++ w.trace) :
    ReadPost ex t fi w evs res w' := by
  obtain ⟨e, he, hp, -⟩ := fsRead_any h
  obtain rfl : evs = e := evs_unique (he ▸ hev)
  exact hp

/-- normal return of `_filesync_read`: the record returned is the next record of the reassembled stream -/
theorem fsRead_ok_parse {ex : List SyncId} {t : Txn} {fi fi' : FsInfo} {w w' : World} {r : SyncRec} {evs : List TEv}
    (h : fsRead ex t fi w = (.ok (r, fi'), w')) (hev : w'.trace = evs ++ w.trace) :
    parse fi.fmt (fi.recvBuf ++ deliveredWrteData evs) = .record r fi'.recvBuf ∧ r.id ∈ ex ∧
      fi'.fmt = fi.fmt ∧ fi'.maxdata = fi.maxdata ∧ fi'.sendBuf = [] := by
  obtain ⟨e, he, hp, hs⟩ := fsRead_any h
  have : evs = e := evs_unique (he ▸ hev)
  subst this
  simp only [ReadPost] at hp
  exact ⟨hp.1, hp.2.1, hp.2.2.1, hp.2.2.2, hs r fi' rfl⟩

theorem fsSend_recv {id : SyncId} {t : Txn} {fi fi' : FsInfo} {data : Bytes} {size : Option Nat} {w w' : World}
    {evs : List TEv} (h : fsSend id t fi data size w = (.ok fi', w')) (hev : w'.trace = evs ++ w.trace) :
    fi'.recvBuf = fi.recvBuf ++ deliveredWrteData evs := by
  unfold fsSend at h
  split at h
  -- the continuation after the optional flush is the same on both branches
  all_goals
    obtain ⟨fi1, w1, h1, h2⟩ := bind_ok_inv h
    split at h2
    · simp [bind_run] at h2
    cases h2
  · exact fsFlush_recv (fi' := fi1) h1 hev
  · cases h1
    obtain rfl : evs = [] := evs_unique (e1 := []) hev
    simp

end Adb.SR
