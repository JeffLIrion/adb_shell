import AdbProofs.Lemmas.SrcLoops
import AdbProofs.Properties.C07Src
/-
  Helper lemmas for C10SrcRead (the GENERATED translation of `AdbDevice._filesync_read` against the model's `fsRead`): the pure classification `recOf`,
  the encodings of FileSync ids, `struct.unpack('<nI', …)` against the model's `unpackWords`, the `FILESYNC_WIRE_TO_ID` table against `SyncId.ofWire?`,
  membership in a list of ids, and the tuple index / slice operations the method uses.
-/
set_option linter.unusedSimpArgs false
namespace Adb

/-- the bytes object of a FileSync id (`constants.DATA`, …) -/
def SyncId.idBytes (c : SyncId) : Bytes := ascii c.name

/-- the list of expected FileSync ids as the Python list of their byte strings -/
def encIds (l : List SyncId) : Py.Val := .list (l.map fun c => .bytes c.idBytes)

/-- the pure classification the model's `fsRead` performs once header bytes `hdr` and payload bytes `data` are there -/
def recOf (f : SyncFmt) (expected : List SyncId) (hdr data : Bytes) : Except Err (SyncId × List Nat × Option Bytes) :=
  let header := Adb.unpackWords (f.size / 4) hdr
  match SyncId.ofWire? (header.headD 0) with
  | none => .error .pyKeyError
  | some cid =>
    if cid = .STAT then
      (if !expected.contains cid then .error .invalidResponse else .ok (cid, header.drop 1, none))
    else
      (if !expected.contains cid then (if cid = .FAIL then .error (.adbCommandFailure data) else .error .invalidResponse)
       else .ok (cid, (header.drop 1).dropLast, some data))

/-- does the header name a known id that carries a payload, and of which length (`header[-1]`)? `none`: nothing more is read (unknown id word, or STAT) -/
def fsPayloadLen (f : SyncFmt) (hdr : Bytes) : Option Nat :=
  let header := Adb.unpackWords (f.size / 4) hdr
  match SyncId.ofWire? (header.headD 0) with
  | none => none
  | some cid => if cid = .STAT then none else some (header.getLastD 0)

/-- `recOf`'s result as what `fsRead` returns (the record, and the transaction info after the reads) -/
def recResult (r : Except Err (SyncId × List Nat × Option Bytes)) (fi : FsInfo) : Except Err (SyncRec × FsInfo) :=
  match r with
  | .ok (c, fl, d) => .ok (⟨c, fl, d⟩, fi)
  | .error e => .error e

/-! ### ids -/

theorem SyncId.idBytes_eq_iff (c d : SyncId) : (c.idBytes == d.idBytes) = (c == d) := by cases c <;> cases d <;> decide

theorem SyncId.idBytes_ne_nil (c : SyncId) : c.idBytes.isEmpty = false := by cases c <;> decide

theorem src_const_STAT : Src.const_STAT = .bytes SyncId.STAT.idBytes := by
  unfold Src.const_STAT; exact congrArg Py.Val.bytes (by decide)
theorem src_const_FAIL : Src.const_FAIL = .bytes SyncId.FAIL.idBytes := by
  unfold Src.const_FAIL; exact congrArg Py.Val.bytes (by decide)

theorem anyEq_syncIdBytes (c : SyncId) (l : List SyncId) :
    Py.anyEq (.bytes c.idBytes) (l.map fun d => Py.Val.bytes d.idBytes) = .ok (l.contains c) := by
  induction l with
  | nil => simp [Py.anyEq, pure, Except.pure]
  | cons d rest ih =>
    have hw : (c.idBytes == d.idBytes) = (c == d) := SyncId.idBytes_eq_iff c d
    by_cases h : c = d
    · subst h; simp [Py.anyEq, Py.eq, bind, Except.bind, pure, Except.pure]
    · have h' : (c == d) = false := by simp [h]
      have h2 : ¬ (c.idBytes = d.idBytes) := by
        intro he; have : (c.idBytes == d.idBytes) = true := by simp [he]
        rw [hw, h'] at this; exact Bool.noConfusion this
      simp [Py.anyEq, Py.eq, bind, Except.bind, pure, Except.pure, h2, ih, List.contains_cons, h']
      intro he; exact absurd he h

/-- `command_id not in expected_ids` -/
theorem notInV_syncIds (c : SyncId) (l : List SyncId) : Py.notInV (.bytes c.idBytes) (encIds l) = .ok (.bool (!l.contains c)) := by
  simp [Py.notInV, Py.contains, encIds, anyEq_syncIdBytes, bind, Except.bind, pure, Except.pure]

/-- `command_id != constants.STAT` -/
theorem neV_syncId_STAT (c : SyncId) : Py.neV (.bytes c.idBytes) Src.const_STAT = .ok (.bool (!(c == SyncId.STAT))) := by
  rw [src_const_STAT, Py.neV_bytes_bytes, SyncId.idBytes_eq_iff]

/-- `command_id == constants.FAIL` -/
theorem eqV_syncId_FAIL (c : SyncId) : Py.eqV (.bytes c.idBytes) Src.const_FAIL = .ok (.bool (c == SyncId.FAIL)) := by
  rw [src_const_FAIL, Py.eqV_bytes_bytes, SyncId.idBytes_eq_iff]

/-! ### the `FILESYNC_WIRE_TO_ID` table -/

/-- the generated `constants.FILESYNC_WIRE_TO_ID` table, indexed with `[…]`, is the model's `SyncId.ofWire?` (`KeyError` for an unknown word) -/
theorem src_fsWireToId_get (n : Nat) :
    Py.getItem Src.const_FILESYNC_WIRE_TO_ID (.int n)
      = (match SyncId.ofWire? n with | some c => .ok (.bytes c.idBytes) | none => .error .keyError) := by
  have table : Src.const_FILESYNC_WIRE_TO_ID = .dict (SyncId.all.map fun c => (Py.Key.int c.wire, Py.Val.bytes c.idBytes)) := rfl
  rw [table, Py.getItem_intTable, SyncId.ofWire?]
  cases SyncId.all.find? _ <;> rfl

/-! ### `struct.unpack('<nI', …)` -/

theorem rd32_of_length (bs : Bytes) (h : 4 ≤ bs.length) : ∃ v rest, rd32 bs = some (v, rest) ∧ rest.length + 4 = bs.length := by
  match bs, h with
  | a :: b :: c :: d :: rest, _ => exact ⟨_, rest, rfl, by simp⟩

/-- on a buffer of exactly `4n` bytes, the value-level `struct.unpack` yields the model's `unpackWords`, which has `n` entries -/
theorem unpackWords_py_eq (n : Nat) (bs : Bytes) (h : bs.length = 4 * n) :
    Py.unpackWords n bs = some ((Adb.unpackWords n bs).map (fun w => Py.Val.int (w : Nat))) ∧ (Adb.unpackWords n bs).length = n := by
  induction n generalizing bs with
  | zero =>
    have : bs = [] := by
      cases bs with
      | nil => rfl
      | cons a t => simp at h
    subst this
    simp [Py.unpackWords, Adb.unpackWords]
  | succ n ih =>
    obtain ⟨v, rest, hr, hl⟩ := rd32_of_length bs (by omega)
    have ih' := ih rest (by omega)
    simp [Py.unpackWords, Adb.unpackWords, hr, ih'.1, ih'.2]

/-- `struct.unpack(filesync_info.recv_message_format, header_data)` on `recv_message_size` bytes -/
theorem structUnpack_syncFmt (f : SyncFmt) (hdr : Bytes) (hlen : hdr.length = f.size) :
    Py.structUnpack f.pyFormat (.bytearray hdr) = .ok (.tuple ((Adb.unpackWords (f.size / 4) hdr).map (fun w => Py.Val.int (w : Nat)))) := by
  obtain ⟨b, hb, hw⟩ := SyncFmt.fmtWords f
  have h4 := (SyncFmt.words_ge_two f).2
  have hu := (unpackWords_py_eq (f.size / 4) hdr (by omega)).1
  simp [Py.structUnpack, hb, Py.fmtBytes, Py.bytesOf, hw, hu, bind, Except.bind, pure, Except.pure]

theorem unpackWords_syncFmt_length (f : SyncFmt) (hdr : Bytes) (hlen : hdr.length = f.size) : 2 ≤ (Adb.unpackWords (f.size / 4) hdr).length := by
  have h4 := SyncFmt.words_ge_two f
  rw [(unpackWords_py_eq (f.size / 4) hdr (by omega)).2]; exact h4.1

/-! ### tuple index and slices -/

theorem getItem_tuple_zero (v : Py.Val) (l : List Py.Val) : Py.getItem (.tuple (v :: l)) (.int 0) = .ok v := by
  simp [Py.getItem, pure, Except.pure]

/-- `header[1:]` -/
theorem sliceTL_tuple_1_0 (l : List Py.Val) : Py.sliceTL (.tuple l) 1 0 = .ok (.tuple (l.drop 1)) := by
  have h : (l.drop 1).take (l.length - 0 - 1) = l.drop 1 := List.take_of_length_le (by simp)
  simp only [Py.sliceTL, h]; rfl

/-- `header[1:-1]` -/
theorem sliceTL_tuple_1_1 (l : List Py.Val) : Py.sliceTL (.tuple l) 1 1 = .ok (.tuple ((l.drop 1).dropLast)) := by
  simp [Py.sliceTL, pure, Except.pure, List.dropLast_eq_take]

end Adb
