import AdbProofs.Lemmas.Pres
import AdbProofs.Lemmas.Blocks
/-
  `Pres R` for every function of the sequential model, bottom-up, for every frame relation `R`.
  Each proof is the function's `do` block read off combinator by combinator.  Hypotheses say which world
  updates beyond those of `hR : WRel R` the function performs:
  `htx` / `hdl`: it records the transmission of `m` / deliveries of packets whose command is expected (`hex`: the
  expected commands of the handshake); `hcb`: the auth callback; `hE`: it may record any event;
  `hA`: it allocates a stream id; `hS`: it writes the pull destination; `hV`: it sets availability and maxdata.
  A `do` block's `if c then x` without `else` elaborates to `if c then x >>= k else k ()` with the rest `k` of the
  block in both branches: that is why `Pres.guard` (or a repeated `hk`) appears at such places.
-/
namespace Adb

section
variable {R : World → World → Prop} (hR : WRel R)
include hR

theorem Pres_waitTimeout {α} (tt : Timeout) : Pres R (waitTimeout tt : M α) := by
  intro w; unfold waitTimeout; cases tt <;> first | exact hR.refl w | exact hR.transport w _ _ _ _

theorem Pres_bulkRead (n : Nat) (tt : Timeout) : Pres R (bulkRead n tt) := .of_local hR (bulkRead_local n tt)
theorem Pres_bulkWrite (d : Bytes) (tt : Timeout) : Pres R (bulkWrite d tt) := .of_local hR (bulkWrite_local d tt)

theorem Pres_tClose : Pres R tClose := by
  intro w; unfold tClose
  split
  · exact hR.event .tclose rfl w
  · exact hR.transport_event w _ _ _ _ rfl

theorem Pres_tConnect (tt : Timeout) : Pres R (tConnect tt) := by
  intro w; unfold tConnect
  repeat' split
  all_goals exact hR.transport_event w _ _ _ _ rfl

theorem Pres_storeFind (t : Txn) (az : Bool) : Pres R (storeFind t az) := .of_pure hR fun _ => rfl

theorem Pres_storeGet (k : Nat × Nat) : Pres R (storeGet k) := by
  intro w; unfold storeGet; split
  · exact hR.store w _
  · exact hR.refl w

theorem Pres_storePut (p : Pkt) : Pres R (storePut p) := by
  intro w
  refine hR.store_event w _ ?_
  split <;> rfl

theorem Pres_storeClear (a0 a1 : Nat) : Pres R (storeClear a0 a1) := fun w => hR.store w _
theorem Pres_storeClearAll : Pres R storeClearAll := fun w => hR.store w _
theorem Pres_getTT (tt : Timeout) : Pres R (getTT tt) := .of_pure hR fun _ => rfl
theorem Pres_lookupFile (id : Nat) : Pres R (lookupFile id) :=
  .of_pure hR fun w => by unfold lookupFile; split <;> rfl
theorem Pres_runGuard (g : String) (p : Option Bytes) : Pres R (runGuard g p) :=
  .of_pure hR fun w => by unfold runGuard; repeat' split
                          all_goals rfl

theorem Pres_runGuards : ∀ gs p, Pres R (runGuards gs p)
  | [], _ => .pure hR _
  | g :: gs, p => .bind hR (Pres_runGuard hR g p) fun _ => Pres_runGuards gs p

theorem Pres_readBytesLoop (t : Txn) (start : Int) : ∀ fuel rem acc, Pres R (readBytesLoop t start fuel rem acc)
  | 0, _, _ => .throw hR _
  | fuel + 1, rem, acc => by
    unfold readBytesLoop
    exact .ite (.pure hR _) <| .bind hR (.emit (hR.event _ rfl)) fun _ => .bind hR (Pres_bulkRead hR _ _) fun _ =>
      .ite (.pure hR _) <| .bind hR (.elapsedGt hR _ _) fun _ =>
        .guard hR (.throw hR _) (Pres_readBytesLoop t start fuel _ _)

theorem Pres_readBytes (n : Nat) (t : Txn) : Pres R (readBytes n t) :=
  .bind hR (.now hR) fun _ => .bind hR (.get hR) fun _ => Pres_readBytesLoop hR _ _ _ _ _

theorem Pres_readPacket (t : Txn) : Pres R (readPacket t) := by
  unfold readPacket
  refine .bind hR (Pres_readBytes hR _ _) fun msg => ?_
  cases unpack msg with
  | none => exact .throw hR _
  | some h =>
    dsimp only
    cases Cmd.ofWire? h.cmd with
    | none => exact .throw hR _
    | some c =>
      exact .ite (.pure hR _) <| .bind hR (Pres_readBytes hR _ _) fun _ => .guard hR (.throw hR _) (.pure hR _)

theorem Pres_writeAllLoop (t : Txn) (start : Int) : ∀ fuel data, Pres R (writeAllLoop t start fuel data)
  | 0, _ => .throw hR _
  | fuel + 1, data => by
    unfold writeAllLoop
    refine .bind hR (Pres_bulkWrite hR _ _) fun nw => ?_
    exact match nw with
    | none => .pure hR _
    | some k => .ite (.pure hR _) <| .bind hR (.elapsedGt hR _ _) fun _ =>
        .guard hR (.throw hR _) (Pres_writeAllLoop t start fuel _)

theorem Pres_writeAll (d : Bytes) (t : Txn) : Pres R (writeAll d t) :=
  .bind hR (.now hR) fun _ => .bind hR (.get hR) fun _ => Pres_writeAllLoop hR _ _ _ _

theorem Pres_callProgress (cb : CbMode) (path : Bytes) (n total : Nat) : Pres R (callProgress cb path n total) := by
  have h : Pres R (M.swallow (do emit (.cbProgress path n total); if cb = CbMode.raise then M.throw .pyValueError)) :=
    .swallow <| .bind hR (.emit (hR.event _ rfl)) fun _ => .ite (.throw hR _) (.pure hR _)
  cases cb
  · exact .pure hR _
  · exact h
  · exact h

theorem Pres_ioClose : Pres R ioClose :=
  .withLock hR _ <| .bind hR (Pres_tClose hR) fun _ => .withLock hR _ (Pres_storeClearAll hR)

/-- `sendRaw` after its `tx` event -/
theorem Pres_sendRaw_rest (m : Msg) (t : Txn) :
    Pres R (match m.pack? with
      | none => M.throw .pyStructError
      | some hdr => do
        writeAll hdr t
        if !m.data.isEmpty then writeAll m.data t : M Unit) := by
  cases m.pack? with
  | none => exact .throw hR _
  | some hdr => exact .bind hR (Pres_writeAll hR _ _) fun _ => .ite (Pres_writeAll hR _ _) (.pure hR _)

theorem Pres_sendRaw {m : Msg} (htx : Admits R (.tx m)) (t : Txn) : Pres R (sendRaw m t) :=
  .bind hR (.emit htx) fun _ => Pres_sendRaw_rest hR m t

theorem Pres_ioSend {m : Msg} (htx : Admits R (.tx m)) (t : Txn) : Pres R (ioSend m t) :=
  .withLock hR _ (Pres_sendRaw hR htx t)

theorem Pres_okay (htx : ∀ m, Admits R (.tx m)) (t : Txn) : Pres R (okay t) := Pres_ioSend hR (htx _) t

section
variable {ex : List Cmd} (hdl : ∀ p, ex.contains p.cmd = true → Admits R (.deliver p))
include hdl

theorem Pres_expectLoop (t : Txn) (start : Int) : ∀ fuel, Pres R (expectLoop ex t start fuel)
  | 0 => .throw hR _
  | fuel + 1 => by
    unfold expectLoop
    exact .bind hR (Pres_readPacket hR _) fun p =>
      .ite_pos (fun hc => .bind hR (.emit (hdl p hc)) fun _ => .pure hR _) <|
        .bind hR (.emit (hR.event _ rfl)) fun _ => .bind hR (.elapsedGt hR _ _) fun _ =>
          .guard hR (.throw hR _) (Pres_expectLoop t start fuel)

theorem Pres_expectPacket (t : Txn) : Pres R (expectPacket ex t) :=
  .bind hR (.now hR) fun _ => .bind hR (.get hR) fun _ => Pres_expectLoop hR hdl _ _ _

theorem Pres_drainLoop (t : Txn) (az : Bool) : ∀ fuel, Pres R (drainLoop ex t az fuel)
  | 0 => .throw hR _
  | fuel + 1 => by
    unfold drainLoop
    refine .bind hR (Pres_storeFind hR _ _) fun o => ?_
    exact match o with
    | none => .pure hR _
    | some k => .bind hR (Pres_storeGet hR _) fun p =>
        .ite_pos (fun hc => .bind hR (.emit (hdl p hc)) fun _ => .pure hR _) <|
          .bind hR (.emit (hR.event _ rfl)) fun _ => Pres_drainLoop t az fuel

theorem Pres_readIter (t : Txn) (az : Bool) : Pres R (readIter ex t az) := by
  unfold readIter
  refine .withLock hR _ <| .bind hR (.get hR) fun w =>
    .bind hR (.withLock hR _ (Pres_drainLoop hR hdl _ _ _)) fun o => ?_
  exact match o with
  | some p => .pure hR _
  | none => .bind hR (Pres_readPacket hR _) fun p =>
      .ite (.bind hR (.withLock hR _ (Pres_storePut hR _)) fun _ => .pure hR _) <|
        .guard hR (.withLock hR _ (Pres_storeClear hR _ _)) <|
          .ite_pos (fun hc => .bind hR (.emit (hdl p hc)) fun _ => .pure hR _)
            (.bind hR (.emit (hR.event _ rfl)) fun _ => .pure hR _)

theorem Pres_readLoop (t : Txn) (az : Bool) (start : Int) : ∀ fuel, Pres R (readLoop ex t az start fuel)
  | 0 => .throw hR _
  | fuel + 1 => by
    unfold readLoop
    refine .bind hR (Pres_readIter hR hdl _ _) fun o => ?_
    exact match o with
    | some p => .pure hR _
    | none => .bind hR (.elapsedGt hR _ _) fun _ => .guard hR (.throw hR _) (Pres_readLoop t az start fuel)

theorem Pres_ioRead (t : Txn) (az : Bool) : Pres R (ioRead ex t az) := by
  unfold ioRead
  refine .bind hR (.get hR) fun w => .bind hR (.withLock hR _ (Pres_drainLoop hR hdl _ _ _)) fun o => ?_
  exact match o with
  | some p => .pure hR _
  | none => .bind hR (.now hR) fun _ => Pres_readLoop hR hdl _ _ _ _

end
end

section
variable {R : World → World → Prop} (hR : WRel R)
  (htx : ∀ m : Msg, m.cmd = .CNXN ∨ m.cmd = .AUTH → Admits R (.tx m))
  (hdl : ∀ p : Pkt, p.cmd = .CNXN ∨ p.cmd = .AUTH → Admits R (.deliver p))
include hR htx hdl

omit htx in
theorem Pres_expectHandshake {ex : List Cmd} (hex : ∀ c ∈ ex, c = .CNXN ∨ c = .AUTH) (t : Txn) :
    Pres R (expectPacket ex t) :=
  Pres_expectPacket hR (fun p hc => hdl p (hex _ (List.contains_iff_mem.1 hc))) t

theorem Pres_authLoop (t : Txn) : ∀ keys last, Pres R (authLoop t keys last)
  | [], _ => .pure hR _
  | k :: ks, last => by
    unfold authLoop
    have hk : Pres R (do
        sendRaw ⟨.AUTH, Generated.AUTH_SIGNATURE, 0, stubSign k last.data⟩ t
        let p ← expectPacket [.CNXN, .AUTH] t
        if p.cmd = Cmd.CNXN then pure (some p.arg1, p) else authLoop t ks p) :=
      .bind hR (Pres_sendRaw hR (htx _ (.inr rfl)) _) fun _ =>
        .bind hR (Pres_expectHandshake hR hdl (by decide) _) fun p => .ite (.pure hR _) (Pres_authLoop t ks p)
    exact .ite (.bind hR (Pres_tClose hR) fun _ => .bind hR (.throw hR _) fun _ => hk) hk

variable (hcb : Admits R .cbAuth)
include hcb

theorem Pres_pubkeyStep (keys : List Nat) (authT : Timeout) (cb : Bool) (t : Txn) : Pres R (pubkeyStep keys authT cb t) :=
  .guard hR (.emit hcb) <| .bind hR (Pres_sendRaw hR (htx _ (.inr rfl)) _) fun _ =>
    .bind hR (Pres_expectHandshake hR hdl (by decide) _) fun _ => .pure hR _

theorem Pres_connTail (b : Bytes) (keys : List Nat) (authT : Timeout) (cb : Bool) (t : Txn) :
    Pres R (connTail b keys authT cb t) := by
  unfold connTail
  refine .bind hR (Pres_sendRaw hR (htx _ (.inl rfl)) _) fun _ =>
    .bind hR (Pres_expectHandshake hR hdl (by decide) _) fun p => .ite (.pure hR _) ?_
  have hauth : Pres R (do
      match (← authLoop t keys p) with
      | (some maxdata, _) => pure maxdata
      | (none, _) => pubkeyStep keys authT cb t) :=
    .bind hR (Pres_authLoop hR htx hdl _ _ _) fun
      | (some _, _) => .pure hR _
      | (none, _) => Pres_pubkeyStep hR htx hdl hcb _ _ _ _
  exact .ite (.bind hR (Pres_tClose hR) fun _ => .bind hR (.throw hR _) fun _ => hauth) hauth

theorem Pres_ioConnect (b : Bytes) (keys : List Nat) (authT : Timeout) (cb : Bool) (t : Txn) :
    Pres R (ioConnect b keys authT cb t) :=
  .withLock hR _ <| .bind hR (Pres_tClose hR) fun _ => .bind hR (.withLock hR _ (Pres_storeClearAll hR)) fun _ =>
    .bind hR (Pres_tConnect hR _) fun _ => Pres_connTail hR htx hdl hcb _ _ _ _ _

theorem Pres_devConnect (hV : ∀ w a m, R w { w with available := a, maxdata := m })
    (keys : List Nat) (tt authT rt : Timeout) (cb : Bool) : Pres R (devConnect keys tt authT rt cb) :=
  .bind hR (Pres_getTT hR _) fun _ => .bind hR (.liftExcept hR _) fun _ => .bind hR (.modify fun w => hV w _ _) fun _ =>
    .bind hR (.get hR) fun _ => .bind hR (Pres_ioConnect hR htx hdl hcb _ _ _ _ _) fun _ =>
      .bind hR (.modify fun w => hV w _ _) fun _ => .pure hR _

end

section
variable {R : World → World → Prop} (hR : WRel R) (hE : ∀ e, Admits R e)
include hR hE

theorem Pres_ioRead' (ex : List Cmd) (t : Txn) (az : Bool) : Pres R (ioRead ex t az) := Pres_ioRead hR (fun _ _ => hE _) t az
theorem Pres_ioSend' (m : Msg) (t : Txn) : Pres R (ioSend m t) := Pres_ioSend hR (hE _) t

theorem Pres_readUntil (ex : List Cmd) (t : Txn) : Pres R (readUntil ex t) := by
  unfold readUntil
  exact .bind hR (Pres_ioRead' hR hE _ _ _) fun _ => .guard hR (Pres_ioSend' hR hE _ _) (.pure hR _)

theorem Pres_clse (t : Txn) : Pres R (clse t) :=
  .bind hR (Pres_ioSend' hR hE _ _) fun _ => .bind hR (Pres_readUntil hR hE _ _) fun _ => .pure hR _

theorem Pres_readUntilCloseLoop (t : Txn) (start : Int) : ∀ fuel acc, Pres R (readUntilCloseLoop t start fuel acc)
  | 0, _ => .throw hR _
  | fuel + 1, acc => by
    unfold readUntilCloseLoop
    refine .bind hR (Pres_readUntil hR hE _ _) fun (cmd, data) =>
      .ite (.bind hR (Pres_ioSend' hR hE _ _) fun _ => .pure hR _) <| .bind hR (.emit (hE _)) fun _ => ?_
    cases t.total with
    | none => exact Pres_readUntilCloseLoop t start fuel _
    | some _ =>
      exact .bind hR (.elapsedGt hR _ _) fun _ => .guard hR (.throw hR _) (Pres_readUntilCloseLoop t start fuel _)

theorem Pres_readUntilClose (t : Txn) : Pres R (readUntilClose t) :=
  .bind hR (.now hR) fun _ => .bind hR (.get hR) fun _ => Pres_readUntilCloseLoop hR hE _ _ _ _

theorem Pres_fsFlushLoop (t : Txn) : ∀ fuel fi, Pres R (fsFlushLoop t fuel fi)
  | 0, _ => .throw hR _
  | fuel + 1, fi => by
    unfold fsFlushLoop
    exact .bind hR (Pres_readUntil hR hE _ _) fun (cmd, data) => .ite (.pure hR _) (Pres_fsFlushLoop t fuel _)

theorem Pres_fsFlush (t : Txn) (fi : FsInfo) : Pres R (fsFlush t fi) :=
  .bind hR (Pres_ioSend' hR hE _ _) fun _ => .bind hR (.get hR) fun _ => Pres_fsFlushLoop hR hE _ _ _

theorem Pres_fsSend (id : SyncId) (t : Txn) (fi : FsInfo) (data : Bytes) (size : Option Nat) :
    Pres R (fsSend id t fi data size) := by
  unfold fsSend
  exact .ite_bind hR (Pres_fsFlush hR hE _ _) (.pure hR _) fun _ => .guard hR (.throw hR _) (.pure hR _)

theorem Pres_fsReadBufferedLoop (size : Nat) (t : Txn) : ∀ fuel fi, Pres R (fsReadBufferedLoop size t fuel fi)
  | 0, _ => .throw hR _
  | fuel + 1, fi => by
    unfold fsReadBufferedLoop
    exact .ite (.bind hR (Pres_readUntil hR hE _ _) fun (_, data) => Pres_fsReadBufferedLoop size t fuel _) (.pure hR _)

theorem Pres_fsReadBuffered (size : Nat) (t : Txn) (fi : FsInfo) : Pres R (fsReadBuffered size t fi) :=
  .bind hR (.get hR) fun _ => Pres_fsReadBufferedLoop hR hE _ _ _ _

theorem Pres_fsRead (ex : List SyncId) (t : Txn) (fi : FsInfo) : Pres R (fsRead ex t fi) := by
  unfold fsRead
  refine .ite_bind hR (Pres_fsFlush hR hE _ _) (.pure hR _) fun fi =>
    .bind hR (Pres_fsReadBuffered hR hE _ _ _) fun (hdr, fi) => ?_
  dsimp only
  cases SyncId.ofWire? ((unpackWords (fi.fmt.size / 4) hdr).headD 0) with
  | none => exact .throw hR _
  | some cid =>
    exact .ite_bind hR (Pres_fsReadBuffered hR hE _ _ _) (.pure hR _) fun (data, fi) =>
      .ite (.ite (.bind hR (.throw hR _) fun _ => .ite (.pure hR _) (.pure hR _))
        (.bind hR (.throw hR _) fun _ => .ite (.pure hR _) (.pure hR _))) (.ite (.pure hR _) (.pure hR _))

theorem Pres_pushDataLoop (devPath : Bytes) (cb : CbMode) (total chunk : Nat) (t : Txn) :
    ∀ fuel content fi, Pres R (pushDataLoop devPath cb total chunk t fuel content fi)
  | 0, _, _ => .throw hR _
  | fuel + 1, content, fi => by
    unfold pushDataLoop
    exact .ite (.pure hR _) <| .bind hR (Pres_fsSend hR hE _ _ _ _ _) fun _ =>
      .bind hR (Pres_callProgress hR _ _ _ _) fun _ => Pres_pushDataLoop devPath cb total chunk t fuel _ _

theorem Pres_pushStatus (t : Txn) (fi : FsInfo) : Pres R (pushStatus t fi) :=
  .bind hR (Pres_fsRead hR hE _ _ _) fun (_, _) => .ite (.pure hR _) (.throw hR _)

theorem Pres_pushOne (content devPath : Bytes) (mode mtime : Nat) (cb : CbMode) (t : Txn) (fi : FsInfo) :
    Pres R (pushOne content devPath mode mtime cb t fi) :=
  .bind hR (Pres_fsSend hR hE _ _ _ _ _) fun _ => .bind hR (.get hR) fun _ =>
    .bind hR (Pres_pushDataLoop hR hE _ _ _ _ _ _ _ _) fun _ => .bind hR (.get hR) fun _ =>
      .bind hR (Pres_fsSend hR hE _ _ _ _ _) fun _ => Pres_pushStatus hR hE _ _

theorem Pres_listLoop (t : Txn) : ∀ fuel fi acc, Pres R (listLoop t fuel fi acc)
  | 0, _, _ => .throw hR _
  | fuel + 1, fi, acc => by
    unfold listLoop
    exact .bind hR (Pres_fsRead hR hE _ _ _) fun (r, fi) => .ite (.pure hR _) (Pres_listLoop t fuel _ _)

section
variable (hA : ∀ w, R w { w with localId := nextId w.localId })
include hA

omit hE in
theorem Pres_openTxnBlock (tt rt total : Timeout) : Pres R (openTxnBlock tt rt total) :=
  .withLock hR _ <| .bind hR (.modify hA) fun _ => .bind hR (.get hR) fun _ =>
    .bind hR (Pres_getTT hR _) fun _ => .liftExcept hR _

omit hA in
theorem Pres_openRest (dest : Bytes) (t : Txn) : Pres R (openRest dest t) :=
  .bind hR (Pres_ioSend' hR hE _ _) fun _ => .bind hR (Pres_ioRead' hR hE _ _ _) fun _ => .pure hR _

theorem Pres_openStream (dest : Bytes) (tt rt total : Timeout) : Pres R (openStream dest tt rt total) :=
  .bind hR (Pres_openTxnBlock hR hA tt rt total) (Pres_openRest hR hE dest)

theorem Pres_streamingCommand (svc cmd : Bytes) (tt rt total : Timeout) : Pres R (streamingCommand svc cmd tt rt total) :=
  .bind hR (Pres_openStream hR hE hA _ _ _ _) fun _ => Pres_readUntilClose hR hE _

theorem Pres_service (svc cmd : Bytes) (tt rt total : Timeout) (dec : Bool) : Pres R (service svc cmd tt rt total dec) :=
  .bind hR (Pres_streamingCommand hR hE hA _ _ _ _ _) fun _ => .pure hR _

theorem Pres_streamingService (svc cmd : Bytes) (tt rt : Timeout) (dec : Bool) : Pres R (streamingService svc cmd tt rt dec) :=
  .bind hR (Pres_streamingCommand hR hE hA _ _ _ _ _) fun _ => .pure hR _

theorem Pres_devShellLike (op : String) (svc cmd : Bytes) (tt rt total : Timeout) (dec : Bool) :
    Pres R (devShellLike op svc cmd tt rt total dec) :=
  .bind hR (Pres_runGuards hR _ _) fun _ => Pres_service hR hE hA _ _ _ _ _ _

theorem Pres_devRoot (tt rt total : Timeout) : Pres R (devRoot tt rt total) :=
  .bind hR (Pres_runGuards hR _ _) fun _ => .bind hR (Pres_service hR hE hA _ _ _ _ _ _) fun _ => .pure hR _

theorem Pres_devReboot (fb : Bool) (tt rt total : Timeout) : Pres R (devReboot fb tt rt total) :=
  .bind hR (Pres_runGuards hR _ _) fun _ => .bind hR (Pres_openStream hR hE hA _ _ _ _) fun _ => .pure hR _

theorem Pres_devStreamingShell (cmd : Bytes) (tt rt : Timeout) (dec : Bool) : Pres R (devStreamingShell cmd tt rt dec) :=
  .bind hR (Pres_runGuards hR _ _) fun _ => Pres_streamingService hR hE hA _ _ _ _ _

theorem Pres_devList (p : Bytes) (tt rt : Timeout) : Pres R (devList p tt rt) :=
  .bind hR (Pres_runGuards hR _ _) fun _ => .bind hR (Pres_openStream hR hE hA _ _ _ _) fun _ =>
    .bind hR (.get hR) fun _ => .bind hR (Pres_fsSend hR hE _ _ _ _ _) fun _ =>
      .bind hR (Pres_listLoop hR hE _ _ _ _) fun _ => .bind hR (Pres_clse hR hE _) fun _ => .pure hR _

theorem Pres_devStat (p : Bytes) (tt rt : Timeout) : Pres R (devStat p tt rt) :=
  .bind hR (Pres_runGuards hR _ _) fun _ => .bind hR (Pres_openStream hR hE hA _ _ _ _) fun _ =>
    .bind hR (.get hR) fun _ => .bind hR (Pres_fsSend hR hE _ _ _ _ _) fun _ =>
      .bind hR (Pres_fsRead hR hE _ _ _) fun (_, _) => .bind hR (Pres_clse hR hE _) fun _ => .pure hR _

theorem Pres_pushFile (fid : Nat) (devPath : Bytes) (mode mtime : Nat) (cb : CbMode) (tt rt : Timeout) :
    Pres R (pushFile fid devPath mode mtime cb tt rt) :=
  .bind hR (Pres_lookupFile hR _) fun _ => .bind hR (Pres_openStream hR hE hA _ _ _ _) fun _ =>
    .bind hR (.get hR) fun _ => .bind hR (Pres_pushOne hR hE _ _ _ _ _ _ _) fun _ => Pres_clse hR hE _

theorem Pres_pushFiles (devPath : Bytes) (mode mtime : Nat) (cb : CbMode) (tt rt : Timeout) :
    ∀ es, Pres R (pushFiles devPath mode mtime cb tt rt es)
  | [] => .pure hR _
  | (_, _) :: rest =>
    .bind hR (Pres_pushFile hR hE hA _ _ _ _ _ _ _) fun _ => Pres_pushFiles devPath mode mtime cb tt rt rest

theorem Pres_devPush (src : LocalRef) (devPath : Bytes) (mode mtime : Nat) (cb : CbMode) (tt rt : Timeout) :
    Pres R (devPush src devPath mode mtime cb tt rt) := by
  unfold devPush
  refine .bind hR (Pres_runGuards hR _ _) fun _ => ?_
  have hf : ∀ id, Pres R (do pushFile id devPath mode mtime cb tt rt; pure Val.none) :=
    fun id => .bind hR (Pres_pushFile hR hE hA _ _ _ _ _ _ _) fun _ => .pure hR _
  cases src with
  | bytesio id => exact hf id
  | file id => exact hf id
  | dir id =>
    refine .bind hR (.get hR) fun w => ?_
    cases w.dirs.find? (·.1 == id) with
    | none => exact .throw hR _
    | some e =>
      exact .bind hR (Pres_devShellLike hR hE hA _ _ _ _ _ _ _) fun _ =>
        .bind hR (Pres_pushFiles hR hE hA _ _ _ _ _ _ _) fun _ => .pure hR _

section
variable (hS : ∀ w s, R w { w with sink := s })
include hS

omit hA in
theorem Pres_pullLoop (devPath : Bytes) (cb : CbMode) (total : Nat) (t : Txn) :
    ∀ fuel fi, Pres R (pullLoop devPath cb total t fuel fi)
  | 0, _ => .throw hR _
  | fuel + 1, fi => by
    unfold pullLoop
    exact .bind hR (Pres_fsRead hR hE _ _ _) fun (r, fi) => .ite (.pure hR _) <|
      .bind hR (.modify fun w => hS w _) fun _ => .bind hR (Pres_callProgress hR _ _ _ _) fun _ =>
        Pres_pullLoop devPath cb total t fuel _

omit hA in
theorem Pres_pullRest (devPath : Bytes) (cb : CbMode) (t : Txn) (fi : FsInfo) (total : Nat) :
    Pres R (pullRest devPath cb t fi total) :=
  .bind hR (Pres_fsSend hR hE _ _ _ _ _) fun _ => .bind hR (.get hR) fun _ => Pres_pullLoop hR hE hS _ _ _ _ _ _

omit hS in
theorem Pres_pullTotal (devPath : Bytes) (cb : CbMode) (t : Txn) : Pres R (pullTotal devPath cb t) :=
  .ite (.bind hR (Pres_devStat hR hE hA _ _ _) fun v => by cases v <;> exact .pure hR _) (.pure hR _)

theorem Pres_pullInner (devPath : Bytes) (cb : CbMode) (t : Txn) (fi : FsInfo) : Pres R (pullInner devPath cb t fi) := by
  rw [pullInner_eq]
  exact .bind hR (Pres_pullTotal hR hE hA _ _ _) (Pres_pullRest hR hE hS _ _ _ _)

theorem Pres_devPull (devPath : Bytes) (cb : CbMode) (tt rt : Timeout) : Pres R (devPull devPath cb tt rt) :=
  .bind hR (Pres_runGuards hR _ _) fun _ => .bind hR (.modify fun w => hS w _) fun _ =>
    .bind hR (Pres_openStream hR hE hA _ _ _ _) fun _ => .bind hR (.get hR) fun _ =>
      .bind hR (.tryFinally hR (Pres_pullInner hR hE hA hS _ _ _ _) (Pres_clse hR hE _)) fun _ => .pure hR _

end
end

section
variable (hV : ∀ w a m, R w { w with available := a, maxdata := m })
include hV

omit hE in
theorem Pres_devClose : Pres R devClose :=
  .bind hR (.modify fun w => hV w _ _) fun _ => .bind hR (Pres_ioClose hR) fun _ => .pure hR _

end

section
variable (hA : ∀ w, R w { w with localId := nextId w.localId }) (hS : ∀ w s, R w { w with sink := s })
include hA hS

theorem Pres_streamOp : ∀ op : ApiOp, op.isStreamOp = true → Pres R op.run
  | .shell cmd tt rt total dec, _ => Pres_devShellLike hR hE hA _ _ cmd tt rt total dec
  | .execOut cmd tt rt total dec, _ => Pres_devShellLike hR hE hA _ _ cmd tt rt total dec
  | .root tt rt total, _ => Pres_devRoot hR hE hA tt rt total
  | .reboot fb tt rt total, _ => Pres_devReboot hR hE hA fb tt rt total
  | .streamingShell cmd tt rt dec, _ => Pres_devStreamingShell hR hE hA cmd tt rt dec
  | .list p tt rt, _ => Pres_devList hR hE hA p tt rt
  | .stat p tt rt, _ => Pres_devStat hR hE hA p tt rt
  | .pull p cb tt rt, _ => Pres_devPull hR hE hA hS p cb tt rt
  | .push src p mode mtime cb tt rt, _ => Pres_devPush hR hE hA src p mode mtime cb tt rt

variable (hV : ∀ w a m, R w { w with available := a, maxdata := m })
include hV

theorem Pres_apiOp (op : ApiOp) : Pres R op.run := by
  cases h : op.isStreamOp
  · cases op <;> first | cases h | skip
    · exact Pres_devConnect hR (fun _ _ => hE _) (fun _ _ => hE _) (hE _) hV _ _ _ _ _
    · exact Pres_devClose hR hV
  · exact Pres_streamOp hR hE hA hS op h

theorem Pres_runHistory : ∀ (ops : List ApiOp) (w : World), R w (runHistory ops w).2
  | [], w => hR.refl w
  | op :: ops, w => hR.trans (Pres_apiOp hR hE hA hS hV op w) (Pres_runHistory ops _)

end
end

end Adb
