import AdbProofs.Lemmas.SyncWire
import AdbProofs.Lemmas.Deliver
/-
  `stat`, `list` and `pull` as whole operations (C08, C09): the phases of a normal return, which
  events belong to which phase, what the reassembled FileSync stream of the transfer is, and that
  the stream is closed (`_clse`); `devPull_inv` says which parts of `pull` ran for every outcome.

  Both trace vocabularies are in scope here: `transmitted` / `delivered` are those of Deliver.lean
  (namespace `Adb`); the FileSync byte stream and the callback record are `Push.deliveredWrteData`
  and `Push.progressCalls`.
-/
namespace Adb.SR
open Adb

theorem push_delivered_eq (evs : List TEv) : Push.delivered evs = delivered evs := rfl
theorem push_transmitted_eq (evs : List TEv) : Push.transmitted evs = transmitted evs := rfl

theorem dwd_of_delivered_nil {evs : List TEv} (h : delivered evs = []) : Push.deliveredWrteData evs = [] := by
  simp [Push.deliveredWrteData, push_delivered_eq, h]

theorem dwd_of_delivered_clse {evs : List TEv} {c : Pkt} (h : delivered evs = [c]) (hc : c.cmd = Cmd.CLSE) :
    Push.deliveredWrteData evs = [] := by
  simp [Push.deliveredWrteData, push_delivered_eq, h, hc]

/-- `_clse`, every outcome: CLSE with the stream's ids is the one message handed to `_send`; no
    FileSync byte is handed over; on a normal return exactly the device's CLSE was delivered -/
theorem clse_any {t : Txn} {w w' : World} {r : Except Err Unit} (h : clse t w = (r, w'))
    (hl : lockTransport ∉ w.locks) :
    ∃ evs, w'.trace = evs ++ w.trace ∧ transmitted evs = [clseMsg t] ∧ Push.deliveredWrteData evs = [] ∧
      Push.progressCalls evs = [] ∧ (∀ u, r = .ok u → ∃ c, delivered evs = [c] ∧ c.cmd = Cmd.CLSE) := by
  have hpc : ∀ evs, w'.trace = evs ++ w.trace → Push.progressCalls evs = [] := fun _ =>
    noProg_of (Push.Tr_clse Push.QNoProg.house Push.QNoProg.deliv Push.QNoProg.txAll.okay (fun m _ => Push.QNoProg.txAll m) t) h
  have hp := clse_dlv h hl
  cases r with
  | ok u =>
    obtain ⟨c, hA, hc, -⟩ := hp
    obtain ⟨evs, hev, hd, ht, -, -⟩ := hA.dt
    refine ⟨evs, hev, ht, ?_, hpc evs hev, fun _ _ => ⟨c, hd, hc⟩⟩
    exact dwd_of_delivered_clse (c := c) (hd) hc
  | error e =>
    obtain ⟨evs, hev, hd, ht, -, -⟩ := (show Adds w w' [.tx (clseMsg t)] [] from hp).dt
    refine ⟨evs, hev, ht, ?_, hpc evs hev, fun u hu => by cases hu⟩
    exact dwd_of_delivered_nil (hd)

/-- the guards deliver nothing -/
theorem guards_dwd {gs : List String} {p : Option Bytes} {w w0 : World} {r : Except Err Unit} {e : List TEv}
    (h : runGuards gs p w = (r, w0)) (he : w0.trace = e ++ w.trace) : Push.deliveredWrteData e = [] := by
  obtain ⟨e', he', hq⟩ := (Tr_runGuards (Q := Push.QNoDeliv) gs p).step h
  obtain rfl : e = e' := Push.evs_unique (he' ▸ he)
  simp [Push.deliveredWrteData, Push.QNoDeliv.delivered hq]

/-- `_open` on an idle device hands over no FileSync byte: the one packet delivered is the OKAY -/
theorem openStream_dwd {dest : Bytes} {tt rt total : Timeout} {w w1 : World} {t : Txn} {e : List TEv}
    (h : openStream dest tt rt total w = (.ok t, w1)) (hl : w.locks = []) (he : w1.trace = e ++ w.trace) :
    Push.deliveredWrteData e = [] := by
  obtain ⟨p, hA, hc, -⟩ := openStream_dlv h hl
  obtain ⟨e', he', hd, -, -, -⟩ := hA.dt
  obtain rfl : e = e' := Push.evs_unique (he' ▸ he)
  have hd' : delivered e = [p] := hd
  simp [Push.deliveredWrteData, push_delivered_eq, hd', hc]

/-- the guards and `_open` (run in a world `v` with the trace and locks the guards left): the lock set is
    unchanged, the callback is not involved, and on an idle device no FileSync byte is handed over — the one
    packet delivered is the OKAY -/
theorem syncOpen_pre {gs : List String} {p : Option Bytes} {dest : Bytes} {tt rt total : Timeout} {w w0 v w1 : World} {t : Txn}
    (h0 : runGuards gs p w = (.ok (), w0)) (hv : v.trace = w0.trace ∧ v.locks = w0.locks)
    (h1 : openStream dest tt rt total v = (.ok t, w1)) :
    ∃ ePre, w1.trace = ePre ++ w.trace ∧ w1.locks = w.locks ∧ Push.progressCalls ePre = [] ∧
      (w.locks = [] → Push.deliveredWrteData ePre = []) := by
  obtain ⟨e0, he0, hp0⟩ := noProg_step (Tr_runGuards _ _) h0
  obtain ⟨e1, he1, hp1⟩ := noProg_step (Push.Tr_openStream Push.QNoProg.house Push.QNoProg.deliv (fun m _ => Push.QNoProg.txAll m) _ _ _ _) h1
  have hl0 : v.locks = w.locks := hv.2.trans (Fr.locks_of (Fr_runGuards _ _) h0)
  refine ⟨e1 ++ e0, by rw [he1, hv.1, he0, List.append_assoc], (Fr.locks_of (Fr_openStream _ _ _ _) h1).trans hl0,
    by rw [Push.progressCalls_append, hp0, hp1]; rfl, fun hw => ?_⟩
  rw [Push.deliveredWrteData_append, guards_dwd h0 he0, openStream_dwd h1 (hl0.trans hw) he1]
  rfl

theorem dwd_split {evs ePre eX eCl : List TEv} (h : evs = eCl ++ eX ++ ePre)
    (h1 : Push.deliveredWrteData eCl = []) (h2 : Push.deliveredWrteData ePre = []) :
    Push.deliveredWrteData evs = Push.deliveredWrteData eX := by
  rw [h, Push.deliveredWrteData_append, Push.deliveredWrteData_append, h1, h2]
  simp

/-- the events `evs` of a `sync:` call that ran to a normal return of its close, by phase: what came before the
    request (`ePre`: the guards and the OPEN/OKAY exchange that opened the stream `t`), the request and the
    transfer (`eX`), and `_clse` (`eCl`), which the device answered with its CLSE `c` -/
structure Phases (tt rt : Timeout) (evs : List TEv) (t : Txn) (w0 w1 : World) (ePre eX eCl : List TEv) (c : Pkt) :
    Prop where
  opened : openStream (ascii "sync:") tt rt none w0 = (.ok t, w1)
  split : evs = eCl ++ eX ++ ePre
  txCl : transmitted eCl = [clseMsg t]
  dlvCl : delivered eCl = [c]
  cmdCl : c.cmd = Cmd.CLSE
  dwdCl : Push.deliveredWrteData eCl = []
  progCl : Push.progressCalls eCl = []

section
variable {tt rt : Timeout} {evs ePre eX eCl : List TEv} {t : Txn} {w0 w1 : World} {c : Pkt}

/-- `_clse` returning normally in `w3`, after `ePre` (up to `wa`) and `eX` (up to `w3`), completes the phases -/
theorem Phases.of_clse {w wa w3 w' : World} (h1 : openStream (ascii "sync:") tt rt none w0 = (.ok t, w1))
    (hePre : wa.trace = ePre ++ w.trace) (heX : w3.trace = eX ++ wa.trace) (hl3 : lockTransport ∉ w3.locks)
    (h4 : clse t w3 = (.ok (), w')) (hev : w'.trace = evs ++ w.trace) :
    ∃ eCl c, Phases tt rt evs t w0 w1 ePre eX eCl c := by
  obtain ⟨eCl, heCl, htx, hdw, hpc, hcl⟩ := clse_any h4 hl3
  obtain ⟨c, hdc, hcc⟩ := hcl () rfl
  refine ⟨eCl, c, h1, ?_, htx, hdc, hcc, hdw, hpc⟩
  apply Push.evs_unique (t0 := w.trace)
  rw [← hev, heCl, heX, hePre]
  simp [List.append_assoc]

/-- the FileSync stream of the whole call is that of the transfer when nothing was handed over before it -/
theorem Phases.dwd (h : Phases tt rt evs t w0 w1 ePre eX eCl c) (hpre : Push.deliveredWrteData ePre = []) :
    Push.deliveredWrteData evs = Push.deliveredWrteData eX :=
  dwd_split h.split h.dwdCl hpre

/-- the CLSE of the stream is the last message sent, the device's CLSE the last packet delivered -/
theorem Phases.closes (h : Phases tt rt evs t w0 w1 ePre eX eCl c) :
    transmitted evs = transmitted (eX ++ ePre) ++ [clseMsg t] ∧ delivered evs = delivered (eX ++ ePre) ++ [c] := by
  rw [h.split, List.append_assoc, transmitted_append, delivered_append, h.txCl, h.dlvCl]
  exact ⟨rfl, rfl⟩

end

/-- a `stat` / `list` call that returned normally: guards and `_open` (`ePre`), the request and the transfer
    (`e3 ++ e2`, the transfer being any step `w2 → w3` that keeps the locks), `_clse` -/
theorem syncCall_frame {gs : List String} {devPath : Bytes} {tt rt : Timeout} {id : SyncId} {fmt : SyncFmt}
    {w w0 w1 w2 w3 w' : World} {t : Txn} {fi : FsInfo} {e3 evs : List TEv}
    (h0 : runGuards gs (some devPath) w = (.ok (), w0)) (h1 : openStream (ascii "sync:") tt rt none w0 = (.ok t, w1))
    (h2 : fsSend id t { fmt := fmt, maxdata := w1.maxdata } devPath none w1 = (.ok fi, w2))
    (he3 : w3.trace = e3 ++ w2.trace) (hl3 : w3.locks = w2.locks) (h4 : clse t w3 = (.ok (), w'))
    (hev : w'.trace = evs ++ w.trace) (hl : lockTransport ∉ w.locks) :
    ∃ (ePre e2 eCl : List TEv) (c : Pkt), Phases tt rt evs t w0 w1 ePre (e3 ++ e2) eCl c ∧ fi.fmt = fmt ∧
      fi.recvBuf ++ Push.deliveredWrteData e3 = Push.deliveredWrteData (e3 ++ e2) ∧
      (w.locks = [] → Push.deliveredWrteData ePre = []) := by
  obtain ⟨ePre, hePre, hl1, -, hpre⟩ := syncOpen_pre h0 ⟨rfl, rfl⟩ h1
  obtain ⟨e2, he2⟩ := Push.Fr.evs (Fr_fsSend _ _ _ _ _) h2
  have hl3' : lockTransport ∉ w3.locks := by
    rw [hl3, Fr.locks_of (Fr_fsSend _ _ _ _ _) h2, hl1]
    exact hl
  obtain ⟨eCl, c, hph⟩ := Phases.of_clse h1 hePre (by rw [he3, he2, List.append_assoc]) hl3' h4 hev
  refine ⟨ePre, e2, eCl, c, hph, (Push.fsSend_ok h2 he2).2.2.1, ?_, hpre⟩
  rw [fsSend_recv h2 he2, Push.deliveredWrteData_append]
  rfl

/-! ### `stat` -/

/-- a `STAT` record of the stat format has exactly three fields and no data -/
theorem stat_rec_shape {bs rest : Bytes} {r : SyncRec} (h : parse .stat bs = .record r rest) (hid : r.id = SyncId.STAT) :
    ∃ mode size mtime, r = ⟨.STAT, [mode, size, mtime], none⟩ := by
  obtain ⟨h1, -⟩ := parse_shape h
  obtain ⟨hl, hd⟩ := h1 hid
  obtain ⟨id, fields, data⟩ := r
  simp only at hl hd hid
  have h3 : fields.length = 3 := by rw [hl]; decide
  match fields, h3 with
  | [a, b, c], _ => exact ⟨a, b, c, by rw [hd, hid]⟩

/-- `stat`, normal return: the FileSync stream of the transfer starts with a STAT record, whose three words
    are the result; the callback is not involved; then the stream is closed. -/
theorem devStat_exact {devPath : Bytes} {tt rt : Timeout} {w w' : World} {v : Val} {evs : List TEv}
    (h : devStat devPath tt rt w = (.ok v, w')) (hev : w'.trace = evs ++ w.trace) (hl : lockTransport ∉ w.locks) :
    ∃ (t : Txn) (w0 w1 : World) (ePre eX eCl : List TEv) (c : Pkt) (mode size mtime : Nat) (rest : Bytes),
      Phases tt rt evs t w0 w1 ePre eX eCl c ∧
      parse .stat (Push.deliveredWrteData eX) = .record ⟨.STAT, [mode, size, mtime], none⟩ rest ∧
      v = .stat mode size mtime ∧ Push.progressCalls evs = [] ∧
      (w.locks = [] → Push.deliveredWrteData ePre = []) := by
  have hrun := h
  unfold devStat at h
  obtain ⟨u, w0, h0, h⟩ := bind_ok_inv h
  obtain ⟨t, w1, h1, h⟩ := bind_ok_inv h
  rw [Push.get_bind_run] at h
  obtain ⟨fi, w2, h2, h⟩ := bind_ok_inv h
  obtain ⟨⟨r, fi'⟩, w3, h3, h⟩ := bind_ok_inv h
  obtain ⟨u2, w4, h4, h⟩ := bind_ok_inv h
  cases h
  obtain ⟨e3, he3⟩ := Push.Fr.evs (Fr_fsRead _ _ _) h3
  obtain ⟨ePre, e2, eCl, c, hph, hfmt, hrb, hpre⟩ :=
    syncCall_frame h0 h1 h2 he3 (Fr.locks_of (Fr_fsRead _ _ _) h3) h4 hev hl
  obtain ⟨hp, hid, -⟩ := fsRead_ok_parse h3 he3
  rw [hfmt, hrb] at hp
  obtain ⟨mode, size, mtime, rfl⟩ := stat_rec_shape hp (by simpa using hid)
  exact ⟨t, w0, w1, ePre, e3 ++ e2, eCl, c, mode, size, mtime, _, hph, hp, rfl,
    noProg_of (Tr_devStat Push.QNoProg.house Push.QNoProg.deliv Push.QNoProg.txAll devPath tt rt) hrun hev, hpre⟩

/-! ### `list` -/

/-- `list`, normal return: the FileSync stream of the transfer is DENT records followed by one DONE
    record; the result has one entry per DENT record, in order, with the record's name bytes and
    its three header words; then the stream is closed. -/
theorem devList_exact {devPath : Bytes} {tt rt : Timeout} {w w' : World} {v : Val} {evs : List TEv}
    (h : devList devPath tt rt w = (.ok v, w')) (hev : w'.trace = evs ++ w.trace) (hl : lockTransport ∉ w.locks) :
    ∃ (t : Txn) (w0 w1 : World) (ePre eX eCl : List TEv) (c : Pkt) (dents : List SyncRec) (done : SyncRec) (rest : Bytes),
      Phases tt rt evs t w0 w1 ePre eX eCl c ∧
      Recs .list (Push.deliveredWrteData eX) (dents ++ [done]) rest ∧ done.id = SyncId.DONE ∧
      (∀ r ∈ dents, r.id = SyncId.DENT ∧ ∃ mode size mtime name, r = ⟨.DENT, [mode, size, mtime], some name⟩) ∧
      v = .listing (dents.map entryOf) ∧ (w.locks = [] → Push.deliveredWrteData ePre = []) := by
  unfold devList at h
  obtain ⟨u, w0, h0, h⟩ := bind_ok_inv h
  obtain ⟨t, w1, h1, h⟩ := bind_ok_inv h
  rw [Push.get_bind_run] at h
  obtain ⟨fi, w2, h2, h⟩ := bind_ok_inv h
  obtain ⟨files, w3, h3, h⟩ := bind_ok_inv h
  obtain ⟨u2, w4, h4, h⟩ := bind_ok_inv h
  cases h
  obtain ⟨e3, he3⟩ := Push.Fr.evs (Fr_listLoop _ _ _ _) h3
  obtain ⟨ePre, e2, eCl, c, hph, hfmt, hrb, hpre⟩ :=
    syncCall_frame h0 h1 h2 he3 (Fr.locks_of (Fr_listLoop _ _ _ _) h3) h4 hev hl
  obtain ⟨dents, done, rest, hrecs, hdone, hall, hfiles⟩ := listLoop_ok h3 he3 hfmt
  rw [hrb] at hrecs
  exact ⟨t, w0, w1, ePre, e3 ++ e2, eCl, c, dents, done, rest, hph, hrecs, hdone, hall, by rw [hfiles]; rfl, hpre⟩

/-! ### `pull` -/

/-- `pull`, every outcome: either the call failed before a stream was open (a guard or `_open`
    raised), or a stream `t` was opened, `_pull` ran with some outcome `r1` and then `_clse(t)` ran
    with some outcome `r2` — on every path.  If `_pull` raised, that exception is the result whatever
    the close did; if `_pull` returned normally, an exception of the close is the result -/
theorem devPull_inv {devPath : Bytes} {cb : CbMode} {tt rt : Timeout} {w w' : World} {res : Except Err Val}
    (h : devPull devPath cb tt rt w = (res, w')) :
    (∃ e, res = .error e ∧ runGuards (guardsFor "pull") (some devPath) w = (.error e, w')) ∨
    (∃ e w0, res = .error e ∧ runGuards (guardsFor "pull") (some devPath) w = (.ok (), w0) ∧
      openStream (ascii "sync:") tt rt none { w0 with sink := some [] } = (.error e, w')) ∨
    (∃ w0 t w1 r1 w2 r2,
      runGuards (guardsFor "pull") (some devPath) w = (.ok (), w0) ∧
      openStream (ascii "sync:") tt rt none { w0 with sink := some [] } = (.ok t, w1) ∧
      pullInner devPath cb t { fmt := .pull, maxdata := w1.maxdata } w1 = (r1, w2) ∧
      clse t w2 = (r2, w') ∧
      res = (match r1 with
        | .error e => .error e
        | .ok _ => (match r2 with | .ok _ => .ok Val.none | .error e' => .error e'))) := by
  unfold devPull at h
  rcases bind_any_inv h with ⟨e, h0, rfl⟩ | ⟨u, w0, h0, h⟩
  · exact Or.inl ⟨e, rfl, h0⟩
  rw [bind_run_ok (M.modify_run _ _)] at h
  rcases bind_any_inv h with ⟨e, h1, rfl⟩ | ⟨t, w1, h1, h⟩
  · exact Or.inr (Or.inl ⟨e, w0, rfl, h0, h1⟩)
  rw [Push.get_bind_run, bind_run] at h
  cases h2 : M.tryFinally (pullInner devPath cb t { fmt := .pull, maxdata := w1.maxdata }) (clse t) w1 with
  | mk r w3 =>
    rw [h2] at h
    obtain ⟨r1, w2, r2, hx, hf, rfl⟩ := tryFinally_inv h2
    refine Or.inr (Or.inr ⟨w0, t, w1, r1, w2, r2, h0, h1, hx, ?_⟩)
    cases r1 <;> cases r2 <;> cases h <;> exact ⟨hf, rfl⟩

/-- the events of a `pull` that got past `_open`, whatever `_pull` and `_clse` did afterwards: what came before
    the transfer (`ePre`), `_pull` (`eIn`) and `_clse` (`eCl`) -/
theorem devPull_events {devPath : Bytes} {cb : CbMode} {tt rt : Timeout} {w w0 w1 w2 w' : World} {t : Txn}
    {r1 r2 : Except Err Unit} {evs : List TEv}
    (h0 : runGuards (guardsFor "pull") (some devPath) w = (.ok (), w0))
    (h1 : openStream (ascii "sync:") tt rt none { w0 with sink := some [] } = (.ok t, w1))
    (hin : pullInner devPath cb t { fmt := .pull, maxdata := w1.maxdata } w1 = (r1, w2))
    (hcl : clse t w2 = (r2, w')) (hev : w'.trace = evs ++ w.trace) (hl : lockTransport ∉ w.locks) :
    ∃ ePre eIn eCl, evs = eCl ++ eIn ++ ePre ∧ w2.trace = eIn ++ w1.trace ∧ transmitted eCl = [clseMsg t] ∧
      Push.deliveredWrteData eCl = [] ∧ (w.locks = [] → Push.deliveredWrteData ePre = []) ∧
      ∀ u, r2 = .ok u → ∃ c, delivered eCl = [c] ∧ c.cmd = Cmd.CLSE := by
  obtain ⟨ePre, hePre, hl1, -, hpre⟩ := syncOpen_pre h0 (v := { w0 with sink := some [] }) ⟨rfl, rfl⟩ h1
  obtain ⟨eIn, heIn⟩ := Push.Fr.evs (Fr_pullInner _ _ _ _) hin
  have hl2 : lockTransport ∉ w2.locks := by
    rw [Fr.locks_of (Fr_pullInner _ _ _ _) hin, hl1]
    exact hl
  obtain ⟨eCl, heCl, htx, hdw, -, hclse⟩ := clse_any hcl hl2
  refine ⟨ePre, eIn, eCl, ?_, heIn, htx, hdw, hpre, hclse⟩
  apply Push.evs_unique (t0 := w.trace)
  rw [← hev, heCl, heIn, hePre]
  simp [List.append_assoc]

/-- the `total_bytes` that `_pull` takes from a `stat` result -/
def statSize : Val → Nat
  | .stat _ size _ => size
  | _ => 0

theorem pullInner_ok {devPath : Bytes} {cb : CbMode} {t : Txn} {fi : FsInfo} {w w' : World}
    (h : pullInner devPath cb t fi w = (.ok (), w')) :
    ∃ total wa fi1 wb,
      ((cb = CbMode.none ∧ wa = w ∧ total = 0) ∨
       (cb ≠ CbMode.none ∧ ∃ v, devStat devPath t.tt t.rt w = (.ok v, wa) ∧ total = statSize v)) ∧
      fsSend .RECV t fi devPath none wa = (.ok fi1, wb) ∧
      pullLoop devPath cb total t wb.fuel fi1 wb = (.ok (), w') := by
  unfold pullInner at h
  by_cases hcb : cb = CbMode.none
  · rw [if_neg (fun hne : cb ≠ CbMode.none => hne hcb)] at h
    obtain ⟨fi1, wb, hb, h⟩ := bind_ok_inv (bind_run_ok (pure_run 0 w) ▸ h)
    exact ⟨0, w, fi1, wb, Or.inl ⟨hcb, rfl, rfl⟩, hb, h⟩
  · rw [if_pos hcb] at h
    obtain ⟨v, wa, hv, h⟩ := bind_ok_inv h
    obtain ⟨fi1, wb, hb, h⟩ : ∃ fi1 wb, fsSend .RECV t fi devPath none wa = (.ok fi1, wb) ∧
        pullLoop devPath cb (statSize v) t wb.fuel fi1 wb = (.ok (), w') := by
      cases v <;> exact bind_ok_inv h
    exact ⟨_, wa, fi1, wb, Or.inr ⟨hcb, v, hv, rfl⟩, hb, h⟩

/-- `pull`, normal return.  What comes before the RECV request (`ePre`) is the guards, OPEN/OKAY and — with a
    callback — the whole `stat` call on its own stream.  The FileSync stream of the transfer is DATA records
    followed by one DONE record; the destination holds exactly the DATA payloads, in order; the callback was
    called once per DATA record with its length; then the stream is closed. -/
theorem devPull_exact {devPath : Bytes} {cb : CbMode} {tt rt : Timeout} {w w' : World} {v : Val} {evs : List TEv}
    (h : devPull devPath cb tt rt w = (.ok v, w')) (hev : w'.trace = evs ++ w.trace) (hl : lockTransport ∉ w.locks) :
    ∃ (t : Txn) (w0 w1 : World) (ePre eX eCl : List TEv) (c : Pkt) (datas : List Bytes) (done : SyncRec) (rest : Bytes)
      (total : Nat),
      Phases tt rt evs t w0 w1 ePre eX eCl c ∧
      Recs .pull (Push.deliveredWrteData eX) (datas.map dataRec ++ [done]) rest ∧ done.id = SyncId.DONE ∧
      w'.sink = some datas.flatten ∧
      Push.progressCalls evs = (if cb = CbMode.none then [] else datas.map fun d => (devPath, d.length, total)) ∧
      v = Val.none ∧ (cb = CbMode.none → w.locks = [] → Push.deliveredWrteData ePre = []) := by
  rcases devPull_inv h with ⟨e, he, -⟩ | ⟨e, w0, he, -⟩ | ⟨w0, t, w1, r1, w2, r2, h0, h1, hin, hcl, hres⟩
  · cases he
  · cases he
  · cases r1 with
    | error e => cases hres
    | ok u1 =>
      cases r2 with
      | error e => cases hres
      | ok u2 =>
        simp only [Except.ok.injEq] at hres
        obtain ⟨total, wa, fi1, wb, hst, hsend, hloop⟩ := pullInner_ok hin
        obtain ⟨ePre, hePre, hl1, hp1, hpre1⟩ := syncOpen_pre h0 (v := { w0 with sink := some [] }) ⟨rfl, rfl⟩ h1
        have hs1 : w1.sink = some [] := (Sk_openStream _ _ _ _).of_run h1
        -- the optional stat call
        obtain ⟨eS, heS, hpS, hsa, hla, hnoS⟩ : ∃ eS, wa.trace = eS ++ w1.trace ∧ Push.progressCalls eS = [] ∧
            wa.sink = some [] ∧ wa.locks = w.locks ∧ (cb = CbMode.none → eS = []) := by
          rcases hst with ⟨-, rfl, -⟩ | ⟨hcb, vs, hvs, -⟩
          · exact ⟨[], rfl, rfl, hs1, hl1, fun _ => rfl⟩
          · obtain ⟨eS, heS, hpS⟩ := noProg_step (Tr_devStat Push.QNoProg.house Push.QNoProg.deliv Push.QNoProg.txAll _ _ _) hvs
            exact ⟨eS, heS, hpS, ((Sk_devStat _ _ _).of_run hvs).trans hs1, (Fr.locks_of (Fr_devStat _ _ _) hvs).trans hl1,
              fun h => absurd h hcb⟩
        obtain ⟨e2, he2⟩ := Push.Fr.evs (Fr_fsSend _ _ _ _ _) hsend
        obtain ⟨e3, he3⟩ := Push.Fr.evs (Fr_pullLoop _ _ _ _ _ _) hloop
        have hsb : wb.sink = some [] := ((Sk_fsSend _ _ _ _ _).of_run hsend).trans hsa
        have hl2 : lockTransport ∉ w2.locks := by
          rw [Fr.locks_of (Fr_pullLoop _ _ _ _ _ _) hloop, Fr.locks_of (Fr_fsSend _ _ _ _ _) hsend, hla]
          exact hl
        obtain ⟨eCl, c, hph⟩ := Phases.of_clse h1 (ePre := eS ++ ePre) (by rw [heS, hePre, List.append_assoc])
          (eX := e3 ++ e2) (by rw [he3, he2, List.append_assoc]) hl2 hcl hev
        obtain ⟨-, hp2, hfmt, -, -⟩ := Push.fsSend_ok hsend he2
        obtain ⟨datas, done, rest, hrecs, hdone, hsink, hprog⟩ := pullLoop_ok hloop he3 hfmt
        rw [fsSend_recv hsend he2, List.nil_append, ← Push.deliveredWrteData_append] at hrecs
        refine ⟨t, _, w1, eS ++ ePre, e3 ++ e2, eCl, c, datas, done, rest, total, hph, hrecs, hdone, ?_, ?_, hres, ?_⟩
        · rw [(Sk_clse t).of_run hcl, hsink [] hsb]; rfl
        · rw [hph.split]
          simp only [Push.progressCalls_append, hp1, hpS, hp2, hph.progCl, hprog, List.nil_append, List.append_nil]
        · intro hcb hw
          rw [hnoS hcb]
          exact hpre1 hw

theorem locks_nil_transport {w : World} (h : w.locks = []) : lockTransport ∉ w.locks := by simp [h]

/-! ### exceptions that pre-empt the parser although a complete record was delivered -/

/-- an exception of `_read_until`: either nothing was delivered, or a WRTE was delivered and the
    exception is that of sending its acknowledgement (`_okay`) -/
theorem readUntil_error_inv {ex : List Cmd} {t : Txn} {w w' : World} {e : Err}
    (h : readUntil ex t w = (.error e, w')) :
    (∃ evs, w'.trace = evs ++ w.trace ∧ delivered evs = []) ∨
    (∃ p w2, ioRead ex t true w = (.ok p, w2) ∧ p.cmd = Cmd.WRTE ∧ okay t w2 = (.error e, w')) := by
  unfold readUntil at h
  rcases bind_err_inv h with he | ⟨p, w2, hr, hrest⟩
  · left
    obtain ⟨evs, hev, hd, -⟩ := (show Adds w w' [] [] from ioRead_dlv he).dt
    exact ⟨evs, hev, hd⟩
  · right
    dsimp only at hrest
    by_cases hc : p.cmd = Cmd.WRTE
    · simp only [hc, if_true] at hrest
      rcases bind_err_inv hrest with he | ⟨u, w3, -, hp⟩
      · exact ⟨p, w2, hr, hc, he⟩
      · simp at hp
    · simp only [hc, if_false] at hrest
      simp at hrest

/-- the ways an exception `e` can pre-empt the FileSync parser although the bytes of a complete record
    were delivered: the model's loop budget ran out (after at least `w.fuel` delivered packets);
    `_filesync_flush` of the buffered request raised (while sending it or while waiting for its OKAY);
    or a WRTE packet was delivered and SENDING its
    acknowledgement failed with `e` (`_read_until` calls `_okay` before it returns the data) -/
def SendFailed (t : Txn) (fi : FsInfo) (w : World) (evs : List TEv) (e : Err) (w' : World) : Prop :=
  (e = .hang ∧ w.fuel ≤ (Push.delivered evs).length) ∨
  (fi.sendBuf ≠ [] ∧ fsFlush t fi w = (.error e, w')) ∨
  (∃ p w1 w2, p.cmd = Cmd.WRTE ∧ ioRead [.WRTE] t true w1 = (.ok p, w2) ∧ okay t w2 = (.error e, w'))

theorem Aborted.refine {t : Txn} {fi : FsInfo} {w w' : World} {evs : List TEv} {e : Err}
    (h : Aborted t fi w evs e w') (hev : w'.trace = evs ++ w.trace)
    (hfull : parse fi.fmt (fi.recvBuf ++ Push.deliveredWrteData evs) ≠ .more) : SendFailed t fi w evs e w' := by
  rcases h with h | h | ⟨e0, el, w1, rfl, hw1, hmore, hr⟩
  · exact Or.inl h
  · exact Or.inr (Or.inl h)
  · right; right
    rcases readUntil_error_inv hr with ⟨el', hel', hd⟩ | ⟨p, w2, hio, hc, hok⟩
    · exfalso
      have : el = el' := by
        apply Push.evs_unique (t0 := w1.trace)
        rw [← hel', hev, hw1, List.append_assoc]
      subst this
      apply hfull
      rw [Push.deliveredWrteData_append, dwd_of_delivered_nil hd, List.append_nil]
      exact hmore
    · exact ⟨p, w1, w2, hc, hio, hok⟩

/-! ### `pull` when the device reports a failure -/

theorem pullInner_none_any {devPath : Bytes} {t : Txn} {fi : FsInfo} {w w' : World} {res : Except Err Unit}
    (h : pullInner devPath .none t fi w = (res, w')) :
    (∃ e, res = .error e ∧ fsSend .RECV t fi devPath none w = (.error e, w')) ∨
    (∃ fi1 wb, fsSend .RECV t fi devPath none w = (.ok fi1, wb) ∧
      pullLoop devPath .none 0 t wb.fuel fi1 wb = (res, w')) := by
  unfold pullInner at h
  simp only [ne_eq, not_true_eq_false, if_false] at h
  rw [bind_run_ok (pure_run _ _)] at h
  rcases bind_any_inv h with ⟨e, hs, rfl⟩ | ⟨fi1, wb, hs, h⟩
  · exact Or.inl ⟨e, rfl, hs⟩
  · exact Or.inr ⟨fi1, wb, hs, h⟩

/-- what else can end a `pull` whose device stream carries a FAIL record: an exception before the
    transfer (guard, `_open`, sending the RECV request) or an exception below the parser during the
    transfer (loop budget, or the acknowledgement of a delivered WRTE could not be sent).  An
    exception of `_clse` is NOT among them: it can no longer replace the transfer's exception. -/
def PullPreempted (devPath : Bytes) (tt rt : Timeout) (w : World) (e : Err) (w' : World) : Prop :=
  runGuards (guardsFor "pull") (some devPath) w = (.error e, w') ∨
  (∃ w0, openStream (ascii "sync:") tt rt none w0 = (.error e, w')) ∨
  (∃ t fi wa w2, fsSend .RECV t fi devPath none wa = (.error e, w2)) ∨
  (∃ t w2, LoopAborted t e w2)

end Adb.SR
