import AdbProofs.Lemmas.Frame
/- `Fr` for the functions of the sequential model that other proofs cite: the instances of PresOps.lean at `Frame`
   (any other one is `Pres_f Frame.wrel …`). -/
namespace Adb

theorem Fr_readBytes (n : Nat) (t : Txn) : Fr (readBytes n t) :=
  Pres_readBytes Frame.wrel n t
theorem Fr_writeAll (d : Bytes) (t : Txn) : Fr (writeAll d t) :=
  Pres_writeAll Frame.wrel d t
theorem Fr_sendRaw (m : Msg) (t : Txn) : Fr (sendRaw m t) :=
  Pres_sendRaw Frame.wrel (Frame.admits _) t
theorem Fr_ioSend (m : Msg) (t : Txn) : Fr (ioSend m t) :=
  Pres_ioSend Frame.wrel (Frame.admits _) t
theorem Fr_expectPacket (ex : List Cmd) (t : Txn) : Fr (expectPacket ex t) :=
  Pres_expectPacket Frame.wrel (fun _ _ => Frame.admits _) t
theorem Fr_drainLoop (ex : List Cmd) (t : Txn) (az : Bool) : ∀ fuel , Fr (drainLoop ex t az fuel ) :=
  Pres_drainLoop Frame.wrel (fun _ _ => Frame.admits _) t az
theorem Fr_readIter (ex : List Cmd) (t : Txn) (az : Bool) : Fr (readIter ex t az) :=
  Pres_readIter Frame.wrel (fun _ _ => Frame.admits _) t az
theorem Fr_ioRead (ex : List Cmd) (t : Txn) (az : Bool) : Fr (ioRead ex t az) :=
  Pres_ioRead Frame.wrel (fun _ _ => Frame.admits _) t az
theorem Fr_ioClose : Fr (ioClose) :=
  Pres_ioClose Frame.wrel
theorem Fr_ioConnect (b : Bytes) (keys : List Nat) (authT : Timeout) (cb : Bool) (t : Txn) : Fr (ioConnect b keys authT cb t) :=
  Pres_ioConnect Frame.wrel (fun _ _ => Frame.admits _) (fun _ _ => Frame.admits _) (Frame.admits _) b keys authT cb t
theorem Fr_openStream (dest : Bytes) (tt rt total : Timeout) : Fr (openStream dest tt rt total) :=
  Pres_openStream Frame.wrel Frame.admits Frame.alloc dest tt rt total
theorem Fr_readUntil (ex : List Cmd) (t : Txn) : Fr (readUntil ex t) :=
  Pres_readUntil Frame.wrel Frame.admits ex t
theorem Fr_clse (t : Txn) : Fr (clse t) :=
  Pres_clse Frame.wrel Frame.admits t
theorem Fr_readUntilClose (t : Txn) : Fr (readUntilClose t) :=
  Pres_readUntilClose Frame.wrel Frame.admits t
theorem Fr_streamingCommand (svc cmd : Bytes) (tt rt total : Timeout) : Fr (streamingCommand svc cmd tt rt total) :=
  Pres_streamingCommand Frame.wrel Frame.admits Frame.alloc svc cmd tt rt total
theorem Fr_fsFlush (t : Txn) (fi : FsInfo) : Fr (fsFlush t fi) :=
  Pres_fsFlush Frame.wrel Frame.admits t fi
theorem Fr_fsSend (id : SyncId) (t : Txn) (fi : FsInfo) (data : Bytes) (size : Option Nat) : Fr (fsSend id t fi data size) :=
  Pres_fsSend Frame.wrel Frame.admits id t fi data size
theorem Fr_fsReadBuffered (size : Nat) (t : Txn) (fi : FsInfo) : Fr (fsReadBuffered size t fi) :=
  Pres_fsReadBuffered Frame.wrel Frame.admits size t fi
theorem Fr_fsRead (ex : List SyncId) (t : Txn) (fi : FsInfo) : Fr (fsRead ex t fi) :=
  Pres_fsRead Frame.wrel Frame.admits ex t fi
theorem Fr_lookupFile (id : Nat) : Fr (lookupFile id) :=
  Pres_lookupFile Frame.wrel id
theorem Fr_callProgress (cb : CbMode) (path : Bytes) (n total : Nat) : Fr (callProgress cb path n total) :=
  Pres_callProgress Frame.wrel cb path n total
theorem Fr_pushDataLoop (devPath : Bytes) (cb : CbMode) (total chunk : Nat) (t : Txn) : ∀ fuel content fi, Fr (pushDataLoop devPath cb total chunk t fuel content fi) :=
  Pres_pushDataLoop Frame.wrel Frame.admits devPath cb total chunk t
theorem Fr_pushStatus (t : Txn) (fi : FsInfo) : Fr (pushStatus t fi) :=
  Pres_pushStatus Frame.wrel Frame.admits t fi
theorem Fr_pushOne (content devPath : Bytes) (mode mtime : Nat) (cb : CbMode) (t : Txn) (fi : FsInfo) : Fr (pushOne content devPath mode mtime cb t fi) :=
  Pres_pushOne Frame.wrel Frame.admits content devPath mode mtime cb t fi
theorem Fr_runGuards : ∀ gs p, Fr (runGuards gs p) :=
  Pres_runGuards Frame.wrel
theorem Fr_devShellLike (op : String) (svc cmd : Bytes) (tt rt total : Timeout) (dec : Bool) : Fr (devShellLike op svc cmd tt rt total dec) :=
  Pres_devShellLike Frame.wrel Frame.admits Frame.alloc op svc cmd tt rt total dec
theorem Fr_devRoot (tt rt total : Timeout) : Fr (devRoot tt rt total) :=
  Pres_devRoot Frame.wrel Frame.admits Frame.alloc tt rt total
theorem Fr_devReboot (fb : Bool) (tt rt total : Timeout) : Fr (devReboot fb tt rt total) :=
  Pres_devReboot Frame.wrel Frame.admits Frame.alloc fb tt rt total
theorem Fr_devStreamingShell (cmd : Bytes) (tt rt : Timeout) (dec : Bool) : Fr (devStreamingShell cmd tt rt dec) :=
  Pres_devStreamingShell Frame.wrel Frame.admits Frame.alloc cmd tt rt dec
theorem Fr_listLoop (t : Txn) : ∀ fuel fi acc, Fr (listLoop t fuel fi acc) :=
  Pres_listLoop Frame.wrel Frame.admits t
theorem Fr_devList (p : Bytes) (tt rt : Timeout) : Fr (devList p tt rt) :=
  Pres_devList Frame.wrel Frame.admits Frame.alloc p tt rt
theorem Fr_devStat (p : Bytes) (tt rt : Timeout) : Fr (devStat p tt rt) :=
  Pres_devStat Frame.wrel Frame.admits Frame.alloc p tt rt
theorem Fr_pullLoop (devPath : Bytes) (cb : CbMode) (total : Nat) (t : Txn) : ∀ fuel fi, Fr (pullLoop devPath cb total t fuel fi) :=
  Pres_pullLoop Frame.wrel Frame.admits Frame.sink devPath cb total t
theorem Fr_pullInner (devPath : Bytes) (cb : CbMode) (t : Txn) (fi : FsInfo) : Fr (pullInner devPath cb t fi) :=
  Pres_pullInner Frame.wrel Frame.admits Frame.alloc Frame.sink devPath cb t fi
theorem Fr_devPull (devPath : Bytes) (cb : CbMode) (tt rt : Timeout) : Fr (devPull devPath cb tt rt) :=
  Pres_devPull Frame.wrel Frame.admits Frame.alloc Frame.sink devPath cb tt rt
theorem Fr_pushFile (fid : Nat) (devPath : Bytes) (mode mtime : Nat) (cb : CbMode) (tt rt : Timeout) : Fr (pushFile fid devPath mode mtime cb tt rt) :=
  Pres_pushFile Frame.wrel Frame.admits Frame.alloc fid devPath mode mtime cb tt rt
theorem Fr_pushFiles (devPath : Bytes) (mode mtime : Nat) (cb : CbMode) (tt rt : Timeout) : ∀ es, Fr (pushFiles devPath mode mtime cb tt rt es) :=
  Pres_pushFiles Frame.wrel Frame.admits Frame.alloc devPath mode mtime cb tt rt
theorem Fr_devPush (src : LocalRef) (devPath : Bytes) (mode mtime : Nat) (cb : CbMode) (tt rt : Timeout) : Fr (devPush src devPath mode mtime cb tt rt) :=
  Pres_devPush Frame.wrel Frame.admits Frame.alloc src devPath mode mtime cb tt rt


end Adb
