import AdbModel
import AdbModel.Py
import AdbProofs.Lemmas.PySimpAttr
/-
  Encodings of model values as `Py.Val` (what the corresponding Python object looks like), used to state the
  refinement theorems between the GENERATED translation of the source (`Adb.Src.*`) and the hand-written model,
  and the simp set `pysimp`: how each `Py` operation evaluates on values of known shape, so that
  `simp only [Src.f, pysimp, <facts about the arguments>]` runs a translated function as far as its tests are decided.
-/
namespace Adb
open Py

def encTimeout : Timeout → Py.Val
  | none => .none
  | some t => .int t

def encOptNat : Option Nat → Py.Val
  | none => .none
  | some n => .int n

/-- a `_AdbTransactionInfo` instance as `__init__` leaves it (attribute order = assignment order) -/
def encTxn (cls : String) (t : Txn) : Py.Val :=
  .obj cls [("local_id", encOptNat t.localId), ("remote_id", encOptNat t.remoteId), ("timeout_s", encTimeout t.total),
            ("read_timeout_s", encTimeout t.rt), ("transport_timeout_s", encTimeout t.tt)]

end Adb

namespace Adb
open Py

/-- `min(a, b)` of two numbers is the model's `min` -/
@[simp, pysimp] theorem Py.min2_int (x y : Int) : Py.min2 (.int x) (.int y) = .ok (.int (min x y)) := by
  simp only [Py.min2, Py.asInt, bind, Except.bind, pure, Except.pure]
  by_cases h : y < x
  · have : min x y = y := by omega
    simp [h, this]
  · have : min x y = x := by omega
    simp [h, this]

@[simp, pysimp] theorem Py.min2_none_left (v : Py.Val) : Py.min2 .none v = .error .typeError := by
  simp [Py.min2, Py.asInt, bind, Except.bind, throw, throwThe, MonadExceptOf.throw]

@[simp, pysimp] theorem Py.min2_int_none (x : Int) : Py.min2 (.int x) .none = .error .typeError := by
  simp [Py.min2, Py.asInt, bind, Except.bind, throw, throwThe, MonadExceptOf.throw, pure, Except.pure]

end Adb

namespace Adb
open Py

@[simp, pysimp] theorem Py.alookupS_asetS_same (k : String) (v : Py.Val) (fs : List (String × Py.Val)) :
    Py.alookupS k (Py.asetS k v fs) = some v := by
  induction fs with
  | nil => simp [Py.asetS, Py.alookupS]
  | cons kv rest ih =>
    obtain ⟨k', v'⟩ := kv
    by_cases h : k' = k
    · simp [Py.asetS, Py.alookupS, h]
    · simp [Py.asetS, Py.alookupS, h, ih]

theorem Py.alookupS_asetS_other (k k' : String) (v : Py.Val) (fs : List (String × Py.Val)) (hne : k' ≠ k) :
    Py.alookupS k' (Py.asetS k v fs) = Py.alookupS k' fs := by
  induction fs with
  | nil => simp [Py.asetS, Py.alookupS]; intro h; exact absurd h.symm hne
  | cons kv rest ih =>
    obtain ⟨k2, v2⟩ := kv
    by_cases h : k2 = k
    · subst h
      have : ¬ k2 = k' := fun h => hne h.symm
      simp [Py.asetS, Py.alookupS, this]
    · by_cases h2 : k2 = k'
      · subst h2
        simp [Py.asetS, Py.alookupS, hne]
      · simp [Py.asetS, Py.alookupS, h, h2, ih]

/-- `getAttr` of an object is the lookup in its attribute list -/
theorem Py.getAttr_obj (cls : String) (fs : List (String × Py.Val)) (k : String) (v : Py.Val) (h : Py.alookupS k fs = some v) :
    Py.getAttr (.obj cls fs) k = .ok v := by
  simp [Py.getAttr, h, pure, Except.pure]

/-- Python's `n // 2` on a non-negative int is natural-number division -/
theorem Py.fdiv_two (n : Nat) : Int.fdiv (n : Int) 2 = ((n / 2 : Nat) : Int) := by
  rw [Int.fdiv_eq_ediv_of_nonneg _ (by omega)]
  omega

end Adb

namespace Adb
open Py

/-! scalar operations on the value kinds the ids take (ints and `None`) -/
@[simp, pysimp] theorem Py.eqV_int_int (a b : Int) : Py.eqV (.int a) (.int b) = .ok (.bool (a == b)) := by
  simp [Py.eqV, Py.eq, bind, Except.bind, pure, Except.pure]
@[simp, pysimp] theorem Py.eqV_int_none (a : Int) : Py.eqV (.int a) .none = .ok (.bool false) := by
  simp [Py.eqV, Py.eq, bind, Except.bind, pure, Except.pure]
@[simp, pysimp] theorem Py.isV_none_none : Py.isV .none .none = .ok (.bool true) := by simp [Py.isV, pure, Except.pure]
@[simp, pysimp] theorem Py.isV_int_none (a : Int) : Py.isV (.int a) .none = .ok (.bool false) := by simp [Py.isV, pure, Except.pure]
@[simp, pysimp] theorem Py.inV_int_pair (a b : Int) : Py.inV (.int a) (.tuple [.int 0, .int b]) = .ok (.bool (a == 0 || a == b)) := by
  by_cases h0 : a = 0 <;> by_cases hb : a = b <;> simp [Py.inV, Py.contains, Py.anyEq, Py.eq, bind, Except.bind, pure, Except.pure, h0, hb]
@[simp, pysimp] theorem Py.inV_int_pair_none (a : Int) : Py.inV (.int a) (.tuple [.int 0, .none]) = .ok (.bool (a == 0)) := by
  by_cases h0 : a = 0 <;> simp [Py.inV, Py.contains, Py.anyEq, Py.eq, bind, Except.bind, pure, Except.pure, h0]
@[simp, pysimp] theorem Py.andV_bool (b : Bool) (x : Py.M Py.Val) : Py.andV (.bool b) x = if b then x else .ok (.bool false) := by
  cases b <;> simp [Py.andV, Py.truthy, bind, Except.bind, pure, Except.pure]
@[simp, pysimp] theorem Py.orV_bool (b : Bool) (x : Py.M Py.Val) : Py.orV (.bool b) x = if b then .ok (.bool true) else x := by
  cases b <;> simp [Py.orV, Py.truthy, bind, Except.bind, pure, Except.pure]
@[simp, pysimp] theorem Py.not_bool (b : Bool) : Py.not_ (.bool b) = .ok (.bool (!b)) := by
  simp [Py.not_, Py.truthy, bind, Except.bind, pure, Except.pure]
@[simp, pysimp] theorem Py.truthy_bool (b : Bool) : Py.truthy (.bool b) = .ok b := by simp [Py.truthy, pure, Except.pure]

end Adb

namespace Adb
open Py

/-! More evaluation rules (all tagged `pysimp`): with `simp [Src.f, pysimp]` a generated definition applied to values of known shape
    evaluates to a closed term, whatever the statement order / temporaries / if-style of the current source. -/
@[pysimp] theorem Py.neV_int_int (a b : Int) : Py.neV (.int a) (.int b) = .ok (.bool (!(a == b))) := by
  simp [Py.neV, Py.eq, bind, Except.bind, pure, Except.pure]
@[pysimp] theorem Py.neV_int_none (a : Int) : Py.neV (.int a) .none = .ok (.bool true) := by
  simp [Py.neV, Py.eq, bind, Except.bind, pure, Except.pure]
@[pysimp] theorem Py.isNotV_none_none : Py.isNotV .none .none = .ok (.bool false) := by simp [Py.isNotV, Py.isV, bind, Except.bind, pure, Except.pure]
@[pysimp] theorem Py.isNotV_int_none (a : Int) : Py.isNotV (.int a) .none = .ok (.bool true) := by simp [Py.isNotV, Py.isV, bind, Except.bind, pure, Except.pure]
@[pysimp] theorem Py.ltV_int (a b : Int) : Py.ltV (.int a) (.int b) = .ok (.bool (decide (a < b))) := by simp [Py.ltV, Py.asInt, bind, Except.bind, pure, Except.pure]
@[pysimp] theorem Py.leV_int (a b : Int) : Py.leV (.int a) (.int b) = .ok (.bool (decide (a ≤ b))) := by simp [Py.leV, Py.asInt, bind, Except.bind, pure, Except.pure]
@[pysimp] theorem Py.gtV_int (a b : Int) : Py.gtV (.int a) (.int b) = .ok (.bool (decide (b < a))) := by simp [Py.gtV, Py.asInt, bind, Except.bind, pure, Except.pure]
@[pysimp] theorem Py.geV_int (a b : Int) : Py.geV (.int a) (.int b) = .ok (.bool (decide (b ≤ a))) := by simp [Py.geV, Py.asInt, bind, Except.bind, pure, Except.pure]
@[pysimp] theorem Py.add_int (a b : Int) : Py.add (.int a) (.int b) = .ok (.int (a + b)) := by simp [Py.add, Py.asInt, bind, Except.bind, pure, Except.pure]
@[pysimp] theorem Py.sub_int (a b : Int) : Py.sub (.int a) (.int b) = .ok (.int (a - b)) := by simp [Py.sub, Py.asInt, bind, Except.bind, pure, Except.pure]
@[pysimp] theorem Py.truthy_none : Py.truthy .none = .ok false := by simp [Py.truthy, pure, Except.pure]
@[pysimp] theorem Py.truthy_int (a : Int) : Py.truthy (.int a) = .ok (a != 0) := by simp [Py.truthy, pure, Except.pure]
@[pysimp] theorem Py.floordiv_nat_two (n : Nat) : Py.floordiv (.int n) (.int 2) = .ok (.int ((n / 2 : Nat) : Int)) := by
  simp [Py.floordiv, Py.asInt, bind, Except.bind, pure, Except.pure, Py.fdiv_two]
@[pysimp] theorem Py.getAttr_obj_eq (cls : String) (fs : List (String × Py.Val)) (k : String) :
    Py.getAttr (.obj cls fs) k = (match Py.alookupS k fs with | some v => .ok v | none => .error .attributeError) := by
  simp only [Py.getAttr]; split <;> simp_all [pure, Except.pure, throw, throwThe, MonadExceptOf.throw]
@[pysimp] theorem Py.setPath_attr (cls : String) (fs : List (String × Py.Val)) (k : String) (v : Py.Val) :
    Py.setPath (.obj cls fs) [Py.Acc.attr k] v = .ok (.obj cls (Py.asetS k v fs)) := by
  simp [Py.setPath, Py.setAcc, Py.setAttr, pure, Except.pure]
attribute [pysimp_proc ↓] reduceIte
attribute [pysimp_proc] String.reduceEq
attribute [pysimp] Bool.not_true Bool.not_false Bool.false_eq_true decide_true decide_false
/- The monad laws of `Py.M` are deliberately NOT `rfl`-lemmas (`id rfl`): `simp` then records an explicit rewrite step instead of a definitional one, so the
   kernel never has to re-check a `bind` reduction by evaluating the (large) generated body — which otherwise runs into string comparisons and `Int`
   comparisons against `4294967296`. -/
@[pysimp] theorem Py.bind_ok' {α β : Type} (a : α) (f : α → Py.M β) : (Except.ok a >>= f) = f a := id rfl
@[pysimp] theorem Py.bind_err' {α β : Type} (e : Py.Err) (f : α → Py.M β) : ((Except.error e : Py.M α) >>= f) = .error e := id rfl
/-- not tagged `pysimp`: it copies the continuation -/
theorem Py.ite_bind' {α β : Type} (c : Prop) [Decidable c] (x y : Py.M α) (f : α → Py.M β) :
    ((if c then x else y) >>= f) = if c then x >>= f else y >>= f := by split <;> rfl
@[pysimp] theorem Py.pure_ok' {α : Type} (a : α) : (pure a : Py.M α) = .ok a := id rfl
@[pysimp] theorem Py.throw_err' {α : Type} (e : Py.Err) : (throw e : Py.M α) = .error e := id rfl
@[pysimp] theorem Py.orV_int (a : Int) (x : Py.M Py.Val) : Py.orV (.int a) x = if a != 0 then .ok (.int a) else x := by
  by_cases h : a = 0 <;> simp [Py.orV, Py.truthy, bind, Except.bind, pure, Except.pure, h]
@[pysimp] theorem Py.andV_int (a : Int) (x : Py.M Py.Val) : Py.andV (.int a) x = if a != 0 then x else .ok (.int a) := by
  by_cases h : a = 0 <;> simp [Py.andV, Py.truthy, bind, Except.bind, pure, Except.pure, h]
/-- lookups through `asetS` reduce by comparing the (literal) attribute names -/
@[pysimp] theorem Py.alookupS_asetS (k k' : String) (v : Py.Val) (fs : List (String × Py.Val)) :
    Py.alookupS k' (Py.asetS k v fs) = if k' = k then some v else Py.alookupS k' fs := by
  by_cases h : k' = k
  · subst h; simp
  · simp [h, Py.alookupS_asetS_other k k' v fs h]

@[pysimp] theorem Py.add_bytearray_bytes (a b : Bytes) : Py.add (.bytearray a) (.bytes b) = .ok (.bytearray (a ++ b)) := by simp [Py.add, pure, Except.pure]
@[pysimp] theorem Py.len_bytes (b : Bytes) : Py.len_ (.bytes b) = .ok (.int b.length) := by simp [Py.len_, pure, Except.pure]
@[pysimp] theorem Py.len_bytearray (b : Bytes) : Py.len_ (.bytearray b) = .ok (.int b.length) := by simp [Py.len_, pure, Except.pure]
@[pysimp] theorem Py.truthy_bytes (b : Bytes) : Py.truthy (.bytes b) = .ok (!b.isEmpty) := by simp [Py.truthy, pure, Except.pure]
@[pysimp] theorem Py.gtV_int_none (a : Int) : Py.gtV (.int a) .none = .error .typeError := by
  simp [Py.gtV, Py.asInt, bind, Except.bind, pure, Except.pure, throw, throwThe, MonadExceptOf.throw]
@[pysimp] theorem Py.geV_nat (a b : Nat) : Py.geV (.int a) (.int b) = .ok (.bool (decide (b ≤ a))) := by
  simp [Py.geV, Py.asInt, bind, Except.bind, pure, Except.pure]
@[pysimp] theorem Py.sliceFrom_bytes (b : Bytes) (k : Nat) : Py.sliceFrom (.bytes b) (.int k) = .ok (.bytes (b.drop k)) := by
  simp [Py.sliceFrom, Py.natOf, Py.asInt, bind, Except.bind, pure, Except.pure]
@[pysimp] theorem Py.sliceFrom_bytearray (b : Bytes) (k : Nat) : Py.sliceFrom (.bytearray b) (.int k) = .ok (.bytearray (b.drop k)) := by
  simp [Py.sliceFrom, Py.natOf, Py.asInt, bind, Except.bind, pure, Except.pure]
@[pysimp] theorem Py.sliceTo_bytes (b : Bytes) (k : Nat) : Py.sliceTo (.bytes b) (.int k) = .ok (.bytes (b.take k)) := by
  simp [Py.sliceTo, Py.natOf, Py.asInt, bind, Except.bind, pure, Except.pure]
@[pysimp] theorem Py.sliceTo_bytearray (b : Bytes) (k : Nat) : Py.sliceTo (.bytearray b) (.int k) = .ok (.bytearray (b.take k)) := by
  simp [Py.sliceTo, Py.natOf, Py.asInt, bind, Except.bind, pure, Except.pure]
@[pysimp] theorem Py.bytearrayOf_nat (n : Nat) : Py.bytearrayOf (.int n) = .ok (.bytearray (List.replicate n 0)) := by
  simp [Py.bytearrayOf, pure, Except.pure]
theorem Py.structCalcsize_words (b : Bytes) (n : Nat) (h : Py.fmtWords b = some n) : Py.structCalcsize (.bytes b) = .ok (.int ((4 * n : Nat) : Int)) := by
  simp only [Py.structCalcsize, Py.fmtBytes, pysimp, h]
@[pysimp] theorem Py.not_int (a : Int) : Py.not_ (.int a) = .ok (.bool (a == 0)) := by
  by_cases h : a = 0
  · simp [Py.not_, Py.truthy, bind, Except.bind, pure, Except.pure, h]
  · have h2 : (a == 0) = false := by simp [h]
    simp [Py.not_, Py.truthy, bind, Except.bind, pure, Except.pure, h, h2]
@[pysimp] theorem Py.leV_nat (a b : Nat) : Py.leV (.int a) (.int b) = .ok (.bool (decide (a ≤ b))) := by
  simp [Py.leV, Py.asInt, bind, Except.bind, pure, Except.pure]
@[pysimp] theorem Py.add_bytes_bytes (a b : Bytes) : Py.add (.bytes a) (.bytes b) = .ok (.bytes (a ++ b)) := by simp [Py.add, pure, Except.pure]
@[pysimp] theorem Py.eqV_bytes_bytes (a b : Bytes) : Py.eqV (.bytes a) (.bytes b) = .ok (.bool (a == b)) := by simp [Py.eqV, Py.eq, bind, Except.bind, pure, Except.pure]
@[pysimp] theorem Py.neV_bytes_bytes (a b : Bytes) : Py.neV (.bytes a) (.bytes b) = .ok (.bool (!(a == b))) := by simp [Py.neV, Py.eq, bind, Except.bind, pure, Except.pure]
@[pysimp] theorem Py.eqV_none_bytes (b : Bytes) : Py.eqV .none (.bytes b) = .ok (.bool false) := by simp [Py.eqV, Py.eq, bind, Except.bind, pure, Except.pure]
@[pysimp] theorem Py.isV_bytes_none (b : Bytes) : Py.isV (.bytes b) .none = .ok (.bool false) := by simp [Py.isV, pure, Except.pure]
@[pysimp] theorem Py.isNotV_bytes_none (b : Bytes) : Py.isNotV (.bytes b) .none = .ok (.bool true) := by simp [Py.isNotV, Py.isV, bind, Except.bind, pure, Except.pure]
@[pysimp] theorem Py.not_none : Py.not_ .none = .ok (.bool true) := by simp [Py.not_, Py.truthy, bind, Except.bind, pure, Except.pure]
@[pysimp] theorem Py.not_bytes (b : Bytes) : Py.not_ (.bytes b) = .ok (.bool b.isEmpty) := by simp [Py.not_, Py.truthy, bind, Except.bind, pure, Except.pure]

@[pysimp] theorem Py.unpackN_tuple (l : List Py.Val) (n : Nat) : Py.unpackN (.tuple l) n = if l.length = n then .ok l else .error .valueError := rfl
@[pysimp] theorem Py.unpackN_none (n : Nat) : Py.unpackN .none n = .error .typeError := rfl
@[pysimp] theorem Py.nth_zero (a : Py.Val) (l : List Py.Val) : Py.nth (a :: l) 0 = a := rfl
@[pysimp] theorem Py.nth_succ (a : Py.Val) (l : List Py.Val) (n : Nat) : Py.nth (a :: l) (n + 1) = Py.nth l n := rfl
attribute [pysimp] List.length_cons List.length_nil
attribute [pysimp_proc] Nat.reduceAdd Nat.reduceEqDiff
theorem Py.beq_natCast_some (a b : Nat) : ((a : Int) == (b : Int)) = (some b == some a) := by
  rw [Bool.eq_iff_iff]; simp only [beq_iff_eq, Option.some.injEq, Int.natCast_inj]; exact eq_comm
@[pysimp] theorem Py.eqV_int_encOptNat (a : Nat) (o : Option Nat) : Py.eqV (.int a) (encOptNat o) = .ok (.bool (o == some a)) := by
  cases o with
  | none => rfl
  | some b => simp only [encOptNat, Py.eqV_int_int, Py.beq_natCast_some]
@[pysimp] theorem Py.neV_int_encOptNat (a : Nat) (o : Option Nat) : Py.neV (.int a) (encOptNat o) = .ok (.bool (!(o == some a))) := by
  cases o with
  | none => rfl
  | some b => simp only [encOptNat, Py.neV_int_int, Py.beq_natCast_some]
@[pysimp] theorem Py.inV_int_pair_encOptNat (a : Nat) (o : Option Nat) :
    Py.inV (.int a) (.tuple [.int 0, encOptNat o]) = .ok (.bool (a == 0 || o == some a)) := by
  have h0 : ((a : Int) == 0) = (a == 0) := by rw [Bool.eq_iff_iff]; simp only [beq_iff_eq, Int.natCast_eq_zero]
  cases o with
  | none => simp only [encOptNat, Py.inV_int_pair_none, h0]; simp
  | some b => simp only [encOptNat, Py.inV_int_pair, Py.beq_natCast_some, h0]
/-- not tagged `pysimp`: the branches must be values already -/
theorem Py.ite_ok_bool (b x y : Bool) : (if b = true then (.ok (.bool x) : Py.M Py.Val) else .ok (.bool y)) = .ok (.bool (bif b then x else y)) := by
  cases b <;> rfl
@[pysimp] theorem Py.isV_encOptNat (a : Option Nat) : Py.isV (encOptNat a) .none = .ok (.bool a.isNone) := by cases a <;> rfl

theorem Py.dlookup_intTable {α : Type} (key : α → Nat) (val : α → Py.Val) (l : List α) (n : Nat) :
    Py.dlookup (.int n) (l.map fun a => (Py.Key.int (key a), val a)) = (l.find? fun a => key a == n).map val := by
  induction l with
  | nil => rfl
  | cons a l ih =>
    by_cases h : key a = n
    · simp [Py.dlookup, h]
    · have h' : ¬ ((key a : Int) = n) := by omega
      simp [Py.dlookup, h, h', ih]

theorem Py.getItem_intTable {α : Type} (key : α → Nat) (val : α → Py.Val) (l : List α) (n : Nat) :
    Py.getItem (.dict (l.map fun a => (Py.Key.int (key a), val a))) (.int n)
      = match l.find? fun a => key a == n with | some a => .ok (val a) | none => .error .keyError := by
  simp only [Py.getItem, Py.toKey, Py.bind_ok', Py.pure_ok', Py.dlookup_intTable]
  cases l.find? fun a => key a == n <;> rfl

theorem Py.dictGet_intTable {α : Type} (key : α → Nat) (val : α → Py.Val) (l : List α) (n : Nat) :
    Py.dictGet (.dict (l.map fun a => (Py.Key.int (key a), val a))) (.int n)
      = .ok (match l.find? fun a => key a == n with | some a => val a | none => .none) := by
  simp only [Py.dictGet, Py.toKey, Py.bind_ok', Py.pure_ok', Py.dlookup_intTable]
  cases l.find? fun a => key a == n <;> rfl

theorem Py.getItem_pair0 (a b : Py.Val) : Py.getItem (.tuple [a, b]) (.int 0) = .ok a := rfl
theorem Py.getItem_pair1 (a b : Py.Val) : Py.getItem (.tuple [a, b]) (.int 1) = .ok b := rfl

end Adb
