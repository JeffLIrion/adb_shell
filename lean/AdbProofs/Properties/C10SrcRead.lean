import AdbProofs.Lemmas.SrcFsRead
import AdbProofs.Lemmas.Blocks
/-
  C10 (tie to the source, by proof) — `AdbDevice._filesync_read` (both twins). harness/pytrans.py turns the CURRENT source of that method into a pure function by
  making the RESULTS of its three calls parameters (`eff0` = `_filesync_flush`, `eff1` = the `recv_message_size` header bytes from `_filesync_read_buffered`,
  `eff2` = the payload bytes from the second `_filesync_read_buffered`). The theorems say that, on header bytes `hdr` and payload bytes `data`, the source classifies
  the record exactly like the model's `fsRead` does (`recOf`): `KeyError` for an unknown id word, `AdbCommandFailureException` for an unexpected FAIL,
  `InvalidResponseError` for any other unexpected id, STAT carries no payload and all remaining header words, every other id carries the payload and the header
  words between the id and the length.
  Only property theorems and non-vacuity examples live here.
-/
set_option linter.unusedSimpArgs false
namespace Adb
open Py

/-- Sync-record classification (sync class): on `recv_message_size` header bytes `hdr` and payload bytes `data`, the source's `_filesync_read` (effects as
    parameters; whether or not the send buffer had to be flushed first) returns exactly the model's `recOf`: `KeyError` for an unknown id word,
    `AdbCommandFailureException` for a FAIL that was not expected, `InvalidResponseError` for any other unexpected id, `(id, header[1:], None)` for STAT and
    `(id, header[1:-1], data)` for every other expected id. -/
theorem C10_src_filesync_read_sync (cls : String) (fs : List (String × Py.Val)) (f : SyncFmt) (expected : List SyncId) (info eff0 : Py.Val) (k : Nat) (hdr data : Bytes)
    (hk : Py.alookupS "send_idx" fs = some (.int k)) (hf : Py.alookupS "recv_message_format" fs = some f.pyFormat) (hlen : hdr.length = f.size) :
    Src.AdbDevice_filesync_read_fn (encIds expected) info (.obj cls fs) eff0 (.bytearray hdr) (.bytearray data)
      = (match recOf f expected hdr data with
         | .ok (cid, fields, none)   => .ok (.tuple [.bytes cid.idBytes, .tuple (fields.map fun (n : Nat) => .int n), .none])
         | .ok (cid, fields, some d) => .ok (.tuple [.bytes cid.idBytes, .tuple (fields.map fun (n : Nat) => .int n), .bytearray d])
         | .error (.adbCommandFailure _) => .error .adbCommandFailure
         | .error .invalidResponse => .error .invalidResponse
         | .error _ => .error .keyError) := by
  have hl := unpackWords_syncFmt_length f hdr hlen
  simp only [Src.AdbDevice_filesync_read_fn, pysimp, hk, hf, structUnpack_syncFmt f hdr hlen, recOf, ite_self]
  generalize Adb.unpackWords (f.size / 4) hdr = ws at hl ⊢
  match ws, hl with
  | w0 :: w1 :: rest, _ =>
    simp only [List.map_cons, getItem_tuple_zero, src_fsWireToId_get, List.headD_cons, pysimp]
    cases hc : SyncId.ofWire? w0 with
    | none => simp [pysimp]
    | some cid =>
      simp only [pysimp, neV_syncId_STAT, notInV_syncIds, eqV_syncId_FAIL, sliceTL_tuple_1_0, sliceTL_tuple_1_1]
      by_cases he : expected.contains cid = true
      · by_cases hs : cid = SyncId.STAT <;> simp_all [pysimp, List.map_dropLast]
      · by_cases hs : cid = SyncId.STAT
        · simp_all [pysimp]
        · by_cases hfl : cid = SyncId.FAIL <;> simp_all [pysimp]

/-- The translation of `_filesync_read` of the async class is, piece by piece, that of the sync class; an edit of one twin only breaks this equation. -/
theorem Src.filesync_read_twin : Src.AdbDeviceAsync_filesync_read_fn = Src.AdbDevice_filesync_read_fn := rfl

/-- Sync-record classification (async twin): the same. -/
theorem C10_src_filesync_read_async (cls : String) (fs : List (String × Py.Val)) (f : SyncFmt) (expected : List SyncId) (info eff0 : Py.Val) (k : Nat) (hdr data : Bytes)
    (hk : Py.alookupS "send_idx" fs = some (.int k)) (hf : Py.alookupS "recv_message_format" fs = some f.pyFormat) (hlen : hdr.length = f.size) :
    Src.AdbDeviceAsync_filesync_read_fn (encIds expected) info (.obj cls fs) eff0 (.bytearray hdr) (.bytearray data)
      = (match recOf f expected hdr data with
         | .ok (cid, fields, none)   => .ok (.tuple [.bytes cid.idBytes, .tuple (fields.map fun (n : Nat) => .int n), .none])
         | .ok (cid, fields, some d) => .ok (.tuple [.bytes cid.idBytes, .tuple (fields.map fun (n : Nat) => .int n), .bytearray d])
         | .error (.adbCommandFailure _) => .error .adbCommandFailure
         | .error .invalidResponse => .error .invalidResponse
         | .error _ => .error .keyError) := by
  simp only [Src.filesync_read_twin]
  exact C10_src_filesync_read_sync cls fs f expected info eff0 k hdr data hk hf hlen

/-- after the flush: read `fmt.size` header bytes; read `header[-1]` payload bytes iff `fsPayloadLen` says so; then the pure `recOf` on what was read -/
theorem fsReadTail_uses_recOf (expected : List SyncId) (t : Txn) (fi : FsInfo) (w : World) :
    fsReadTail expected t fi w =
      match fsReadBuffered fi.fmt.size t fi w with
      | (.error e, w1) => (.error e, w1)
      | (.ok (hdr, fi1), w1) =>
        match fsPayloadLen fi1.fmt hdr with
        | none => (recResult (recOf fi1.fmt expected hdr []) fi1, w1)
        | some n =>
          match fsReadBuffered n t fi1 w1 with
          | (.error e, w2) => (.error e, w2)
          | (.ok (data, fi2), w2) => (recResult (recOf fi1.fmt expected hdr data) fi2, w2) := by
  simp only [fsReadTail, fsReadCheck, bind]
  cases h1 : fsReadBuffered (SyncFmt.size (FsInfo.fmt fi)) t fi w with
  | mk r1 w1 =>
    cases r1 with
    | error e => simp [M.bind, h1]
    | ok p =>
      obtain ⟨hdr, fi1⟩ := p
      simp only [fsPayloadLen, recOf, M.bind, h1]
      cases hc : SyncId.ofWire? ((Adb.unpackWords (fi1.fmt.size / 4) hdr).headD 0) with
      | none => simp [hc, M.throw, recResult]
      | some cid =>
        by_cases hs : cid = SyncId.STAT
        · by_cases he : expected.contains cid = true <;> simp_all [pure, M.pure, M.bind, M.throw, recResult]
        · simp only [hs, hc, ite_false, ne_eq, not_false_eq_true, ite_true]
          cases h2 : fsReadBuffered ((Adb.unpackWords (fi1.fmt.size / 4) hdr).getLastD 0) t fi1 w1 with
          | mk r2 w2 =>
            cases r2 with
            | error e => simp_all [M.bind]
            | ok q =>
              obtain ⟨data, fi2⟩ := q
              by_cases he : expected.contains cid = true <;> by_cases hfl : cid = SyncId.FAIL <;>
                simp_all [pure, M.pure, M.bind, M.throw, recResult]

/-- The model's `fsRead` is: flush iff the send buffer is non-empty; read `fmt.size` header bytes; read `header[-1]` payload bytes iff the header names a known id
    other than STAT (`fsPayloadLen`); then the pure `recOf` on what was read. -/
theorem C10_model_fsRead_uses_recOf (expected : List SyncId) (t : Txn) (fi : FsInfo) (w : World) :
    fsRead expected t fi w =
      match (if !fi.sendBuf.isEmpty then fsFlush t fi else (pure fi : M FsInfo)) w with
      | (.error e, w0) => (.error e, w0)
      | (.ok fi0, w0) =>
        match fsReadBuffered fi0.fmt.size t fi0 w0 with
        | (.error e, w1) => (.error e, w1)
        | (.ok (hdr, fi1), w1) =>
          match fsPayloadLen fi1.fmt hdr with
          | none => (recResult (recOf fi1.fmt expected hdr []) fi1, w1)
          | some n =>
            match fsReadBuffered n t fi1 w1 with
            | (.error e, w2) => (.error e, w2)
            | (.ok (data, fi2), w2) => (recResult (recOf fi1.fmt expected hdr data) fi2, w2) := by
  rw [fsRead_eq_tail]
  show M.bind _ _ w = _
  unfold M.bind
  cases (if !fi.sendBuf.isEmpty then fsFlush t fi else (pure fi : M FsInfo)) w with
  | mk r0 w0 =>
    cases r0 with
    | error e => rfl
    | ok fi0 => exact fsReadTail_uses_recOf expected t fi0 w0

/-! ### Non-vacuity: a DATA record (pull), a STAT record (no payload, three fields), a DENT record (three fields, the name length dropped), an unexpected FAIL,
    an unexpected id, an unknown id word; and the source function on a concrete transaction object (flushed and unflushed) -/
example : recOf .pull [.DATA, .DONE] (le32 SyncId.DATA.wire ++ le32 3) [1, 2, 3] = .ok (.DATA, [], some [1, 2, 3]) := by rfl
example : recOf .stat [.STAT] (le32 SyncId.STAT.wire ++ le32 33188 ++ le32 10 ++ le32 1700000000) [] = .ok (.STAT, [33188, 10, 1700000000], none) := by rfl
example : recOf .list [.DENT, .DONE] (le32 SyncId.DENT.wire ++ le32 33188 ++ le32 10 ++ le32 1700000000 ++ le32 2) [97, 98]
    = .ok (.DENT, [33188, 10, 1700000000], some [97, 98]) := by rfl
example : recOf .push [.OKAY] (le32 SyncId.FAIL.wire ++ le32 2) [97, 98] = .error (.adbCommandFailure [97, 98]) := by rfl
example : recOf .push [.OKAY] (le32 SyncId.DATA.wire ++ le32 2) [97, 98] = .error .invalidResponse := by rfl
example : recOf .stat [.DATA] (le32 SyncId.STAT.wire ++ le32 1 ++ le32 2 ++ le32 3) [] = .error .invalidResponse := by rfl
example : recOf .pull [.DATA, .DONE] (le32 0xDEADBEEF ++ le32 2) [97, 98] = .error .pyKeyError := by rfl
example : Src.AdbDevice_filesync_read_fn (encIds [.DATA, .DONE]) .none
      (.obj "_FileSyncTransactionInfo" [("send_idx", .int (0 : Nat)), ("recv_message_format", SyncFmt.pull.pyFormat)]) .none
      (.bytearray (le32 SyncId.DATA.wire ++ le32 3)) (.bytearray [1, 2, 3])
    = .ok (.tuple [.bytes SyncId.DATA.idBytes, .tuple [], .bytearray [1, 2, 3]]) := by
  rw [C10_src_filesync_read_sync "_FileSyncTransactionInfo" _ .pull [.DATA, .DONE] .none .none 0 _ _ rfl rfl rfl]; rfl
example : Src.AdbDeviceAsync_filesync_read_fn (encIds [.STAT]) .none
      (.obj "_FileSyncTransactionInfo" [("send_idx", .int (24 : Nat)), ("recv_message_format", SyncFmt.stat.pyFormat)]) .none
      (.bytearray (le32 SyncId.STAT.wire ++ le32 33188 ++ le32 10 ++ le32 1700000000)) (.bytearray [])
    = .ok (.tuple [.bytes SyncId.STAT.idBytes, .tuple [.int 33188, .int 10, .int 1700000000], .none]) := by
  rw [C10_src_filesync_read_async "_FileSyncTransactionInfo" _ .stat [.STAT] .none .none 24 _ _ rfl rfl rfl]; rfl
example : Src.AdbDevice_filesync_read_fn (encIds [.OKAY]) .none
      (.obj "_FileSyncTransactionInfo" [("send_idx", .int (0 : Nat)), ("recv_message_format", SyncFmt.push.pyFormat)]) .none
      (.bytearray (le32 SyncId.FAIL.wire ++ le32 2)) (.bytearray [97, 98]) = .error .adbCommandFailure := by
  rw [C10_src_filesync_read_sync "_FileSyncTransactionInfo" _ .push [.OKAY] .none .none 0 _ _ rfl rfl rfl]; rfl

end Adb
