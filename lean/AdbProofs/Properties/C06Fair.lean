import AdbProofs.Lemmas.ConcFair
/-
  C06 — completion under an ARBITRARY fair schedule (closes the gap left by
  `C06_completes_after_solo_partial` in `C06.lean`, where the suffix is one reader running alone).
  Model: `AdbModel/Conc.lean`.  Vocabulary (`AdbProofs/Lemmas/ConcFair.lean`):
    `Round n seg`       = for every reader index `i < n`, `seg` contains `pre i` and later `iter i`
                          (as a subsequence; anything else may be interleaved anywhere);
    `Rounds n k sched`  = `sched` starts with `k` consecutive segments that are each a `Round n`
                          (what follows the `k`-th round is arbitrary);
    `roundRobin n k`    = `pre 0, iter 0, …, pre (n-1), iter (n-1)` repeated `k` times;
    `soloAll n m`       = reader 0 alone for `m` rounds, then reader 1 alone for `m` rounds, …;
    `Quiescent s`       = every reader is done, or the transport is empty and nothing is parked for it;
    `nu sys₀ s`         = packets on the transport + packets parked for the readers (the measure).
  Bound on the number of rounds: `sys₀.wire.length + 1` (one more than the number of packets the
  device sends).  The escape "a packet of the stream was lost" (`lostOf … ≠ []`) is the known defect
  K1 of the code (`put` discards a CLSE for a stream without store entry), see `C06.lean`.
-/
namespace Adb
open Conc

/-- Completion under every fair schedule.  Start from an initial system (well-formed, empty store,
    nothing lost, no reader started) and run ANY schedule that begins with at least
    `sys₀.wire.length + 1` fair rounds (each round gives every reader its pre-check and, later, one
    loop iteration; everything else is arbitrary).  Then EVERY reader `i` has been given exactly the
    packets it would have been given alone on the transport, and it is done exactly if alone it would
    be done — whichever thread read what — or a packet of its stream was lost (K1). -/
theorem C06_completes_fair (sys₀ : Sys) (h₀ : Initial sys₀) (k : Nat) (sched : List Choice)
    (hfair : Rounds sys₀.readers.length k sched) (hk : sys₀.wire.length + 1 ≤ k)
    (i : Nat) (r₀ : Reader) (hr₀ : sys₀.readers[i]? = some r₀) :
    ∃ r : Reader, (run sys₀ sched).readers[i]? = some r ∧
      ((r.given = aloneGiven r₀ sys₀.wire ∧ r.done = (aloneGiven r₀ sys₀.wire).any (·.cmd == Cmd.CLSE))
        ∨ lostOf (run sys₀ sched) r₀ ≠ []) := by
  have h := reach_inv h₀ sched
  have hq : Quiescent (run sys₀ sched) :=
    rounds_quiescent h₀.1 k sched sys₀ (inv_initial h₀) hfair (by rw [nu_initial h₀]; omega)
  obtain ⟨r, hr, _⟩ := inv_reader h hr₀
  exact ⟨r, hr, sat_result h₀.1 h hr₀ hr (hq i r hr)⟩

/-- Completion under every fair schedule when nothing was lost: if the run did not hit K1
    (`lost = []` at the end), every reader ends with exactly the result it would have alone. -/
theorem C06_completes_fair_no_loss (sys₀ : Sys) (h₀ : Initial sys₀) (k : Nat) (sched : List Choice)
    (hfair : Rounds sys₀.readers.length k sched) (hk : sys₀.wire.length + 1 ≤ k)
    (hnl : (run sys₀ sched).lost = [])
    (i : Nat) (r₀ : Reader) (hr₀ : sys₀.readers[i]? = some r₀) :
    ∃ r : Reader, (run sys₀ sched).readers[i]? = some r ∧
      r.given = aloneGiven r₀ sys₀.wire ∧ r.done = (aloneGiven r₀ sys₀.wire).any (·.cmd == Cmd.CLSE) := by
  obtain ⟨r, hr, hres | hl⟩ := C06_completes_fair sys₀ h₀ k sched hfair hk i r₀ hr₀
  · exact ⟨r, hr, hres⟩
  · exact absurd (by simp [lostOf, hnl]) hl

/-- No starvation, no deadlock of the modelled layer: after at least `sys₀.wire.length + 1` fair
    rounds the system is quiescent.  (1) The transport is empty or all readers are done.  (2) For a
    reader that is not done the transport is empty and nothing is parked for it: no reader is left
    with a step that could hand it a packet.  (3) Whatever is scheduled afterwards moves no packet:
    transport, store, lost list and what every reader has been given (and whether it is done) stay
    the same. -/
theorem C06_no_starvation (sys₀ : Sys) (h₀ : Initial sys₀) (k : Nat) (sched : List Choice)
    (hfair : Rounds sys₀.readers.length k sched) (hk : sys₀.wire.length + 1 ≤ k) :
    ((run sys₀ sched).wire = [] ∨ ∀ r ∈ (run sys₀ sched).readers, r.done = true) ∧
    (∀ (i : Nat) (r : Reader), (run sys₀ sched).readers[i]? = some r → r.done = false →
      (run sys₀ sched).wire = [] ∧ parked (run sys₀ sched).store r = []) ∧
    (∀ extra : List Choice,
      (run sys₀ (sched ++ extra)).wire = (run sys₀ sched).wire ∧
      (run sys₀ (sched ++ extra)).store = (run sys₀ sched).store ∧
      (run sys₀ (sched ++ extra)).lost = (run sys₀ sched).lost ∧
      (run sys₀ (sched ++ extra)).readers.map (fun r => (r.given, r.done)) =
        (run sys₀ sched).readers.map (fun r => (r.given, r.done))) := by
  have h := reach_inv h₀ sched
  have hq : Quiescent (run sys₀ sched) :=
    rounds_quiescent h₀.1 k sched sys₀ (inv_initial h₀) hfair (by rw [nu_initial h₀]; omega)
  have h2 : ∀ (i : Nat) (r : Reader), (run sys₀ sched).readers[i]? = some r → r.done = false →
      (run sys₀ sched).wire = [] ∧ parked (run sys₀ sched).store r = [] := by
    intro i r hr hd
    rcases hq i r hr with e | e
    · rw [hd] at e; cases e
    · exact e
  refine ⟨?_, h2, ?_⟩
  · by_cases hw : (run sys₀ sched).wire = []
    · exact Or.inl hw
    · refine Or.inr (fun r hr => ?_)
      obtain ⟨i, hi⟩ := List.getElem?_of_mem hr
      cases hd : r.done with
      | true => rfl
      | false => exact absurd (h2 i r hi hd).1 hw
  · intro extra
    rw [run_append]
    exact (quiescent_run_same h₀.1 extra _ h hq).2

/-- Progress of a single fair round from ANY reachable state: the number of packets on the transport
    plus the packets parked for the readers strictly decreases, or the state reached is quiescent. -/
theorem C06_fair_round_progress (sys₀ : Sys) (h₀ : Initial sys₀) (sched seg : List Choice)
    (hr : Round sys₀.readers.length seg) :
    nu sys₀ (run sys₀ (sched ++ seg)) < nu sys₀ (run sys₀ sched) ∨ Quiescent (run sys₀ (sched ++ seg)) := by
  rw [run_append]
  exact fair_round_progress h₀.1 (reach_inv h₀ sched) hr

/-! ### Non-vacuity -/

/-- the hypotheses are satisfiable: `sysFair` (two readers, six packets, streams interleaved) is
    initial, and seven rounds of round-robin are a fair schedule of the required length -/
example : Initial sysFair ∧ Rounds sysFair.readers.length 7 (roundRobin 2 7) ∧ sysFair.wire.length + 1 ≤ 7 :=
  ⟨⟨wellFormed_of_B (by decide +kernel), rfl, rfl, by decide +kernel⟩, rounds_roundRobin 2 7, by decide +kernel⟩

/-- round-robin on `sysFair`: nothing is lost, everything is delivered, and both readers end with
    exactly what they would be given alone although each took packets of the other off the transport -/
example : (run sysFair (roundRobin 2 7)).lost = [] ∧ (run sysFair (roundRobin 2 7)).wire = [] ∧
    (run sysFair (roundRobin 2 7)).readers.map (·.given) =
      [aloneGiven { lid := 1, rid := 11 } sysFair.wire, aloneGiven { lid := 2, rid := 12 } sysFair.wire] ∧
    (run sysFair (roundRobin 2 7)).readers.map (·.done) = [true, true] := by decide +kernel

/-- reader 0 really reads reader 1's first packet off the transport and parks it (first round) -/
example : (run sysFair [.pre 0, .iter 0]).store.queue 12 2 = some [(.WRTE, [1])] := by decide +kernel

/-- an irregular fair schedule (rounds of different shapes, repeated / out-of-phase / out-of-range
    choices interleaved) satisfies `Rounds`, and ends with the same result -/
example : Rounds 2 7 segsMixed.flatten ∧
    (run sysFair segsMixed.flatten).readers.map (·.given) =
      [aloneGiven { lid := 1, rid := 11 } sysFair.wire, aloneGiven { lid := 2, rid := 12 } sysFair.wire] ∧
    (run sysFair segsMixed.flatten).readers.map (·.done) = [true, true] :=
  ⟨rounds_flatten segsMixed (by decide +kernel), by decide +kernel, by decide +kernel⟩

/-- "one thread runs for a long time, then the other", seven times over, is fair as well -/
example : Rounds 2 7 (List.replicate 7 (soloAll 2 3)).flatten := rounds_soloAll 2 3 7 (by decide +kernel)

/-- the escape disjunct is needed: the K1 system of `C06.lean` under plain round-robin (a fair
    schedule of the required length) loses reader 0's CLSE; reader 0 ends with a proper prefix of
    what it would be given alone and is never done -/
example : Initial sysK1 ∧ Rounds sysK1.readers.length 5 (roundRobin 2 5) ∧ sysK1.wire.length + 1 ≤ 5 ∧
    lostOf (run sysK1 (roundRobin 2 5)) { lid := 1, rid := 11 } = [⟨.CLSE, 11, 1, []⟩] ∧
    (run sysK1 (roundRobin 2 5)).readers[0]?.map (·.given) = some [⟨.WRTE, 11, 1, [97]⟩] ∧
    aloneGiven { lid := 1, rid := 11 } sysK1.wire = [⟨.WRTE, 11, 1, [97]⟩, ⟨.CLSE, 11, 1, []⟩] ∧
    (run sysK1 (roundRobin 2 5)).readers[0]?.map (·.done) = some false :=
  ⟨⟨wellFormed_of_B (by decide +kernel), rfl, rfl, by decide +kernel⟩, rounds_roundRobin 2 5, by decide +kernel, by decide +kernel, by decide +kernel,
    by decide +kernel, by decide +kernel⟩

/-- the bound is about rounds, not steps: after four round-robin rounds `sysFair` is not yet
    quiescent (a packet is still on the transport) -/
example : (run sysFair (roundRobin 2 4)).wire ≠ [] := by decide +kernel

end Adb
