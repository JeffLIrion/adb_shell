import AdbProofs.Lemmas.Handshake
/-
  C05 — the CNXN/AUTH handshake of `connect()`.

  All statements are about one call of `_AdbIOManager.connect` (`ioConnect`, no lock held) or
  `AdbDevice.connect` (`devConnect`) that starts in world `w`, ends in world `w'` with outcome `r`,
  and added the events `evs` to the trace (`w'.trace = evs ++ w.trace`, most recent first).
  `HS.transmitted evs` / `HS.delivered evs` are the messages handed to `_send` / the packets
  returned by `_read_expected_packet_from_device`, oldest first; `HS.callbacks evs` counts
  invocations of the auth callback; `HS.vis evs` is the chronological list of all events except
  `req` (a bulk_read was issued) and `skip` (an unexpected packet was discarded while waiting).
  Signers are abstract: key `k` signs `tok` as `stubSign k tok`, its public key is `stubPub k`.
-/
namespace Adb
open HS

/-- `connect()` first closes and reconnects the transport and then, before anything else is sent
    or read, sends CNXN(VERSION, MAX_ADB_DATA, b'host::<banner>\0'): whatever was transmitted
    starts with that message; it IS transmitted whenever `transport.connect()` succeeded, and when
    that failed nothing is transmitted at all. -/
theorem C05_first_message (banner : Bytes) (keys : List Nat) (authT : Timeout) (hasCb : Bool) (t : Txn)
    (w w' : World) (r : Except Err Nat) (evs : List TEv) (hl : w.locks = [])
    (hr : ioConnect banner keys authT hasCb t w = (r, w')) (he : w'.trace = evs ++ w.trace) :
    (∀ m, (transmitted evs).head? = some m →
        m = ⟨.CNXN, Generated.VERSION, Generated.MAX_ADB_DATA, ascii "host::" ++ banner ++ [0]⟩) ∧
    (canConnect w = true → ∃ rest,
        vis evs = .tclose :: .tconnect ::
          .tx ⟨.CNXN, Generated.VERSION, Generated.MAX_ADB_DATA, ascii "host::" ++ banner ++ [0]⟩ :: rest ∧
        (transmitted evs).head? =
          some ⟨.CNXN, Generated.VERSION, Generated.MAX_ADB_DATA, ascii "host::" ++ banner ++ [0]⟩) ∧
    (canConnect w = false → r = .error .transportError ∧ transmitted evs = []) := by
  rw [transmitted_eq]
  rcases (ioConnect_run hl hr he).1 with ⟨h1, h2, h3⟩ | ⟨h1, vt, h3, h4⟩
  · simp [h1, h2, h3]
  · obtain ⟨rest, rfl⟩ : ∃ rest, vt = .tx (cnxnMsg banner) :: rest := by cases h4 <;> exact ⟨_, rfl⟩
    rw [h3]
    exact ⟨fun m hm => (Option.some.inj hm).symm, fun _ => ⟨rest, rfl, rfl⟩, fun hc => by rw [h1] at hc; cases hc⟩

/-- `connect()` succeeds if and only if a CNXN packet is delivered to it; that packet is then the
    LAST packet it read, every packet read before it is an AUTH challenge, and the maxdata it
    returns is that CNXN's `arg1`. When it raises, every packet it read was an AUTH challenge. -/
theorem C05_success_adopts_cnxn (banner : Bytes) (keys : List Nat) (authT : Timeout) (hasCb : Bool) (t : Txn)
    (w w' : World) (r : Except Err Nat) (evs : List TEv) (hl : w.locks = [])
    (hr : ioConnect banner keys authT hasCb t w = (r, w')) (he : w'.trace = evs ++ w.trace) :
    (∀ md, r = .ok md → ∃ ps p, delivered evs = ps ++ [p] ∧ (∀ x ∈ ps, x.cmd = .AUTH) ∧ p.cmd = .CNXN ∧ md = p.arg1) ∧
    ((∃ md, r = .ok md) ↔ ∃ p ∈ delivered evs, p.cmd = .CNXN) ∧
    (∀ e, r = .error e → ∀ x ∈ delivered evs, x.cmd = .AUTH) := by
  have h12 : (∀ md, r = .ok md → ∃ ps p, delivered evs = ps ++ [p] ∧ (∀ x ∈ ps, x.cmd = .AUTH) ∧ p.cmd = .CNXN ∧ md = p.arg1) ∧
      (∀ e, r = .error e → ∀ x ∈ delivered evs, x.cmd = .AUTH) := by
    rw [delivered_eq]
    rcases (ioConnect_run hl hr he).1 with ⟨h1, h2, h3⟩ | ⟨h1, vt, h3, h4⟩
    · simp [h2, h3]
    · rw [h3]
      have hd := h4.dlv_spec
      cases r with
      | ok md => exact ⟨fun md' h => Except.ok.inj h ▸ hd, fun e h => nomatch h⟩
      | error e => exact ⟨fun md h => (nomatch h), fun e' _ => hd⟩
  obtain ⟨h1, h2⟩ := h12
  refine ⟨h1, ?_, h2⟩
  constructor
  · rintro ⟨md, hmd⟩
    obtain ⟨ps, p, hd, -, hp, -⟩ := h1 md hmd
    exact ⟨p, by simp [hd], hp⟩
  · rintro ⟨p, hp, hc⟩
    cases r with
    | ok md => exact ⟨md, rfl⟩
    | error e =>
      have := h2 e rfl p hp
      rw [hc] at this
      cases this

/-- The signatures. With the transport connected, everything `connect()` transmits is: the CNXN
    message, then `j ≤ len(keys)` AUTH(SIGNATURE) messages where the i-th is made with the i-th key
    over the payload of the i-th packet read so far (= the most recent challenge at that moment),
    so every key is used at most once and in order, then possibly the public key, and that only
    when `j = len(keys)`. At most one packet is read per message sent (`len(delivered) ≤ j + 1 + len(tl)`)
    and every signature was preceded by its challenge (`j ≤ len(delivered)`).
    It stops at the first accepted signature: on success without public key exactly `j + 1` packets
    were read, the last of them the CNXN (see `C05_success_adopts_cnxn`). -/
theorem C05_signatures (banner : Bytes) (keys : List Nat) (authT : Timeout) (hasCb : Bool) (t : Txn)
    (w w' : World) (r : Except Err Nat) (evs : List TEv) (hl : w.locks = [])
    (hr : ioConnect banner keys authT hasCb t w = (r, w')) (he : w'.trace = evs ++ w.trace)
    (hc : canConnect w = true) :
    ∃ j tl, j ≤ keys.length ∧ j ≤ (delivered evs).length ∧ (delivered evs).length ≤ j + 1 + tl.length ∧
      transmitted evs =
        ⟨.CNXN, Generated.VERSION, Generated.MAX_ADB_DATA, ascii "host::" ++ banner ++ [0]⟩ ::
          ((List.zip (keys.take j) ((delivered evs).map (·.data))).map
              (fun kt => (⟨.AUTH, Generated.AUTH_SIGNATURE, 0, stubSign kt.1 kt.2⟩ : Msg)) ++ tl) ∧
      (tl = [] ∨ (tl = [⟨.AUTH, Generated.AUTH_RSAPUBLICKEY, 0, stubPub (keys.headD 0) ++ [0]⟩] ∧ j = keys.length)) ∧
      (∀ md, r = .ok md → tl = [] → (delivered evs).length = j + 1) := by
  rw [transmitted_eq, delivered_eq]
  rcases (ioConnect_run hl hr he).1 with ⟨h1, h2, h3⟩ | ⟨h1, vt, h3, h4⟩
  · rw [h1] at hc; cases hc
  · rw [h3]
    simpa [cnxnMsg, sigMsg, pubMsg] using h4.sig_spec

/-- Challenged without keys: if the first packet read is an AUTH packet and no key was supplied,
    `connect()` closes the transport and raises DeviceAuthError; the CNXN message is all it sent. -/
theorem C05_no_keys (banner : Bytes) (authT : Timeout) (hasCb : Bool) (t : Txn)
    (w w' : World) (r : Except Err Nat) (evs : List TEv) (hl : w.locks = [])
    (hr : ioConnect banner [] authT hasCb t w = (r, w')) (he : w'.trace = evs ++ w.trace)
    (p : Pkt) (hd : (delivered evs).head? = some p) (hp : p.cmd = .AUTH) :
    r = .error .deviceAuth ∧
      transmitted evs = [⟨.CNXN, Generated.VERSION, Generated.MAX_ADB_DATA, ascii "host::" ++ banner ++ [0]⟩] ∧
      delivered evs = [p] ∧
      vis evs = [.tclose, .tconnect,
        .tx ⟨.CNXN, Generated.VERSION, Generated.MAX_ADB_DATA, ascii "host::" ++ banner ++ [0]⟩, .deliver p, .tclose] := by
  rw [delivered_eq] at hd
  rw [transmitted_eq, delivered_eq]
  rcases (ioConnect_run hl hr he).1 with ⟨h1, h2, h3⟩ | ⟨h1, vt, h3, h4⟩
  · simp [h3] at hd
  · rw [h3] at hd ⊢
    obtain ⟨h5, rfl⟩ := h4.noKeys_spec rfl p (by simpa using hd) hp
    exact ⟨h5, rfl, rfl, rfl⟩

/-- Asked to sign something that is not a token: if the i-th packet read (counting from 0) is an
    AUTH packet whose `arg0` is not AUTH_TOKEN and a key is left for it (`i < len(keys)`), then
    `connect()` raises InvalidResponseError, that packet is the last one it read, it was not signed
    (CNXN plus `i` signatures is all that was sent), and the last thing `connect()` did was to close
    the transport (its second `close()` in this call). -/
theorem C05_non_token (banner : Bytes) (keys : List Nat) (authT : Timeout) (hasCb : Bool) (t : Txn)
    (w w' : World) (r : Except Err Nat) (evs : List TEv) (hl : w.locks = [])
    (hr : ioConnect banner keys authT hasCb t w = (r, w')) (he : w'.trace = evs ++ w.trace)
    (i : Nat) (c : Pkt) (hc : (delivered evs)[i]? = some c) (ha : c.cmd = .AUTH)
    (hn : c.arg0 ≠ Generated.AUTH_TOKEN) (hi : i < keys.length) :
    r = .error .invalidResponse ∧ (delivered evs).length = i + 1 ∧ (transmitted evs).length = i + 1 ∧
      (vis evs).getLast? = some .tclose ∧ closes evs = 2 := by
  rw [delivered_eq] at hc ⊢
  rw [transmitted_eq, closes_eq]
  rcases (ioConnect_run hl hr he).1 with ⟨h1, h2, h3⟩ | ⟨h1, vt, h3, h4⟩
  · simp [h3] at hc
  · rw [h3] at hc ⊢
    obtain ⟨g1, g2, g3, g4, g5⟩ := h4.nonToken i c (by simpa using hc) ha hn hi
    exact ⟨g1, by simpa using g2, by simpa using g3, by simp [List.getLast?_cons, g4], by simp [g5]⟩

/-- The public key is offered only after every key was rejected: if an AUTH(RSAPUBLICKEY) message
    is transmitted then its payload is the FIRST key's public key followed by NUL, there is at least
    one key, and the complete list of transmitted messages is CNXN, one signature per key (key i
    over the payload of the i-th packet read), then this public key — so it is sent once and
    nothing is sent after it. The first `len(keys) + 1` packets read were all AUTH challenges. -/
theorem C05_pubkey_only_after_exhaustion (banner : Bytes) (keys : List Nat) (authT : Timeout) (hasCb : Bool) (t : Txn)
    (w w' : World) (r : Except Err Nat) (evs : List TEv) (hl : w.locks = [])
    (hr : ioConnect banner keys authT hasCb t w = (r, w')) (he : w'.trace = evs ++ w.trace) (d : Bytes)
    (hm : (⟨.AUTH, Generated.AUTH_RSAPUBLICKEY, 0, d⟩ : Msg) ∈ transmitted evs) :
    d = stubPub (keys.headD 0) ++ [0] ∧ keys ≠ [] ∧
      transmitted evs =
        ⟨.CNXN, Generated.VERSION, Generated.MAX_ADB_DATA, ascii "host::" ++ banner ++ [0]⟩ ::
          ((List.zip keys ((delivered evs).map (·.data))).map
              (fun kt => (⟨.AUTH, Generated.AUTH_SIGNATURE, 0, stubSign kt.1 kt.2⟩ : Msg)) ++
            [⟨.AUTH, Generated.AUTH_RSAPUBLICKEY, 0, stubPub (keys.headD 0) ++ [0]⟩]) ∧
      keys.length + 1 ≤ (delivered evs).length ∧
      (∀ x ∈ (delivered evs).take (keys.length + 1), x.cmd = .AUTH) := by
  rw [transmitted_eq] at hm ⊢
  rw [delivered_eq]
  rcases (ioConnect_run hl hr he).1 with ⟨h1, h2, h3⟩ | ⟨h1, vt, h3, h4⟩
  · simp [h3] at hm
  · rw [h3] at hm ⊢
    simpa [cnxnMsg, sigMsg, pubMsg] using h4.pub_spec d (by simpa using hm)

/-- The auth callback is invoked at most once; it is invoked exactly when a callback was supplied
    and the public key is sent; and it is the visible event immediately BEFORE the public key is
    handed to `_send` (nothing is sent and no callback runs after that). -/
theorem C05_callback_once (banner : Bytes) (keys : List Nat) (authT : Timeout) (hasCb : Bool) (t : Txn)
    (w w' : World) (r : Except Err Nat) (evs : List TEv) (hl : w.locks = [])
    (hr : ioConnect banner keys authT hasCb t w = (r, w')) (he : w'.trace = evs ++ w.trace) :
    callbacks evs ≤ 1 ∧
      (callbacks evs = 1 ↔
        (hasCb = true ∧ (⟨.AUTH, Generated.AUTH_RSAPUBLICKEY, 0, stubPub (keys.headD 0) ++ [0]⟩ : Msg) ∈ transmitted evs)) ∧
      (callbacks evs = 1 → ∃ pre post,
        vis evs = pre ++ .cbAuth :: .tx ⟨.AUTH, Generated.AUTH_RSAPUBLICKEY, 0, stubPub (keys.headD 0) ++ [0]⟩ :: post ∧
        cbs pre = 0 ∧ trn post = [] ∧ cbs post = 0) := by
  rw [transmitted_eq, callbacks_eq]
  rcases (ioConnect_run hl hr he).1 with ⟨h1, h2, h3⟩ | ⟨h1, vt, h3, h4⟩
  · simp [h3]
  · rw [h3]
    obtain ⟨g1, g2, g3⟩ := h4.cb_spec
    refine ⟨by simpa using g1, by simpa [pubMsg] using g2, fun hc => ?_⟩
    obtain ⟨pre, post, e1, e2, -, e4, e5⟩ := g3 (by simpa using hc)
    exact ⟨.tclose :: .tconnect :: pre, post, by rw [e1]; rfl, by simpa using e2, e4, e5⟩

/-- After the public key the device is given `auth_timeout_s`: if the public key was handed to
    `_send`, there is a world `w0` (reached when the last key had been rejected, callback event
    included) such that the outcome of `connect()` is: the exception of `_send(public key)` run
    in `w0`, or else exactly the outcome of `_read_expected_packet_from_device([CNXN])` run with
    `transport_timeout_s := auth_timeout_s` in the world `w1` that this `_send` produced — its
    exception, or the `arg1` of the packet it returns. (The lock set is empty again afterwards.) -/
theorem C05_auth_wait (banner : Bytes) (keys : List Nat) (authT : Timeout) (hasCb : Bool) (t : Txn)
    (w w' : World) (r : Except Err Nat) (evs : List TEv) (hl : w.locks = [])
    (hr : ioConnect banner keys authT hasCb t w = (r, w')) (he : w'.trace = evs ++ w.trace)
    (hm : (⟨.AUTH, Generated.AUTH_RSAPUBLICKEY, 0, stubPub (keys.headD 0) ++ [0]⟩ : Msg) ∈ transmitted evs) :
    ∃ w0 : World,
      match sendRaw ⟨.AUTH, Generated.AUTH_RSAPUBLICKEY, 0, stubPub (keys.headD 0) ++ [0]⟩ t w0 with
      | (.error e, w1) => r = .error e ∧ w' = { w1 with locks := [] }
      | (.ok _, w1) =>
        match expectPacket [.CNXN] { t with tt := authT } w1 with
        | (.ok p, w2) => r = .ok p.arg1 ∧ w' = { w2 with locks := [] }
        | (.error e, w2) => r = .error e ∧ w' = { w2 with locks := [] } := by
  obtain ⟨w0, w'', h1, rfl⟩ := (ioConnect_run hl hr he).2 (by rwa [← transmitted_eq])
  refine ⟨if hasCb = true then { w0 with trace := .cbAuth :: w0.trace } else w0, ?_⟩
  -- past the callback event, `pubkeyStep` is the `_send` followed by the read
  have h1' : (do sendRaw (pubMsg keys) t
                 let p ← expectPacket [.CNXN] { t with tt := authT }
                 pure p.arg1 : M Nat) (if hasCb = true then { w0 with trace := .cbAuth :: w0.trace } else w0) = (r, w'') := by
    cases hasCb <;> exact h1
  rw [bind_run] at h1'
  change match sendRaw (pubMsg keys) t _ with | (.error e, w1) => _ | (.ok _, w1) => _
  split at h1'
  · next u w1 hs =>
    rw [hs]
    dsimp only
    rw [bind_run] at h1'
    split at h1' <;> rename_i hx <;> rw [hx] <;> cases h1' <;> exact ⟨rfl, rfl⟩
  · next e w1 hs =>
    rw [hs]
    cases h1'
    exact ⟨rfl, rfl⟩

/-- `AdbDevice.connect()` (called with a usable read timeout, i.e. the transaction info can be
    built) runs `_AdbIOManager.connect` with the device's banner and the availability flag cleared;
    the two calls add the same events to the trace, so every C05 statement above applies to it. -/
theorem C05_connect_runs_handshake (keys : List Nat) (tt authT rt : Timeout) (cb : Bool) (w : World) (t : Txn)
    (hm : Txn.make none none (if tt.isSome = true then tt else w.defaultTT) rt none = .ok t)
    (res : Except Err Val) (w' : World) (hr : devConnect keys tt authT rt cb w = (res, w')) :
    ∃ r w1, ioConnect w.banner keys authT cb t { w with available := false } = (r, w1) ∧ w'.trace = w1.trace ∧
      res = r.map (fun _ => Val.bool true) := by
  rw [devConnect_run keys tt authT rt cb w t hm] at hr
  split at hr
  · next md w1 hc =>
    simp only [Prod.mk.injEq] at hr
    exact ⟨.ok md, w1, hc, by rw [← hr.2], hr.1.symm⟩
  · next e w1 hc =>
    simp only [Prod.mk.injEq] at hr
    exact ⟨.error e, w1, hc, by rw [← hr.2], hr.1.symm⟩

/-- `AdbDevice.connect()`: the device is marked available if and only if `connect()` returned
    normally (and then it returned True, a CNXN packet was the last packet read, every earlier one
    was an AUTH challenge, and the device's maxdata is that CNXN's `arg1`); whenever `connect()`
    raises, the device is left unavailable, its maxdata is unchanged and no CNXN packet was read. -/
theorem C05_available_iff (keys : List Nat) (tt authT rt : Timeout) (cb : Bool) (w : World) (t : Txn)
    (hm : Txn.make none none (if tt.isSome = true then tt else w.defaultTT) rt none = .ok t) (hl : w.locks = [])
    (res : Except Err Val) (w' : World) (evs : List TEv)
    (hr : devConnect keys tt authT rt cb w = (res, w')) (he : w'.trace = evs ++ w.trace) :
    (w'.available = true ↔ ∃ v, res = .ok v) ∧
    (∀ v, res = .ok v → v = .bool true ∧ ∃ ps p, delivered evs = ps ++ [p] ∧ (∀ x ∈ ps, x.cmd = .AUTH) ∧
        p.cmd = .CNXN ∧ w'.maxdata = p.arg1) ∧
    (∀ e, res = .error e → w'.available = false ∧ w'.maxdata = w.maxdata ∧ ∀ x ∈ delivered evs, x.cmd = .AUTH) := by
  rw [devConnect_run keys tt authT rt cb w t hm] at hr
  have hfr := Fr_ioConnect w.banner keys authT cb t { w with available := false }
  split at hr
  · next md w1 hc =>
    simp only [Prod.mk.injEq] at hr
    obtain ⟨rfl, rfl⟩ := hr
    obtain ⟨h1, -⟩ := C05_success_adopts_cnxn _ _ _ _ _ { w with available := false } _ _ _ hl hc he
    obtain ⟨ps, p, g1, g2, g3, g4⟩ := h1 md rfl
    refine ⟨by simp, ?_, by simp⟩
    intro v hv
    simp only [Except.ok.injEq] at hv
    exact ⟨hv.symm, ps, p, g1, g2, g3, g4⟩
  · next e w1 hc =>
    simp only [Prod.mk.injEq] at hr
    obtain ⟨rfl, rfl⟩ := hr
    obtain ⟨-, -, h2⟩ := C05_success_adopts_cnxn _ _ _ _ _ { w with available := false } _ _ _ hl hc he
    rw [hc] at hfr
    have ha : w1.available = false := by simpa using hfr.available
    have hmd : w1.maxdata = w.maxdata := by simpa using hfr.maxdata
    refine ⟨by simp [ha], by simp, ?_⟩
    intro e' _
    exact ⟨ha, hmd, h2 e rfl⟩

/-! ### Non-vacuity: concrete handshakes (evaluated by the kernel) -/

/-- Two challenges then CNXN(0x01000000, 4096, "device::x"), keys [7, 9], callback supplied:
    `connect()` returns True, the device is available with maxdata 4096, and the messages sent are
    CNXN, AUTH(signature of key 7 over the first token), AUTH(signature of key 9 over the second);
    the callback was not invoked. -/
example :
    let out := devConnect [7, 9] none (some 10240) (some 10240) true exWorldAuth
    out.1 = .ok (.bool true) ∧ out.2.available = true ∧ out.2.maxdata = 4096 ∧
      transmitted out.2.trace =
        [⟨.CNXN, Generated.VERSION, Generated.MAX_ADB_DATA, ascii "host::" ++ [0]⟩,
         ⟨.AUTH, Generated.AUTH_SIGNATURE, 0, stubSign 7 exTok1⟩,
         ⟨.AUTH, Generated.AUTH_SIGNATURE, 0, stubSign 9 exTok2⟩] ∧
      delivered out.2.trace = [⟨.AUTH, 1, 0, exTok1⟩, ⟨.AUTH, 1, 0, exTok2⟩, exCnxn] ∧
      callbacks out.2.trace = 0 := by
  decide +kernel

/-- The hypotheses of `C05_available_iff` / `C05_connect_runs_handshake` are satisfiable (same scenario). -/
example : ∃ w t res w' evs, Txn.make none none (if (none : Timeout).isSome = true then none else w.defaultTT)
      (some 10240) none = .ok t ∧ w.locks = [] ∧
    devConnect [7, 9] none (some 10240) (some 10240) true w = (res, w') ∧ w'.trace = evs ++ w.trace ∧
    res = .ok (.bool true) :=
  ⟨exWorldAuth, exTxn,
    (devConnect [7, 9] none (some 10240) (some 10240) true exWorldAuth).1,
    (devConnect [7, 9] none (some 10240) (some 10240) true exWorldAuth).2,
    (devConnect [7, 9] none (some 10240) (some 10240) true exWorldAuth).2.trace,
    by decide +kernel, rfl, pair_eta _, (List.append_nil _).symm, by decide +kernel⟩

/-- Only key 7 and a callback: the key is rejected, the callback runs once, the public key of key 7
    is offered, the device answers CNXN: success (hypotheses of `C05_pubkey_only_after_exhaustion`,
    `C05_callback_once`, `C05_auth_wait`, `C05_signatures`, `C05_success_adopts_cnxn`, `C05_first_message`). -/
example : ∃ w r w' evs, w.locks = [] ∧ canConnect w = true ∧
    ioConnect [] [7] (some 10240) true exTxn w = (r, w') ∧ w'.trace = evs ++ w.trace ∧ r = .ok 4096 ∧
    transmitted evs =
      [⟨.CNXN, Generated.VERSION, Generated.MAX_ADB_DATA, ascii "host::" ++ [0]⟩,
       ⟨.AUTH, Generated.AUTH_SIGNATURE, 0, stubSign 7 exTok1⟩,
       ⟨.AUTH, Generated.AUTH_RSAPUBLICKEY, 0, stubPub 7 ++ [0]⟩] ∧
    callbacks evs = 1 :=
  ⟨exWorldAuth,
    (ioConnect [] [7] (some 10240) true exTxn exWorldAuth).1,
    (ioConnect [] [7] (some 10240) true exTxn exWorldAuth).2,
    (ioConnect [] [7] (some 10240) true exTxn exWorldAuth).2.trace,
    rfl, by decide +kernel, pair_eta _, (List.append_nil _).symm, by decide +kernel, by decide +kernel,
    by decide +kernel⟩

/-- A challenge and no keys (hypotheses of `C05_no_keys`): DeviceAuthError. -/
example : ∃ w r w' evs p, w.locks = [] ∧ ioConnect [] [] (some 10240) false exTxn w = (r, w') ∧
    w'.trace = evs ++ w.trace ∧ (delivered evs).head? = some p ∧ p.cmd = .AUTH ∧ r = .error .deviceAuth :=
  ⟨exWorldChallenge,
    (ioConnect [] [] (some 10240) false exTxn exWorldChallenge).1,
    (ioConnect [] [] (some 10240) false exTxn exWorldChallenge).2,
    (ioConnect [] [] (some 10240) false exTxn exWorldChallenge).2.trace,
    ⟨.AUTH, 1, 0, exTok1⟩, rfl, pair_eta _, (List.append_nil _).symm, by decide +kernel, rfl, by decide +kernel⟩

/-- A token, then AUTH with arg0 = 5, two keys (hypotheses of `C05_non_token` with i = 1): InvalidResponseError. -/
example : ∃ w r w' evs c, w.locks = [] ∧ ioConnect [] [7, 9] (some 10240) false exTxn w = (r, w') ∧
    w'.trace = evs ++ w.trace ∧ (delivered evs)[1]? = some c ∧ c.cmd = .AUTH ∧ c.arg0 ≠ Generated.AUTH_TOKEN ∧
    1 < [7, 9].length ∧ r = .error .invalidResponse :=
  ⟨exWorldBad,
    (ioConnect [] [7, 9] (some 10240) false exTxn exWorldBad).1,
    (ioConnect [] [7, 9] (some 10240) false exTxn exWorldBad).2,
    (ioConnect [] [7, 9] (some 10240) false exTxn exWorldBad).2.trace,
    ⟨.AUTH, 5, 0, exTok2⟩, rfl, pair_eta _, (List.append_nil _).symm, by decide +kernel, rfl, by decide, by decide,
    by decide +kernel⟩

end Adb
