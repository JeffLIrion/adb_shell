import AdbProofs.Lemmas.StoreFind
/-
  C19 — buffered packets are kept per stream in FIFO order with correct wildcard lookup.
  The concrete model (`Adb.Store`, nested insertion-ordered dicts, transcribed from
  `_AdbPacketStore`) refines the abstract map `AStore : (arg0, arg1) ↦ FIFO queue`.
-/
namespace Adb
open Store

/-- The representation invariant holds initially and is preserved by every mutating operation. -/
theorem C19_inv_preserved (s : Store) (hI : Inv s) (a0 a1 : Nat) (cmd : Cmd) (d : Bytes) :
    Inv ([] : Store) ∧ Inv (s.put a0 a1 cmd d) ∧ Inv (s.clear a0 a1) ∧ Inv (s.clearAll)
      ∧ (∀ r s', s.get (some a0) (some a1) = .ok (r, s') → Inv s') := by
  refine ⟨inv_empty, inv_put hI a0 a1 cmd d, inv_clear hI a0 a1, inv_empty, ?_⟩
  intro r s' h
  have := get_concrete hI a0 a1
  split at this
  · rw [this] at h; cases h
  · rw [this] at h; cases h
  · obtain ⟨s'', hg, hI', -⟩ := this
    rw [hg] at h; cases h
    exact hI'

/-- Parking appends to the queue of exactly the pair the packet arrived with and changes no other
    pair; the only packet not parked is a CLSE for a pair the store has no entry for (K1, see C06). -/
theorem C19_put_abs (s : Store) (a0 a1 : Nat) (cmd : Cmd) (d : Bytes) :
    (fun b0 b1 => (s.put a0 a1 cmd d).queue b0 b1) = AStore.put (fun b0 b1 => s.queue b0 b1) a0 a1 cmd d := by
  have h := queue_put (s := s) a0 a1 cmd d
  unfold AStore.put
  by_cases hc : cmd = Cmd.CLSE ∧ s.queue a0 a1 = none
  · rw [h.1 hc]
    simp [hc]
  · simp only [hc, if_false]
    funext b0 b1
    by_cases hb : b0 = a0 ∧ b1 = a1
    · obtain ⟨h0, h1⟩ := hb; subst h0 h1
      simp [(h.2 hc).1]
    · simp [hb, (h.2 hc).2 b0 b1 hb]

/-- Retrieval: a packet comes back only under the pair it was parked with, oldest first; taking a
    stream's CLSE forgets that stream; an unknown pair or an exhausted queue is an error. -/
theorem C19_get_fifo (s : Store) (hI : Inv s) (a0 a1 : Nat) :
    (match s.get (some a0) (some a1) with
      | .ok (r, s') => Except.ok (r, fun b0 b1 => s'.queue b0 b1)
      | .error e => Except.error e)
    = AStore.get (fun b0 b1 => s.queue b0 b1) a0 a1 := by
  have := get_concrete hI a0 a1
  unfold AStore.get
  split at this
  · next hq => simp [this, hq]
  · next hq => simp [this, hq]
  · next c d q hq =>
    obtain ⟨s', hg, -, hq'⟩ := this
    simp only [hg, hq]
    congr 2
    funext b0 b1
    exact hq' b0 b1

theorem C19_clear_abs (s : Store) (hI : Inv s) (a0 a1 : Nat) :
    (fun b0 b1 => (s.clear a0 a1).queue b0 b1) = AStore.clear (fun b0 b1 => s.queue b0 b1) a0 a1 := by
  funext b0 b1; exact queue_clear hI a0 a1 b0 b1

/-- Clearing everything forgets everything. -/
theorem C19_clear_all (s : Store) : (fun b0 b1 => (s.clearAll).queue b0 b1) = AStore.empty := by
  funext b0 b1; simp [Store.clearAll, queue, AStore.empty]

/-- `pendingKeys` is exactly the set of pairs with a pending packet. -/
theorem C19_pending_iff (s : Store) (hI : Inv s) (k0 k1 : Nat) :
    (k0, k1) ∈ pendingKeys s ↔ ∃ q, s.queue k0 k1 = some q ∧ q ≠ [] := mem_pendingKeys hI k0 k1

/-- Lookup with exact ids, an unknown remote id (`none`), an unknown local id, or both: the answer is
    a pair that currently has a pending packet and matches; no answer only if no pending pair matches. -/
theorem C19_find_sound_complete (s : Store) (hI : Inv s) (p0 p1 : Option Nat) :
    (∀ k, s.find p0 p1 = some k → k ∈ pendingKeys s ∧ keyMatches p0 p1 k = true) ∧
    (s.find p0 p1 = none → ∀ k ∈ pendingKeys s, keyMatches p0 p1 k = false) := find_spec hI p0 p1

/-- Exact lookup returns the very pair asked for, exactly when it has a pending packet. -/
theorem C19_find_exact (s : Store) (hI : Inv s) (a0 a1 : Nat) :
    (s.find (some a0) (some a1) = some (a0, a1) ↔ ∃ q, s.queue a0 a1 = some q ∧ q ≠ []) ∧
    (∀ k, s.find (some a0) (some a1) = some k → k = (a0, a1)) := by
  have h := find_spec hI (some a0) (some a1)
  have hk : ∀ k, s.find (some a0) (some a1) = some k → k = (a0, a1) := by
    intro k hk
    have := (h.1 k hk).2
    obtain ⟨k0, k1⟩ := k
    simp [keyMatches] at this
    simp [this]
  refine ⟨⟨?_, ?_⟩, hk⟩
  · intro hf
    exact (mem_pendingKeys hI a0 a1).1 (h.1 _ hf).1
  · intro hq
    have hm := (mem_pendingKeys hI a0 a1).2 hq
    cases hf : s.find (some a0) (some a1) with
    | none => have := h.2 hf _ hm; simp [keyMatches] at this
    | some k => rw [hk k hf]

/-- The legacy zero-id fallbacks: same two clauses with the four patterns (a0,a1), (a0,0), (0,a1), (0,0). -/
theorem C19_zero_fallback (s : Store) (hI : Inv s) (p0 p1 : Option Nat) :
    (∀ k, s.findAllowZeros p0 p1 = some k → k ∈ pendingKeys s ∧ keyMatchesZ p0 p1 k = true) ∧
    (s.findAllowZeros p0 p1 = none → ∀ k ∈ pendingKeys s, keyMatchesZ p0 p1 k = false) :=
  findAllowZeros_spec hI p0 p1

/-- The reported number of pending streams is the number of pairs with pending packets. -/
theorem C19_len (s : Store) : s.len = (pendingKeys s).length := by
  induction s with
  | nil => simp [Store.len, pendingKeys]
  | cons p rest ih =>
    simp only [Store.len, pendingKeys, List.map_cons, List.sum_cons, List.flatMap_cons, List.length_append,
      List.length_map] at ih ⊢
    omega

/-- Any history: running any sequence of operations on the implementation-shaped store and on the
    abstract map from related states yields the same outputs and related states (refinement), and
    every reachable state satisfies the invariant (so the lookup theorems apply to it). -/
theorem C19_history (ops : List SOp) (s : Store) (a : AStore) (hI : Inv s)
    (hrel : (fun b0 b1 => s.queue b0 b1) = a) :
    (s.runOps ops).2 = (a.runOps ops).2
      ∧ (fun b0 b1 => (s.runOps ops).1.queue b0 b1) = (a.runOps ops).1
      ∧ Inv (s.runOps ops).1 := by
  induction ops generalizing s a with
  | nil => simp [Store.runOps, AStore.runOps, hrel, hI]
  | cons op ops ih =>
    have step : (s.stepOp op).2 = (a.stepOp op).2
        ∧ (fun b0 b1 => (s.stepOp op).1.queue b0 b1) = (a.stepOp op).1 ∧ Inv (s.stepOp op).1 := by
      subst hrel
      cases op with
      | put a0 a1 c d =>
        exact ⟨rfl, C19_put_abs s a0 a1 c d, inv_put hI a0 a1 c d⟩
      | clear a0 a1 => exact ⟨rfl, C19_clear_abs s hI a0 a1, inv_clear hI a0 a1⟩
      | clearAll => exact ⟨rfl, C19_clear_all s, inv_empty⟩
      | get a0 a1 =>
        have hg := C19_get_fifo s hI a0 a1
        have hinv := (C19_inv_preserved s hI a0 a1 Cmd.OKAY []).2.2.2.2
        simp only [Store.stepOp, AStore.stepOp]
        cases hc : s.get (some a0) (some a1) with
        | error e =>
          simp only [hc] at hg
          simp [← hg, hI]
        | ok v =>
          obtain ⟨r, s'⟩ := v
          simp only [hc] at hg
          simp [← hg, hinv r s' hc]
    obtain ⟨ho, hs, hi⟩ := step
    have := ih (s.stepOp op).1 (a.stepOp op).1 hi hs
    simp only [Store.runOps, AStore.runOps]
    exact ⟨by simp [ho, this.1], this.2.1, this.2.2⟩

/-- Non-vacuity: a concrete reachable store with two streams, one of them only reachable through a
    zero-id fallback; FIFO order and CLSE-forgets observed by evaluation. -/
example :
    let s := (((Store.empty.put 7 3 .WRTE [1]).put 7 3 .WRTE [2]).put 0 3 .OKAY []).put 7 3 .CLSE []
    Inv s ∧ s.len = 2
      ∧ s.find none (some 3) = some (7, 3)
      ∧ s.findAllowZeros (some 9) (some 3) = some (0, 3)
      ∧ (match s.get (some 7) (some 3) with | .ok (r, _) => some r | _ => none) = some (.WRTE, 7, 3, [1]) := by
  refine ⟨?_, by decide, by decide, by decide, by decide⟩
  exact inv_put (inv_put (inv_put (inv_put inv_empty _ _ _ _) _ _ _ _) _ _ _ _) _ _ _ _

end Adb
