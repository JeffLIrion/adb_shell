import AdbProofs.Lemmas.EndToEnd
import AdbProofs.Properties.C01
/-
  C01, end to end — the bridge between the wire layer (C03: packets are reconstructed exactly from the device's
  BYTE STREAM `World.inboundRest`, whatever the fragmentation) and the stream layer (C01/C04: the result is a
  function of the packets DELIVERED, read off the trace).  Here: the packets delivered are exactly the
  device's packets for this stream, in the order the device sent them, and the result of shell / exec_out is
  exactly the concatenation of what the device wrote on this stream between its OKAY and its CLSE — stated
  about the device's byte stream, for every fragmentation / gating / timing / fault script.

  Vocabulary (AdbProofs/Lemmas/EndToEnd.lean, namespace `Adb.E2E`):
  * `IsRaw p raw`        `raw` = 24-byte header ++ payload that `_read_packet_from_device` reads as `p`
  * `Frames ps bs tl`    the byte stream `bs` is frames of the packets `ps`, in order, followed by `tl`
  * `Readable tl`        `tl` starts with a frame the library would accept
  * `Fate`               what `read` did with a packet it read off the wire: `delivered` / `dropped` / `parked`
  * `wireFates evs`      the (fate, packet) pairs of the events `deliver` / `drop` / `park` / `lost`, oldest first
  * `fate ex t az p`     the fate `args_match` and `cmd ∈ expected` assign to `p`
  * `Reads F w w'`       `w'` arises from `w` by reading exactly the packets of `F` off the wire with these fates
                         (stream shortened by their frames, store updated by `storeStep`, wire events = `F`)
  * `Clean t az s`       the packet store `s` holds no pending packet that `read(…, t, az)` would take
  * `mine l r p`         `p.arg1 ∈ {l, 0}` and `p.arg0 ∈ {r, 0}`   (`args_match(…, allow_zeros=True)`)
  * `isOkayFor l p`      `p.arg1 = l` and `p.cmd = OKAY`
  * `Conversation l ps pre okay mid c rest`
                         `ps = pre ++ okay :: mid ++ c :: rest`, `okay` the FIRST OKAY for `l` in `ps`, `c` the FIRST
                         CLSE with the ids of the stream `(l, okay.arg0)` after it
  * `convItems l okay mid`   payloads of the WRTEs of `mid` with the stream's ids, in order
  * `convFates l pre okay mid c`  `pre`: parked (`arg1 ≠ l`) or dropped; `okay`: delivered; `mid`: delivered (this
                         stream's WRTE), dropped (this stream's ids, other command), parked (foreign); `c`: delivered
  * `streamItems l ps`   the same as an executable function: `some (items, rest)` or `none` (no complete conversation)
  * `NoEarlyZero l ps`   no packet with `arg1 = 0` precedes the OKAY for `l`
-/
namespace Adb

/-- One iteration of the `while True:` body of `_AdbIOManager.read` with an ARBITRARY packet store, returning
    normally: after discarding the unexpected parked packets `us` of this transaction, EITHER the result is an
    expected packet that was parked in the store (`E2E.Source.store`: nothing is consumed from the device
    stream), OR the store holds nothing more for the transaction and exactly one frame — 24-byte header +
    payload as in `C03_readPacket_exact` — is consumed from the device stream, reading as a packet `p` that is
    delivered / dropped / parked-or-lost according to `t.argsMatch p.arg0 p.arg1 az` and `p.cmd ∈ ex`
    (`E2E.Source.wire`, with the exact event, store update and result). -/
theorem C01_readIter_source (ex : List Cmd) (t : Txn) (az : Bool) (w w' : World) (r : Option Pkt)
    (h : readIter ex t az w = (.ok r, w')) :
    ∃ us, (∀ u ∈ us, u ∈ E2E.storePkts w.store ∧ t.accepts az u = true ∧ u.cmd ∉ ex) ∧ E2E.Source ex t az w r w' us := by
  rw [readIter_eq] at h
  obtain ⟨-, w1, hb, rfl⟩ := withLock_ok_inv h
  rw [bind_run_ok (M.get_run _)] at hb
  obtain ⟨o, w2, hd, hrest⟩ := bind_ok_inv hb
  obtain ⟨hfree, us, hD⟩ := E2E.lockedDrain_spec hd
  refine ⟨us, hD.unstored, ?_⟩
  have hout := hD.out
  cases o with
  | some p =>
    cases hrest
    exact .store p rfl hout.2.1 hout.2.2.1 hout.2.2.2 hD.inboundRest hout.1
  | none =>
    obtain ⟨p, raw, reqs, hreqs, hs⟩ := E2E.readIterTail_wire (hD.locks ▸ hfree) hrest
    refine .wire w2.store p raw reqs hout.2 hD.shrink hreqs hs.isRaw ?_ hs.store ?_ hs.res
    · exact hD.inboundRest ▸ hs.stream
    · exact hout.1 ▸ hs.trace

/-- `_AdbIOManager.read(ex, t, az)` returning `p` from an EMPTY packet store, the device's remaining byte stream
    being the concatenation of the encodings of the packets `ps` followed by arbitrary bytes `tail`: the packets
    read off the wire are a prefix `qs ++ [p]` of `ps`; `p` is the FIRST packet of `ps` whose ids match and whose
    command is expected; every earlier packet was parked (ids do not match; lost if a CLSE without store entry)
    or dropped (ids match, command unexpected) — these are the wire events recorded, in order; the store is
    updated packet by packet and again holds nothing for the transaction; the device stream continues with the
    encodings of `rest`.  (Only alternative: no packet of `ps` is deliverable and the read went on into `tail`,
    which then starts with a further readable frame.) -/
theorem C01_ioRead_from_empty_store (ex : List Cmd) (t : Txn) (az : Bool) (l : Nat) (w w' : World) (p : Pkt)
    (ps : List Pkt) (tail : Bytes) (hl : t.localId = some l) (hs : w.store = [])
    (hstream : w.inboundRest = (ps.map Pkt.encode).flatten ++ tail) (hpk : ∀ q ∈ ps, q.toMsg.Packable)
    (h : ioRead ex t az w = (.ok p, w')) :
    (∃ qs rest, ps = qs ++ p :: rest ∧
        (∀ q ∈ qs, ¬ (t.argsMatch q.arg0 q.arg1 az = true ∧ q.cmd ∈ ex)) ∧
        t.argsMatch p.arg0 p.arg1 az = true ∧ p.cmd ∈ ex ∧
        w'.inboundRest = (rest.map Pkt.encode).flatten ++ tail ∧
        w'.store = (E2E.classify ex t az (qs ++ [p])).foldl E2E.storeStep [] ∧ E2E.Clean t az w'.store ∧
        ∃ evs, w'.trace = evs ++ w.trace ∧ E2E.wireFates evs = E2E.classify ex t az (qs ++ [p]) ∧
          E2E.wirePkts evs = qs ++ [p] ∧ delivered evs = [p]) ∨
    ((∀ q ∈ ps, ¬ (t.argsMatch q.arg0 q.arg1 az = true ∧ q.cmd ∈ ex)) ∧ E2E.Readable tail) := by
  have hc : E2E.Clean t az w.store := by rw [hs]; exact E2E.Clean.empty t az
  have hf : E2E.Frames ps w.inboundRest tail := by rw [hstream]; exact E2E.Frames_encode tail hpk
  have hnd : ∀ q, E2E.fate ex t az q ≠ .delivered → ¬ (t.argsMatch q.arg0 q.arg1 az = true ∧ q.cmd ∈ ex) := by
    intro q hq hh
    exact hq (E2E.fate_delivered_iff.2 ⟨hh.1, by simpa using hh.2⟩)
  rcases E2E.ioRead_frames hl hc hf h with ⟨qs, rest, rfl, hqs, hp, -, hR, hc'⟩ | ⟨hno, hread⟩
  · obtain ⟨hpm, hpc⟩ := E2E.fate_delivered_iff.1 hp
    obtain ⟨evs, htr, hfates⟩ := hR.trace
    refine Or.inl ⟨qs, rest, rfl, fun q hq => hnd q (hqs q hq), hpm, by simpa using hpc, ?_, ?_, hc', evs, htr, hfates, ?_, ?_⟩
    · exact E2E.Frames.encode_rest (by simp) hpk hstream hR.frames
    · rw [hR.store, hs]
    · rw [E2E.wirePkts, hfates, E2E.classify, E2E.map_snd_fates]
    · obtain ⟨evs', htr', -, hd, -⟩ := ioRead_dt h
      have : evs' = evs := List.append_cancel_right (htr'.symm.trans htr)
      rw [← this]; exact (hd p rfl).1
  · exact Or.inr ⟨fun q hq => hnd q (hno q hq), hread⟩

/-- `_read_until_close` on the open stream `(l, r)` returning normally, the packet store holding nothing for the
    stream (e.g. empty), the device's remaining byte stream being the encodings of `ps` followed by `tail`:
    `ps = mid ++ c :: rest` where `c` is the FIRST CLSE carrying the stream's ids; the items are EXACTLY the payloads
    of the WRTEs of `mid` carrying the stream's ids, in order; the packets read off the wire are exactly
    `mid ++ [c]` — the foreign ones parked, this stream's non-WRTE ones dropped — and the device stream
    continues with the encodings of `rest`.  (Only alternative: `ps` contains no CLSE of this stream and reading
    went on into `tail`.) -/
theorem C01_readUntilClose_end_to_end (t : Txn) (l r : Nat) (w w' : World) (items : List Bytes) (ps : List Pkt)
    (tail : Bytes) (hl : t.localId = some l) (hr : t.remoteId = some r) (hc : E2E.Clean t true w.store)
    (hstream : w.inboundRest = (ps.map Pkt.encode).flatten ++ tail) (hpk : ∀ q ∈ ps, q.toMsg.Packable)
    (h : readUntilClose t w = (.ok items, w')) :
    (∃ mid c rest, ps = mid ++ c :: rest ∧
        (∀ q ∈ mid, ¬ (E2E.mine l r q = true ∧ q.cmd = .CLSE)) ∧ E2E.mine l r c = true ∧ c.cmd = .CLSE ∧
        items = (mid.filter (fun q => E2E.mine l r q && q.cmd == .WRTE)).map (·.data) ∧
        w'.inboundRest = (rest.map Pkt.encode).flatten ++ tail ∧
        ∃ evs, w'.trace = evs ++ w.trace ∧
          E2E.wireFates evs = (mid ++ [c]).map (fun p => (E2E.fateStream l r p, p))) ∨
    (E2E.closeItems l r ps = none ∧ E2E.Readable tail) := by
  have hf : E2E.Frames ps w.inboundRest tail := by rw [hstream]; exact E2E.Frames_encode tail hpk
  rcases E2E.readUntilClose_frames hl hr hc hf h with ⟨mid, c, rest, rfl, hmid, hcm, hcc, hitems, -, hR⟩ | hno
  · obtain ⟨evs, htr, hfates⟩ := hR.trace
    refine Or.inl ⟨mid, c, rest, rfl, hmid, hcm, hcc, hitems, ?_, evs, htr, hfates⟩
    exact E2E.Frames.encode_rest (by simp) hpk hstream hR.frames
  · exact Or.inr hno

/-- END TO END, decode=False.  Assume the packet store is empty, the open connection's remaining device byte
    stream is the concatenation of the encodings of the packets `ps` followed by bytes `tail` that do not start
    with a further readable frame (nothing, a truncated or corrupt frame, fewer than 24 bytes:
    `E2E.not_readable_of_short`), and no packet with `arg1 = 0` precedes the OKAY for the new local id
    `l = nextId w.localId` (`E2E.NoEarlyZero`; implied by "no packet of `ps` has `arg1 = 0`",
    `E2E.NoEarlyZero.of_nonzero`; the hypothesis cannot be dropped, see the example below).  If `_service`
    (shell / exec_out) returns `v`, then — for EVERY segmentation, gating, read fragmentation, timing and fault
    script — `ps` contains the conversation `pre ++ okay :: mid ++ c :: rest`: `okay` the first OKAY for `l`, `c`
    the first CLSE after it with the ids `(okay.arg0 or 0, l or 0)`, and
    * `v` is EXACTLY the concatenation of the payloads of the WRTE packets of `mid` with these ids — what the
      device wrote on this stream between its OKAY and its CLSE; nothing of any other stream, nothing before
      the OKAY, nothing after the CLSE;
    * the packets read off the wire are exactly `pre ++ okay :: mid ++ [c]` (`wirePkts`), with the fates
      `E2E.convFates`: foreign packets parked in the store, this stream's other commands dropped;
    * what was DELIVERED (the stream-layer reading of C01/C04) is exactly `okay`, those WRTEs, `c`;
    * the device stream continues with the encodings of `rest` (then `tail`): nothing beyond the CLSE is consumed. -/
theorem C01_end_to_end (svc cmd : Bytes) (tt rt total : Timeout) (w w' : World) (v : Val) (ps : List Pkt)
    (tail : Bytes) (hs : w.store = [])
    (hstream : w.inboundRest = (ps.map Pkt.encode).flatten ++ tail) (hpk : ∀ p ∈ ps, p.toMsg.Packable)
    (htail : ¬ E2E.Readable tail) (hz : E2E.NoEarlyZero (nextId w.localId) ps)
    (h : service svc cmd tt rt total false w = (.ok v, w')) :
    ∃ pre okay mid c rest, E2E.Conversation (nextId w.localId) ps pre okay mid c rest ∧
      v = .bytes ((mid.filter (fun q => E2E.mine (nextId w.localId) okay.arg0 q && q.cmd == .WRTE)).map (·.data)).flatten ∧
      w'.inboundRest = (rest.map Pkt.encode).flatten ++ tail ∧
      w'.store = (E2E.convFates (nextId w.localId) pre okay mid c).foldl E2E.storeStep [] ∧
      ∃ evs, w'.trace = evs ++ w.trace ∧
        E2E.wireFates evs = E2E.convFates (nextId w.localId) pre okay mid c ∧
        E2E.wirePkts evs = pre ++ okay :: (mid ++ [c]) ∧
        delivered evs = okay :: mid.filter (fun q => E2E.mine (nextId w.localId) okay.arg0 q && q.cmd == .WRTE) ++ [c] := by
  obtain ⟨r0, hsc, hr⟩ := service_inv h
  obtain ⟨items, rfl, hv⟩ := Except.map_eq_ok hr.symm
  obtain ⟨pre, okay, mid, c, rest, hconv, rfl, hrest, hst, evs, htr, h1, h2, h3⟩ :=
    E2E.streamingCommand_conversation hs hstream hpk htail hz hsc
  exact ⟨pre, okay, mid, c, rest, hconv, hv, hrest, hst, evs, htr, h1, h2, h3⟩

/-- END TO END, decode=True: the same, the value being the backslash-escaping UTF-8 decoding of that concatenation. -/
theorem C01_end_to_end_decoded (svc cmd : Bytes) (tt rt total : Timeout) (w w' : World) (v : Val) (ps : List Pkt)
    (tail : Bytes) (hs : w.store = [])
    (hstream : w.inboundRest = (ps.map Pkt.encode).flatten ++ tail) (hpk : ∀ p ∈ ps, p.toMsg.Packable)
    (htail : ¬ E2E.Readable tail) (hz : E2E.NoEarlyZero (nextId w.localId) ps)
    (h : service svc cmd tt rt total true w = (.ok v, w')) :
    ∃ pre okay mid c rest, E2E.Conversation (nextId w.localId) ps pre okay mid c rest ∧
      v = .str (Utf8.decodeBS
        ((mid.filter (fun q => E2E.mine (nextId w.localId) okay.arg0 q && q.cmd == .WRTE)).map (·.data)).flatten) ∧
      w'.inboundRest = (rest.map Pkt.encode).flatten ++ tail ∧
      ∃ evs, w'.trace = evs ++ w.trace ∧
        E2E.wireFates evs = E2E.convFates (nextId w.localId) pre okay mid c ∧
        delivered evs = okay :: mid.filter (fun q => E2E.mine (nextId w.localId) okay.arg0 q && q.cmd == .WRTE) ++ [c] := by
  obtain ⟨r0, hsc, hr⟩ := service_inv h
  obtain ⟨items, rfl, hv⟩ := Except.map_eq_ok hr.symm
  obtain ⟨pre, okay, mid, c, rest, hconv, rfl, hrest, -, evs, htr, h1, -, h3⟩ :=
    E2E.streamingCommand_conversation hs hstream hpk htail hz hsc
  exact ⟨pre, okay, mid, c, rest, hconv, hv, hrest, evs, htr, h1, h3⟩

/-- END TO END for streaming_shell (fully consumed): one item per WRTE payload of the conversation, in order. -/
theorem C01_end_to_end_streaming (svc cmd : Bytes) (tt rt : Timeout) (decode : Bool) (w w' : World) (v : Val)
    (ps : List Pkt) (tail : Bytes) (hs : w.store = [])
    (hstream : w.inboundRest = (ps.map Pkt.encode).flatten ++ tail) (hpk : ∀ p ∈ ps, p.toMsg.Packable)
    (htail : ¬ E2E.Readable tail) (hz : E2E.NoEarlyZero (nextId w.localId) ps)
    (h : streamingService svc cmd tt rt decode w = (.ok v, w')) :
    ∃ pre okay mid c rest, E2E.Conversation (nextId w.localId) ps pre okay mid c rest ∧
      v = .items ((mid.filter (fun q => E2E.mine (nextId w.localId) okay.arg0 q && q.cmd == .WRTE)).map
            fun q => if decode then Item.str (Utf8.decodeBS q.data) else Item.bytes q.data) ∧
      w'.inboundRest = (rest.map Pkt.encode).flatten ++ tail ∧
      ∃ evs, w'.trace = evs ++ w.trace ∧ E2E.wireFates evs = E2E.convFates (nextId w.localId) pre okay mid c := by
  obtain ⟨r0, hsc, hr⟩ := streamingService_inv h
  obtain ⟨items, rfl, hv⟩ := Except.map_eq_ok hr.symm
  obtain ⟨pre, okay, mid, c, rest, hconv, rfl, hrest, -, evs, htr, h1, -⟩ :=
    E2E.streamingCommand_conversation hs hstream hpk htail hz hsc
  refine ⟨pre, okay, mid, c, rest, hconv, ?_, hrest, evs, htr, h1⟩
  rw [hv, E2E.convItems, List.map_map]
  rfl

/-- END TO END as a function of the device's packets, for an ARBITRARY continuation `tail` of the stream: if the
    reference semantics `E2E.streamItems` finds the complete conversation in `ps` — items `items`, packets
    `rest` left over — then whenever `_service` returns, its value is the (decoded) concatenation of `items` and
    the device stream continues with the encodings of `rest`, then `tail`. -/
theorem C01_end_to_end_output (svc cmd : Bytes) (tt rt total : Timeout) (decode : Bool) (w w' : World) (v : Val)
    (ps : List Pkt) (tail : Bytes) (items : List Bytes) (rest : List Pkt) (hs : w.store = [])
    (hstream : w.inboundRest = (ps.map Pkt.encode).flatten ++ tail) (hpk : ∀ p ∈ ps, p.toMsg.Packable)
    (hz : E2E.NoEarlyZero (nextId w.localId) ps)
    (hspec : E2E.streamItems (nextId w.localId) ps = some (items, rest))
    (h : service svc cmd tt rt total decode w = (.ok v, w')) :
    v = (if decode then .str (Utf8.decodeBS items.flatten) else .bytes items.flatten) ∧
      w'.inboundRest = (rest.map Pkt.encode).flatten ++ tail := by
  obtain ⟨r0, hsc, hr⟩ := service_inv h
  obtain ⟨items, rfl, hv⟩ := Except.map_eq_ok hr.symm
  rcases E2E.streamingCommand_encode hs hstream hpk hz hsc with ⟨pre, okay, mid, c, rest', hconv, rfl, hrest, -⟩ | ⟨hnone, -⟩
  · rw [hconv.streamItems] at hspec
    simp only [Option.some.injEq, Prod.mk.injEq] at hspec
    obtain ⟨rfl, rfl⟩ := hspec
    exact ⟨hv, hrest⟩
  · rw [hnone] at hspec; cases hspec

/-- the reference semantics is the conversation: `streamItems` terminates exactly when `ps` contains the
    conversation, and then yields its items and its rest -/
theorem C01_streamItems_iff (l : Nat) (ps : List Pkt) (items : List Bytes) (rest : List Pkt) :
    E2E.streamItems l ps = some (items, rest) ↔
      ∃ pre okay mid c, E2E.Conversation l ps pre okay mid c rest ∧ items = E2E.convItems l okay mid := by
  constructor
  · exact E2E.streamItems_some
  · rintro ⟨pre, okay, mid, c, hconv, rfl⟩
    exact hconv.streamItems

/-! ### Non-vacuity -/

/-! `E2E.demoShellPkts` are the packets the peer of `demoShellWorld` sends: OKAY(77,1), a foreign WRTE(5,9,"x"),
    "€!" split over two WRTEs(77,1), CLSE(77,1). -/

/-- non-vacuity of `C01_readIter_source`, store case: a WRTE of the stream (77, 1) parked in the store is returned by
    one iteration without touching the device stream — and, wire case: with an empty store the iteration reads one
    frame (here a foreign WRTE, which is parked: result `None`). -/
example :
    let w : World := { demoWorld [⟨.WRTE, 5, 9, [120]⟩] with store := Store.put [] 77 1 .WRTE [1] }
    (readIter [.WRTE] demoTxn true w).1.toOption = some (some ⟨.WRTE, 77, 1, [1]⟩) ∧
      (readIter [.WRTE] demoTxn true w).2.inboundRest = w.inboundRest ∧
      (readIter [.WRTE] demoTxn true (demoWorld [⟨.WRTE, 5, 9, [120]⟩])).1.toOption = some none ∧
      (readIter [.WRTE] demoTxn true (demoWorld [⟨.WRTE, 5, 9, [120]⟩])).2.inboundRest = [] ∧
      E2E.wireFates (readIter [.WRTE] demoTxn true (demoWorld [⟨.WRTE, 5, 9, [120]⟩])).2.trace
        = [(.parked, ⟨.WRTE, 5, 9, [120]⟩)] := by
  decide +kernel

/-- non-vacuity of `C01_ioRead_from_empty_store`: `_open`'s read (expected = [OKAY], allow_zeros=False, local id 1) on
    the stream  foreign WRTE(5,9) · WRTE(77,1) · OKAY(77,1) · CLSE(77,1)  returns the OKAY; the foreign WRTE was
    parked, the early WRTE for local id 1 dropped; the CLSE is still in the stream. -/
example :
    let t : Txn := ⟨some 1, none, some 10240, some 10240, none⟩
    let ps : List Pkt := [⟨.WRTE, 5, 9, [120]⟩, ⟨.WRTE, 77, 1, [7]⟩, ⟨.OKAY, 77, 1, []⟩, ⟨.CLSE, 77, 1, []⟩]
    (demoWorld ps).store = [] ∧ (demoWorld ps).inboundRest = (ps.map Pkt.encode).flatten ++ [] ∧
      (∀ q ∈ ps, q.toMsg.Packable) ∧
      (ioRead [.OKAY] t false (demoWorld ps)).1.toOption = some ⟨.OKAY, 77, 1, []⟩ ∧
      E2E.wireFates (ioRead [.OKAY] t false (demoWorld ps)).2.trace =
        [(.parked, ⟨.WRTE, 5, 9, [120]⟩), (.dropped, ⟨.WRTE, 77, 1, [7]⟩), (.delivered, ⟨.OKAY, 77, 1, []⟩)] ∧
      (ioRead [.OKAY] t false (demoWorld ps)).2.inboundRest = (⟨.CLSE, 77, 1, []⟩ : Pkt).encode := by
  refine ⟨rfl, E2E.demoWorld_inboundRest _, by decide, ?_⟩
  decide +kernel

/-- non-vacuity of `C01_readUntilClose_end_to_end`: the open stream (77, 1) of `demoTxn`, empty store, device stream
    foreign WRTE · "€" first half · an OKAY of this stream (dropped) · second half · CLSE · a further foreign packet. -/
example :
    let ps : List Pkt := [⟨.WRTE, 5, 9, [120]⟩, ⟨.WRTE, 77, 1, [0xE2, 0x82]⟩, ⟨.OKAY, 77, 1, []⟩, ⟨.WRTE, 77, 1, [0xAC, 0x21]⟩,
      ⟨.CLSE, 77, 1, []⟩, ⟨.WRTE, 5, 9, [121]⟩]
    E2E.Clean demoTxn true (demoWorld ps).store ∧ (demoWorld ps).inboundRest = (ps.map Pkt.encode).flatten ++ [] ∧
      (readUntilClose demoTxn (demoWorld ps)).1.toOption = some [[0xE2, 0x82], [0xAC, 0x21]] ∧
      E2E.wireFates (readUntilClose demoTxn (demoWorld ps)).2.trace =
        [(.parked, ⟨.WRTE, 5, 9, [120]⟩), (.delivered, ⟨.WRTE, 77, 1, [0xE2, 0x82]⟩), (.dropped, ⟨.OKAY, 77, 1, []⟩),
         (.delivered, ⟨.WRTE, 77, 1, [0xAC, 0x21]⟩), (.delivered, ⟨.CLSE, 77, 1, []⟩)] ∧
      (readUntilClose demoTxn (demoWorld ps)).2.inboundRest = (⟨.WRTE, 5, 9, [121]⟩ : Pkt).encode := by
  refine ⟨E2E.Clean.empty _ _, E2E.demoWorld_inboundRest _, ?_⟩
  decide +kernel

/-- the hypotheses of `C01_end_to_end` hold in `demoShellWorld` (empty store, stream = encodings of `E2E.demoShellPkts`,
    packable, nothing after them, no zero ids), and `_service` returns there -/
example : demoShellWorld.store = [] ∧
    demoShellWorld.inboundRest = (E2E.demoShellPkts.map Pkt.encode).flatten ++ [] ∧ (∀ p ∈ E2E.demoShellPkts, p.toMsg.Packable) ∧
    ¬ E2E.Readable [] ∧ E2E.NoEarlyZero (nextId demoShellWorld.localId) E2E.demoShellPkts ∧
    ∃ v w', service (ascii "shell") [108, 115] none (some 10240) none false demoShellWorld = (.ok v, w') :=
  ⟨rfl, E2E.demoWorld_inboundRest E2E.demoShellPkts, by decide, E2E.not_readable_of_short (by decide),
    E2E.NoEarlyZero.of_nonzero (by decide), .bytes [0xE2, 0x82, 0xAC, 0x21], _,
    run_ok_of_toOption (x := service (ascii "shell") [108, 115] none (some 10240) none false) (w := demoShellWorld)
      (by decide +kernel)⟩

/-- the conclusion, evaluated: the reference semantics on the device's packets gives the two payloads of this
    stream (without the foreign "x") and leaves nothing over -/
example : E2E.streamItems (nextId demoShellWorld.localId) E2E.demoShellPkts = some ([[0xE2, 0x82], [0xAC, 0x21]], []) := by
  decide +kernel

/-- … hence, BY THE THEOREM (not by running the model), whatever `_service` returns in `demoShellWorld` is the four
    bytes and the device stream is used up -/
example (v : Val) (w' : World)
    (h : service (ascii "shell") [108, 115] none (some 10240) none false demoShellWorld = (.ok v, w')) :
    v = .bytes [0xE2, 0x82, 0xAC, 0x21] ∧ w'.inboundRest = [] := by
  have := C01_end_to_end_output (ascii "shell") [108, 115] none (some 10240) none false demoShellWorld w' v E2E.demoShellPkts []
    [[0xE2, 0x82], [0xAC, 0x21]] [] rfl (E2E.demoWorld_inboundRest E2E.demoShellPkts) (by decide)
    (E2E.NoEarlyZero.of_nonzero (by decide)) (by decide +kernel) h
  simpa using this

/-- and the decomposition `C01_end_to_end` speaks about is the expected one -/
example : E2E.Conversation 1 E2E.demoShellPkts [] ⟨.OKAY, 77, 1, []⟩
    [⟨.WRTE, 5, 9, [120]⟩, ⟨.WRTE, 77, 1, [0xE2, 0x82]⟩, ⟨.WRTE, 77, 1, [0xAC, 0x21]⟩] ⟨.CLSE, 77, 1, []⟩ [] ∧
    E2E.convFates 1 [] ⟨.OKAY, 77, 1, []⟩
      [⟨.WRTE, 5, 9, [120]⟩, ⟨.WRTE, 77, 1, [0xE2, 0x82]⟩, ⟨.WRTE, 77, 1, [0xAC, 0x21]⟩] ⟨.CLSE, 77, 1, []⟩ =
      [(.delivered, ⟨.OKAY, 77, 1, []⟩), (.parked, ⟨.WRTE, 5, 9, [120]⟩), (.delivered, ⟨.WRTE, 77, 1, [0xE2, 0x82]⟩),
       (.delivered, ⟨.WRTE, 77, 1, [0xAC, 0x21]⟩), (.delivered, ⟨.CLSE, 77, 1, []⟩)] :=
  ⟨⟨rfl, by simp, by decide, by decide, by decide⟩, by decide⟩

/-- The zero-id hypothesis `NoEarlyZero` cannot be dropped: the device sends WRTE(77, 0, "z") BEFORE the OKAY(77, 1)
    and then closes.  While `_open` waits (allow_zeros=False) the WRTE is parked under (77, 0); `_read_until_close`
    (allow_zeros=True) then takes it out of the store as if it belonged to the new stream: `_service` returns "z",
    although the device wrote nothing between the OKAY and the CLSE (`streamItems` gives no items). -/
example :
    let zeroPkts : List Pkt := [⟨.WRTE, 77, 0, [122]⟩, ⟨.OKAY, 77, 1, []⟩, ⟨.CLSE, 77, 1, []⟩]
    (service (ascii "shell") [108, 115] none (some 10240) none false (demoWorld zeroPkts)).1.toOption = some (.bytes [122]) ∧
      E2E.streamItems 1 zeroPkts = some ([], []) ∧ ¬ E2E.NoEarlyZero 1 zeroPkts := by
  refine ⟨by decide +kernel, by decide +kernel, ?_⟩
  intro h
  obtain ⟨o, ho, -⟩ := h [] ⟨.WRTE, 77, 0, [122]⟩ [⟨.OKAY, 77, 1, []⟩, ⟨.CLSE, 77, 1, []⟩] rfl rfl
  simp at ho

end Adb
