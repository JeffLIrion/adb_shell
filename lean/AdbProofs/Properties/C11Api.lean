import AdbProofs.Lemmas.TimeFrameApi
import AdbProofs.Lemmas.SilentFrame
/-
  C11 (whole operations) — the per-wait bounds of C11.lean lifted to WHOLE API operations by a compositional
  "time frame" proved once per model function (helper lemmas: AdbProofs/Lemmas/TimeFrame*.lean).

  Setting (as in C11.lean): virtual clock `World.now` in ticks; `R` = effective read timeout, `τ` = effective
  transport timeout, both numbers ≥ 0; conforming transport: every completed call takes between 1 and `D`
  ticks.  These are bundled in `P : TP` (fields `R τ D`, the device object's default transport timeout `dtt`,
  the local files, and a static loop-budget part `F`, used by `push` only).
      `P.W = R + 2 * (R + max D τ)`   one wait of `_AdbIOManager.read` (C11_ioRead_bound)
      `P.S = R + max D τ`             one write wait of `_write_all`      (C11_writeAll_bound)
  Accounting: every successful wait delivers exactly one packet to the operation (a `deliver` event of the
  trace) and every `_send` is one `tx` event (one write wait for the header, one more for a non-empty payload).
  For the events `evs` an operation added to the trace:
      `rxCount evs` = packets delivered, `txCount evs` = write waits of the messages sent (each 1 or 2),
      `rxBytes evs` = payload bytes delivered.
  `TPre P w`: the device object is idle in `w` (no lock held), its transport conforms (`w.CallCost P.D`), its
  default transport timeout and local files are the ones recorded in `P`.
  `EffT P tt rt total`: the timeouts that `_AdbTransactionInfo.__init__` stores for the arguments
  `(transport_timeout_s, read_timeout_s, timeout_s) = (tt, rt, total)` are the numbers `P.τ`, `P.R`
  (C11_txn_values: read = min(rt, total), transport = min(tt or default, read)).
  Only property theorems and non-vacuity examples live here.
-/
namespace Adb

/-- What the time frame `TF P X x` of a model function `x` says, in plain terms.  Whatever the device and the
    transport script do, a run `x w = (r, w')` only adds events `evs` to the trace, and if the device object
    was idle on a conforming transport and the loop budget exceeds
    `parked packets + justified time of evs + delivered bytes + X + R + F`, then: the result is not `hang`;
    the device object is idle again (no lock left held, same transport discipline) and the budget is
    untouched; time did not go backwards; the elapsed time is at most
    `(packets delivered) * W + (write waits) * S`, plus the allowance `X` when the run ended in an exception
    (`X = W` = one failing wait); and at most one packet per elapsed tick was parked in the store. -/
theorem C11_frame_meaning {α : Type} (P : TP) (X : Int) (x : M α) (hx : TF P X x) (w : World) (r : Except Err α)
    (w' : World) (h : x w = (r, w')) :
    ∃ evs, w'.trace = evs ++ w.trace ∧
      (TPre P w →
       (parkedCount w.store : Int) + ((rxCount evs : Int) * P.W + (txCount evs : Int) * P.S) + (rxBytes evs : Int)
          + X + P.R + P.F < w.fuel →
       r ≠ .error .hang ∧ TPre P w' ∧ w'.fuel = w.fuel ∧ 0 ≤ w'.now - w.now ∧
       w'.now - w.now ≤ (rxCount evs : Int) * P.W + (txCount evs : Int) * P.S + (if okB r then 0 else X) ∧
       (parkedCount w'.store : Int) ≤ parkedCount w.store + (w'.now - w.now)) := by
  obtain ⟨⟨evs, he⟩, hf⟩ := hx w r w' h
  refine ⟨evs, he, fun hp hb => ?_⟩
  obtain ⟨hc, hn⟩ := tcost_of_trace (P := P) he
  obtain ⟨a, b⟩ := hf hp (by unfold Budget; rw [hn]; omega)
  have t := b.time
  have pk := b.park
  have mo := b.mono
  rw [hc] at t
  refine ⟨isHang_false_iff.1 a, b.pre, b.fuel, by omega, ?_, by omega⟩
  split at t <;> simp_all

/-- The time frame of the stream layer, allowance `W` (one failing wait).  For a transaction `t` that stores
    the effective timeouts: `_okay`, `_clse`, `_read_until`, `_read_until_close` (with or without a
    whole-command limit); for arguments whose effective timeouts are `P.R`, `P.τ`: `_open` and
    `_streaming_command`.  Read with `C11_frame_meaning`: e.g. `_read_until_close` that yields `n` items and
    then meets silence takes at most `(n + 1) * W + n * S` ticks and then fails (never hangs). -/
theorem C11_frame_stream (P : TP) :
    (∀ t : Txn, t.rt = some P.R → t.tt = some P.τ →
      TF P P.W (okay t) ∧ TF P P.W (clse t) ∧ (∀ ex, TF P P.W (readUntil ex t)) ∧ TF P P.W (readUntilClose t)) ∧
    (∀ tt rt total, EffT P tt rt total →
      (∀ dest, TF P P.W (openStream dest tt rt total)) ∧
      (∀ svc cmd, TF P P.W (streamingCommand svc cmd tt rt total))) :=
  ⟨fun t hrt htt =>
      have ht : TxnOf P t := ⟨hrt, htt⟩
      ⟨TF_okay t ht P.W_nonneg, TF_clse t ht (Int.le_refl _),
        fun ex => TF_readUntil ex t ht (Int.le_refl _), TF_readUntilClose t ht (Int.le_refl _)⟩,
   fun tt rt total heff => ⟨fun dest => TF_openStream dest tt rt total heff (Int.le_refl _),
      fun svc cmd => TF_streamingCommand svc cmd tt rt total heff (Int.le_refl _)⟩⟩

/-- Whole-command limit: `shell` / `exec_out` / `root` (and `reboot`) called with `timeout_s = T` on an idle
    device object end no later than
        `T + (2 * S + W) + (W + S)`
    after they started: the OPEN exchange (one send with payload = two write waits, one wait for the OKAY), the
    limit (tested after every yielded item), and ONE more iteration of the stream loop (one wait + one
    OKAY/CLSE send) — INDEPENDENT of how much the device sends; never `hang`, provided the loop budget
    exceeds `parked + (2 * S + W) + T + R`.  The harness oracle `o_c11_total` tests this bound, `T + 2 * W + 3 * S`
    with `S = R + max D τ`. -/
theorem C11_shell_total (P : TP) (T : Int) (hT : 0 ≤ T) (tt rt : Timeout) (heff : EffT P tt rt (some T)) (op : ApiOp)
    (hop : (∃ cmd dec, op = .shell cmd tt rt (some T) dec) ∨ (∃ cmd dec, op = .execOut cmd tt rt (some T) dec) ∨
      op = .root tt rt (some T) ∨ ∃ fb, op = .reboot fb tt rt (some T))
    (w : World) (r : Except Err Val) (w' : World) (h : op.run w = (r, w')) (hp : TPre P w)
    (hfuel : (parkedCount w.store : Int) + (2 * P.S + P.W) + T + P.R < w.fuel) :
    r ≠ .error .hang ∧ TPre P w' ∧ 0 ≤ w'.now - w.now ∧ w'.now - w.now ≤ T + (2 * P.S + P.W) + (P.W + P.S) := by
  have hS := P.S_pos
  have hW := P.W_pos
  rcases hop with ⟨cmd, dec, rfl⟩ | ⟨cmd, dec, rfl⟩ | rfl | ⟨fb, rfl⟩
  · obtain ⟨a, b, c, d⟩ := devShellLike_total hT heff h hp hfuel
    exact ⟨isHang_false_iff.1 b, a, by omega, d⟩
  · obtain ⟨a, b, c, d⟩ := devShellLike_total hT heff h hp hfuel
    exact ⟨isHang_false_iff.1 b, a, by omega, d⟩
  · obtain ⟨a, b, c, d⟩ := devRoot_total hT heff h hp hfuel
    exact ⟨isHang_false_iff.1 b, a, by omega, d⟩
  · obtain ⟨a, b, c, d⟩ := devReboot_total heff h hp (by omega)
    exact ⟨isHang_false_iff.1 b, a, by omega, by omega⟩

/-- The time frame of the FileSync layer and of the operations built on it.  For a transaction `t` that stores
    the effective timeouts: `_filesync_flush`, `_filesync_send`, `_filesync_read_buffered`, `_filesync_read`
    and the final status read of `_push` (allowance `W`).  For arguments whose effective timeouts are `P.R`,
    `P.τ`: `stat`, `list`, `push` (allowance `W`; `push` needs the static budget `F` to cover the local
    files), and `pull` with allowance `2 * W`: after a failing wait `pull` still runs its close handshake,
    which may wait once more (C11 allows `pull` to report the error met while closing).  Iterations of the
    record loops of `list` / `_pull` that are served from the receive buffer take no time; the loop fuel they
    need is covered by the delivered payload bytes in the budget. -/
theorem C11_frame_filesync (P : TP) :
    (∀ t : Txn, t.rt = some P.R → t.tt = some P.τ → ∀ fi : FsInfo,
      TF P P.W (fsFlush t fi) ∧ (∀ id data size, TF P P.W (fsSend id t fi data size)) ∧
      (∀ n, TF P P.W (fsReadBuffered n t fi)) ∧ (∀ ex, TF P P.W (fsRead ex t fi)) ∧ TF P P.W (pushStatus t fi)) ∧
    (∀ tt rt, EffT P tt rt none →
      (∀ path, TF P P.W (devStat path tt rt)) ∧ (∀ path, TF P P.W (devList path tt rt)) ∧
      (∀ path cb, TF P (P.W + P.W) (devPull path cb tt rt)) ∧
      (P.FilesFit → ∀ src path mode mtime cb, TF P P.W (devPush src path mode mtime cb tt rt))) :=
  ⟨fun t hrt htt fi =>
      have ht : TxnOf P t := ⟨hrt, htt⟩
      ⟨TF_fsFlush t fi ht (Int.le_refl _), fun id data size => TF_fsSend id t fi data size ht (Int.le_refl _),
        fun n => TF_fsReadBuffered n t fi ht (Int.le_refl _), fun ex => TF_fsRead ex t fi ht (Int.le_refl _),
        TF_pushStatus t fi ht (Int.le_refl _)⟩,
   fun tt rt heff => ⟨fun path => TF_devStat path tt rt heff (Int.le_refl _), fun path => TF_devList path tt rt heff (Int.le_refl _),
      fun path cb => TF_devPull path cb tt rt heff (Int.le_refl _),
      fun hfit src path mode mtime cb => TF_devPush src path mode mtime cb tt rt heff (Int.le_refl _) hfit⟩⟩

/-- EVERY API operation with numeric non-negative effective timeouts (`op.Eff P`; for `connect`: read timeout
    `P.R`, transport and auth timeout both between 0 and `P.τ`): the run only adds events `evs` to the trace,
    and if the operation starts on an idle device object (`op.Pre`; for `connect`: no lock held and the next
    connection conforms) with a loop budget exceeding
    `parked + justified time of evs + delivered bytes + c_op * W + R + F` (`EvBudget`), then it never ends in
    `hang`, it leaves the device object idle, and it takes at most
        `(packets delivered + c_op) * W + (write waits) * S`
    ticks, where the `c_op` extra waits are only charged when it ends in an exception: `c_op = 1` failing wait,
    `2` for `pull` (close handshake after the failure), `0` for `close`.  Every wait is justified by a delivered
    packet: traffic for other streams or unexpected commands cannot extend the time (oracle `o_c11`).
    `write waits ≤ 2 * messages sent`. -/
theorem C11_op_bound (op : ApiOp) (P : TP) (heff : op.Eff P) (w : World) (r : Except Err Val) (w' : World)
    (h : op.run w = (r, w')) :
    ∃ evs, w'.trace = evs ++ w.trace ∧
      (op.Pre P w → EvBudget P op.failWaits w evs →
        r ≠ .error .hang ∧ TPre P w' ∧ w'.fuel = w.fuel ∧ 0 ≤ w'.now - w.now ∧
        w'.now - w.now ≤ ((rxCount evs : Int) + (if okB r then 0 else (op.failWaits : Int))) * P.W
          + (txCount evs : Int) * P.S ∧
        txCount evs ≤ 2 * (transmitted evs).length) := by
  obtain ⟨⟨evs, he⟩, hf⟩ := op.frame heff h
  refine ⟨evs, he, fun hp hb => ?_⟩
  obtain ⟨a, b, c, d, e⟩ := hf hp (hb.budget he)
  rw [(tcost_of_trace (P := P) he).1] at e
  refine ⟨isHang_false_iff.1 a, b, c, by omega, ?_, txCount_le evs⟩
  rw [Int.add_mul]
  split at e <;> simp_all <;> omega

/-- Waits that begin in silence.  `Silent w`: the device will never send anything any more on the open
    connection (`World.Mute`: no inbound byte is left in the script), the device object is connected and idle
    and nothing is parked in the packet store.  Then, for a transaction with a numeric read timeout, each of
    `_AdbIOManager.read`, `_read_until`, `_clse`, `_read_until_close`, `_filesync_flush` (`SF d true`): keeps the
    world silent, CANNOT return normally (no packet, no data is fabricated), and raises AdbTimeoutError, the
    transport's timeout error or a transport error (`struct.error` if a message cannot be packed; the model's
    `hang` is excluded by `C11_frame_stream` / `C11_frame_meaning` under their budget hypothesis).  And `pull`'s
    clean-up discipline `try: body … except: (try: _clse() except: pass); raise` / `_clse()` afterwards: whatever the body did
    in silence, an exception is reported — the body's if it raised, else the one met while closing. -/
theorem C11_silent_waits (d : Timeout) (t : Txn) (R : Int) (hrt : t.rt = some R) :
    (∀ ex az, SF d true (ioRead ex t az)) ∧ (∀ ex, SF d true (readUntil ex t)) ∧ SF d true (clse t) ∧
    SF d true (readUntilClose t) ∧ (∀ fi, SF d true (fsFlush t fi)) ∧
    (∀ {α : Type} (body : M α) (b : Bool), SF d b body → SF d true (M.tryFinally body (clse t))) :=
  ⟨fun ex az => SF_ioRead ex t az hrt, fun ex => SF_readUntil ex t hrt, SF_clse t hrt, SF_readUntilClose t hrt,
   fun fi => SF_fsFlush t fi hrt, fun _ _ hb => SF_tryFinally hb (SF_clse t hrt)⟩

/-- Total silence: every operation that talks to the device (`shell`, `exec_out`, `root`, `reboot`,
    `streaming_shell`, `list`, `stat`, `pull`, `push`) started on a connected idle device object whose device
    will never send anything, with numeric effective timeouts and a non-empty device path, NEVER returns
    normally and never fabricates data: it ends in an exception, the world stays silent, and the exception is
    AdbTimeoutError, the transport's timeout error or a transport error — or one raised before any wait:
    `struct.error` (an OPEN that cannot be packed: destination of 4 GiB or more) or the local file error of
    `push`.  The model's `hang` verdict is excluded under the hypotheses of `C11_op_bound` (conforming transport,
    loop budget). -/
theorem C11_op_outcomes (op : ApiOp) (P : TP) (hop : op.isStreamOp = true) (heff : op.Eff P)
    (hpath : op.devicePath ≠ some []) (w : World) (r : Except Err Val) (w' : World) (h : op.run w = (r, w'))
    (hs : Silent w) (hd : w.defaultTT = P.dtt) :
    Silent w' ∧ ∃ e, r = .error e ∧
      (e = .adbTimeout ∨ e = .transportTimeout ∨ e = .transportError ∨ e = .pyStructError ∨ e = .localFileError ∨
        e = .hang) ∧
      (w.CallCost P.D → w.files = P.files → (∀ evs, w'.trace = evs ++ w.trace → EvBudget P op.failWaits w evs) →
        e ≠ .hang) := by
  obtain ⟨a, -, c, d⟩ := op.silent hop heff hpath w r w' h hs hd
  cases r with
  | ok v => simp at d
  | error e =>
    refine ⟨a, e, rfl, ?_, ?_⟩
    · have := c e rfl
      simp only [opErrs, List.mem_cons, List.not_mem_nil, or_false] at this
      rcases this with rfl | rfl | rfl | rfl | rfl | rfl <;> simp
    · intro hc hf hb
      obtain ⟨evs, he, hbound⟩ := C11_op_bound op P heff w _ w' h
      have hpre : op.Pre P w := by
        cases op <;> first | exact ⟨hc, hs.locks, hd, hf⟩ | simp [ApiOp.isStreamOp] at hop
      have := (hbound hpre (hb evs he)).1
      intro he'; subst he'; exact this rfl

/-- `connect` to a device that never answers (the next connection is mute): with numeric timeouts it ends in
    AdbTimeoutError, the transport's timeout error or a transport error (or `struct.error` for a banner that
    cannot be packed; the model's `hang` is excluded by `C11_op_bound`) — never in a fabricated success. -/
theorem C11_connect_outcomes (P : TP) (keys : List Nat) (tt authT rt : Timeout) (hasCb : Bool)
    (heff : ConnEff P tt authT rt) (w : World) (r : Except Err Val) (w' : World)
    (h : (ApiOp.connect keys tt authT rt hasCb).run w = (r, w')) (hl : w.locks = []) (hd : w.defaultTT = P.dtt)
    (hmute : ∀ c, w.conns.head? = some c → c.inboundRest = []) :
    ∃ e, r = .error e ∧ (e = .adbTimeout ∨ e = .transportTimeout ∨ e = .transportError ∨ e = .pyStructError ∨
      e = .hang) := by
  obtain ⟨e, rfl, he⟩ := devConnect_silent heff h hl hd hmute
  refine ⟨e, rfl, ?_⟩
  simp only [silentErrs, List.mem_cons, List.not_mem_nil, or_false] at he
  rcases he with rfl | rfl | rfl | rfl | rfl <;> simp

/-! ### non-vacuity
  Example worlds (`c11ApiSilent`, `c11ApiShell`, `c11ApiFlood`, `c11ApiStat`, `c11ApiPull`, `c11ApiStreamT`,
  `c11ApiConn`), operations and the parameter bundle `c11P D` (read timeout 1024 ticks, transport timeout 50,
  call cost `D`) are defined at the end of AdbProofs/Lemmas/TimeFrameApi.lean.  Every operation below is run
  as a whole `ApiOp` and evaluated by the kernel. -/

/-- the hypotheses of `C11_op_bound` hold for a concrete run: effective timeouts, idle device object, budget -/
example : ApiOp.Eff (c11P 3 (by decide)) c11ShellOp ∧ ApiOp.Pre (c11P 3 (by decide)) c11ShellOp c11ApiShell ∧
    EvBudget (c11P 3 (by decide)) c11ShellOp.failWaits c11ApiShell (c11ShellOp.run c11ApiShell).2.trace :=
  ⟨c11P_eff 3 _ none (Or.inl rfl),
   TPre.of_cur (c := { dt := 3, segs := _ }) rfl (by decide) (by decide) rfl rfl rfl,
   by unfold EvBudget; decide +kernel⟩

/-- … and for `connect`, `pull` (allowance 2 waits) and the operation with a whole-command limit -/
example : ApiOp.Eff (c11P 2 (by decide)) c11ConnOp ∧ ApiOp.Pre (c11P 2 (by decide)) c11ConnOp c11ApiConn ∧
    EvBudget (c11P 2 (by decide)) c11ConnOp.failWaits c11ApiConn (c11ConnOp.run c11ApiConn).2.trace :=
  ⟨⟨⟨none, none, some 50, some 1024, none⟩, 50, 50, rfl, rfl, rfl, by decide, by decide, rfl, by decide, by decide⟩,
   ⟨rfl, rfl, rfl, fun c hc => by cases hc; decide⟩,
   by unfold EvBudget; decide +kernel⟩

example : ApiOp.Eff (c11P 2 (by decide)) c11PullOp ∧ ApiOp.Pre (c11P 2 (by decide)) c11PullOp c11ApiPull ∧
    EvBudget (c11P 2 (by decide)) c11PullOp.failWaits c11ApiPull (c11PullOp.run c11ApiPull).2.trace :=
  ⟨c11P_eff 2 _ none (Or.inl rfl),
   TPre.of_cur (c := { dt := 2, segs := _ }) rfl (by decide) (by decide) rfl rfl rfl,
   by unfold EvBudget; decide +kernel⟩

/-- the hypotheses of `C11_shell_total` hold for `c11ShellTOp` on `c11ApiStreamT` (`T = 1024`, `D = 300`) -/
example : EffT (c11P 300 (by decide)) (some 50) (some 1024) (some 1024) ∧ TPre (c11P 300 (by decide)) c11ApiStreamT ∧
    (parkedCount c11ApiStreamT.store : Int) + (2 * (c11P 300 (by decide)).S + (c11P 300 (by decide)).W) + 1024
      + (c11P 300 (by decide)).R < c11ApiStreamT.fuel :=
  ⟨c11P_eff 300 _ (some 1024) (Or.inr ⟨1024, rfl, by decide⟩),
   TPre.of_cur (c := { dt := 300, segs := _ }) rfl (by decide) (by decide) rfl rfl rfl,
   by decide +kernel⟩

/-- `push` needs the static budget to cover the local files: trivially so when there are none -/
example : (c11P 1 (by decide)).FilesFit := fun e he => by simp [c11P] at he

/-- a well-behaved device: `shell` returns the two items after 33 ticks; 4 packets were delivered (OKAY, two
    WRTE, CLSE) and 5 write waits spent (OPEN header + payload, two OKAY, CLSE): 33 ≤ 4 * W + 5 * S -/
example : (c11ShellOp.run c11ApiShell).1 = .ok (.bytes [65, 66]) ∧ (c11ShellOp.run c11ApiShell).2.now = 33 ∧
    rxCount (c11ShellOp.run c11ApiShell).2.trace = 4 ∧ txCount (c11ShellOp.run c11ApiShell).2.trace = 5 ∧
    (33 : Int) ≤ 4 * (c11P 3 (by decide)).W + 5 * (c11P 3 (by decide)).S :=
  And.imp_left eq_ok_of_c11ValOf (by decide +kernel)

/-- total silence: `shell` sends the OPEN (2 write waits of 1 tick) and raises the transport's timeout error after
    one transport timeout: 52 ticks ≤ (0 + 1) * W + 2 * S; nothing was delivered -/
example : (c11ShellOp.run c11ApiSilent).1 = .error .transportTimeout ∧ (c11ShellOp.run c11ApiSilent).2.now = 52 ∧
    rxCount (c11ShellOp.run c11ApiSilent).2.trace = 0 ∧ txCount (c11ShellOp.run c11ApiSilent).2.trace = 2 ∧
    (52 : Int) ≤ (0 + 1) * (c11P 1 (by decide)).W + 2 * (c11P 1 (by decide)).S :=
  And.imp_left eq_error_of_c11ErrOf (by decide +kernel)

/-- only traffic for another stream (600 ticks per call): `shell` parks two packets and raises AdbTimeoutError
    2400 ticks after it started — no packet was delivered to it, so one wait is all it gets:
    2400 ≤ (0 + 1) * W + 2 * S with D = 600 -/
example : (c11ShellOp.run c11ApiFlood).1 = .error .adbTimeout ∧ (c11ShellOp.run c11ApiFlood).2.now = 2400 ∧
    rxCount (c11ShellOp.run c11ApiFlood).2.trace = 0 ∧ parkedCount (c11ShellOp.run c11ApiFlood).2.store = 2 ∧
    (2400 : Int) ≤ (0 + 1) * (c11P 600 (by decide)).W + 2 * (c11P 600 (by decide)).S :=
  And.imp_left eq_error_of_c11ErrOf (by decide +kernel)

/-- `stat` on a device that answers everything but the final CLSE: 3 packets delivered, 6 write waits, the
    transport's timeout error after 70 ticks ≤ (3 + 1) * W + 6 * S -/
example : (c11StatOp.run c11ApiStat).1 = .error .transportTimeout ∧ (c11StatOp.run c11ApiStat).2.now = 70 ∧
    rxCount (c11StatOp.run c11ApiStat).2.trace = 3 ∧ txCount (c11StatOp.run c11ApiStat).2.trace = 6 ∧
    (70 : Int) ≤ (3 + 1) * (c11P 2 (by decide)).W + 6 * (c11P 2 (by decide)).S :=
  And.imp_left eq_error_of_c11ErrOf (by decide +kernel)

/-- `pull` from a device that falls silent after the OPEN: the failing wait for the reply to RECV (50 ticks) is
    followed by the close handshake, which waits 50 ticks again — two failing waits, 112 ticks in all
    ≤ (1 + 2) * W + 5 * S; the exception reported is the first one -/
example : (c11PullOp.run c11ApiPull).1 = .error .transportTimeout ∧ (c11PullOp.run c11ApiPull).2.now = 112 ∧
    rxCount (c11PullOp.run c11ApiPull).2.trace = 1 ∧ txCount (c11PullOp.run c11ApiPull).2.trace = 5 ∧
    (112 : Int) ≤ (1 + 2) * (c11P 2 (by decide)).W + 5 * (c11P 2 (by decide)).S :=
  And.imp_left eq_error_of_c11ErrOf (by decide +kernel)

/-- the whole-command limit fires although the device keeps sending: AdbTimeoutError 2700 ticks after the start
    (OPEN exchange 900, two items of 900 each, limit 1024) ≤ T + (2 * S + W) + (W + S) -/
example : (c11ShellTOp.run c11ApiStreamT).1 = .error .adbTimeout ∧ (c11ShellTOp.run c11ApiStreamT).2.now = 2700 ∧
    (2700 : Int) ≤ 1024 + (2 * (c11P 300 (by decide)).S + (c11P 300 (by decide)).W)
      + ((c11P 300 (by decide)).W + (c11P 300 (by decide)).S) :=
  And.imp_left eq_error_of_c11ErrOf (by decide +kernel)

/-- `connect` without authentication: CNXN sent (2 write waits), CNXN delivered, 8 ticks ≤ 1 * W + 2 * S -/
example : (c11ConnOp.run c11ApiConn).1 = .ok (.bool true) ∧ (c11ConnOp.run c11ApiConn).2.now = 8 ∧
    rxCount (c11ConnOp.run c11ApiConn).2.trace = 1 ∧ txCount (c11ConnOp.run c11ApiConn).2.trace = 2 ∧
    (8 : Int) ≤ 1 * (c11P 2 (by decide)).W + 2 * (c11P 2 (by decide)).S :=
  And.imp_left eq_ok_of_c11ValOf (by decide +kernel)

/-- the example worlds `c11ApiSilent` (established connection) and `c11ApiConnSilent` (a next connection that never
    answers) satisfy the silence hypotheses of `C11_op_outcomes` / `C11_connect_outcomes` -/
example : Silent c11ApiSilent ∧ c11ApiSilent.defaultTT = (c11P 1 (by decide)).dtt ∧ c11ShellOp.isStreamOp = true ∧
    c11ShellOp.devicePath ≠ some [] :=
  ⟨⟨rfl, rfl, rfl, rfl⟩, rfl, rfl, by decide⟩

example : ∀ c, c11ApiConnSilent.conns.head? = some c → c.inboundRest = [] := by
  intro c hc; cases hc; rfl

/-- `connect` to a device that never answers: the CNXN is sent (4 ticks), the wait fails after one transport
    timeout: the transport's timeout error at 54 ticks ≤ (0 + 1) * W + 2 * S -/
example : (c11ConnOp.run c11ApiConnSilent).1 = .error .transportTimeout ∧ (c11ConnOp.run c11ApiConnSilent).2.now = 54 ∧
    (54 : Int) ≤ (0 + 1) * (c11P 2 (by decide)).W + 2 * (c11P 2 (by decide)).S :=
  And.imp_left eq_error_of_c11ErrOf (by decide +kernel)

end Adb
