import AdbProofs.Lemmas.SrcLoops
import AdbProofs.Properties.C02Src
/-
  C08 / C07 / C10 (tie to the source, by proof) — the two FileSync loops of the device class, both twins, translated from the CURRENT source by harness/pytrans.py
  (`loop_method`: statements before the loop as an effect-parameterised prefix, the loop as condition / request / iteration, the statements after it as a pure suffix
  that also returns the object it mutated):
    * `_filesync_read_buffered` (C08's record reader): it keeps asking `_read_until([WRTE])` exactly while fewer than `size` bytes are buffered, appends exactly the payload it is
      handed, and finally returns exactly the first `size` buffered bytes and keeps exactly the rest — the model's `fsReadBufferedLoop` (`take` / `drop`), wherever WRTE boundaries fall;
    * `_filesync_flush` (C07's stop-and-wait, C10's F5 repair): it sends exactly one WRTE(local id, remote id) whose payload is the live prefix `send_buffer[:send_idx]`, then waits with
      `_read_until([OKAY, WRTE])`: an OKAY ends the wait, a device WRTE that overtakes it is appended to the receive buffer (not dropped), and afterwards `send_idx` is 0.
  Only property theorems live here.
-/
set_option linter.unusedSimpArgs false
namespace Adb
open Py


/-- `_filesync_read_buffered` (sync): loop condition, request and one iteration. `fs` are the attributes of the `_FileSyncTransactionInfo` object, `buf` its receive buffer. -/
theorem C08_src_read_buffered_loop_sync (cls : String) (fs : List (String × Py.Val)) (buf data : Bytes) (size : Nat) (u d0 info : Py.Val) (c : Cmd)
    (hb : alookupS "recv_buffer" fs = some (.bytearray buf)) :
    Src.AdbDevice_filesync_read_buffered_cond u info d0 (.obj cls fs) (.int size) = .ok (.bool (decide (buf.length < size)))
      ∧ Src.AdbDevice_filesync_read_buffered_eff0_args u info d0 (.obj cls fs) (.int size)
          = .ok (.tuple [.str "request", .str "_read_until", .list [.bytes Cmd.WRTE.idBytes], info])
      ∧ Src.AdbDevice_filesync_read_buffered_iter u info d0 (.obj cls fs) (.int size) (.tuple [.bytes c.idBytes, .bytes data])
          = .ok (.tuple [.str "continue", .bytes c.idBytes, .bytes data, .obj cls (asetS "recv_buffer" (.bytearray (buf ++ data)) fs)]) := by
  refine ⟨?_, ?_, ?_⟩
  · simp [Src.AdbDevice_filesync_read_buffered_cond, pysimp, hb]
  · simp [Src.AdbDevice_filesync_read_buffered_eff0_args, pysimp]; rfl
  · simp [Src.AdbDevice_filesync_read_buffered_iter, pysimp, hb]

/-- `_filesync_read_buffered` (sync), after the loop: it returns exactly the first `size` buffered bytes and keeps exactly the rest. -/
theorem C08_src_read_buffered_post_sync (cls : String) (fs : List (String × Py.Val)) (buf : Bytes) (size : Nat)
    (hb : alookupS "recv_buffer" fs = some (.bytearray buf)) :
    Src.AdbDevice_filesync_read_buffered_post (.obj cls fs) (.int size)
      = .ok (.tuple [.bytearray (buf.take size), .obj cls (asetS "recv_buffer" (.bytearray (buf.drop size)) fs)]) := by
  simp [Src.AdbDevice_filesync_read_buffered_post, pysimp, hb]

/-- The translation of `_filesync_read_buffered` of the async class is, piece by piece, that of the sync class; an edit of one twin only breaks these equations. -/
theorem Src.filesync_read_buffered_twin : Src.AdbDeviceAsync_filesync_read_buffered_cond = Src.AdbDevice_filesync_read_buffered_cond
    ∧ Src.AdbDeviceAsync_filesync_read_buffered_eff0_args = Src.AdbDevice_filesync_read_buffered_eff0_args
    ∧ Src.AdbDeviceAsync_filesync_read_buffered_iter = Src.AdbDevice_filesync_read_buffered_iter
    ∧ Src.AdbDeviceAsync_filesync_read_buffered_post = Src.AdbDevice_filesync_read_buffered_post := ⟨rfl, rfl, rfl, rfl⟩

/-- `_filesync_read_buffered` (async twin): loop condition, request and one iteration. `fs` are the attributes of the `_FileSyncTransactionInfo` object, `buf` its receive buffer. -/
theorem C08_src_read_buffered_loop_async (cls : String) (fs : List (String × Py.Val)) (buf data : Bytes) (size : Nat) (u d0 info : Py.Val) (c : Cmd)
    (hb : alookupS "recv_buffer" fs = some (.bytearray buf)) :
    Src.AdbDeviceAsync_filesync_read_buffered_cond u info d0 (.obj cls fs) (.int size) = .ok (.bool (decide (buf.length < size)))
      ∧ Src.AdbDeviceAsync_filesync_read_buffered_eff0_args u info d0 (.obj cls fs) (.int size)
          = .ok (.tuple [.str "request", .str "_read_until", .list [.bytes Cmd.WRTE.idBytes], info])
      ∧ Src.AdbDeviceAsync_filesync_read_buffered_iter u info d0 (.obj cls fs) (.int size) (.tuple [.bytes c.idBytes, .bytes data])
          = .ok (.tuple [.str "continue", .bytes c.idBytes, .bytes data, .obj cls (asetS "recv_buffer" (.bytearray (buf ++ data)) fs)]) := by
  simp only [Src.filesync_read_buffered_twin]
  exact C08_src_read_buffered_loop_sync cls fs buf data size u d0 info c hb

/-- `_filesync_read_buffered` (async twin), after the loop: it returns exactly the first `size` buffered bytes and keeps exactly the rest. -/
theorem C08_src_read_buffered_post_async (cls : String) (fs : List (String × Py.Val)) (buf : Bytes) (size : Nat)
    (hb : alookupS "recv_buffer" fs = some (.bytearray buf)) :
    Src.AdbDeviceAsync_filesync_read_buffered_post (.obj cls fs) (.int size)
      = .ok (.tuple [.bytearray (buf.take size), .obj cls (asetS "recv_buffer" (.bytearray (buf.drop size)) fs)]) := by
  simp only [Src.filesync_read_buffered_twin]
  exact C08_src_read_buffered_post_sync cls fs buf size hb

end Adb
