import AdbProofs.Lemmas.SyncDevice
import AdbProofs.Lemmas.SyncExamples
/-
  C09 — list / stat.  list returns one entry per DENT record the device sent before DONE, with the
  exact name bytes, mode, size and mtime, in order; stat returns the exact (mode, size, mtime)
  triple of the device's STAT reply.  Both hold for any 32-bit field values, any names and any
  packetisation of the replies, and both close their stream afterwards.

  Conventions as in C08: `evs` are the events a call added; `Push.deliveredWrteData evs` is the
  FileSync byte stream handed over by them (payloads of the delivered device WRTE packets,
  concatenated — the packetisation is not visible in it); `SR.parse` / `SR.parseRec` / `SR.Recs` are
  the reference parser; `SR.dentRec id mode size mtime name` and `SR.statRec mode size mtime` are the
  device's encodings (`pack('<5I', …) + name`, `pack('<4I', …)`); `SR.listStream entries dn tail` is
  `DENT(entry)… DONE(dn) tail`; `SR.entryOf r` is the result entry `(name, mode, size, mtime)` of a
  record; `transmitted` / `delivered` are the messages handed to `_send` / the packets returned by
  the I/O manager, oldest first.
-/
namespace Adb
open Adb.SR

/-- The four receive formats have the sizes the model uses and are still the format strings of
    `constants.py` (the build breaks if a format changes). -/
theorem C09_formats :
    SyncFmt.list.size = 20 ∧ SyncFmt.stat.size = 16 ∧ SyncFmt.pull.size = 8 ∧ SyncFmt.push.size = 8 ∧
    Generated.FILESYNC_LIST_FORMAT = "<5I" ∧ Generated.FILESYNC_STAT_FORMAT = "<4I" ∧
    Generated.FILESYNC_PULL_FORMAT = "<2I" ∧ Generated.FILESYNC_PUSH_FORMAT = "<2I" ∧
    Generated.FILESYNC_LIST_FORMAT_SIZE = 4 * 5 ∧ Generated.FILESYNC_STAT_FORMAT_SIZE = 4 * 4 ∧
    Generated.FILESYNC_PULL_FORMAT_SIZE = 4 * 2 ∧ Generated.FILESYNC_PUSH_FORMAT_SIZE = 4 * 2 := by
  decide

/-- Any 32-bit field values survive: unpacking `n` little-endian words from the packing of `n`
    values below 2^32 gives back exactly those values (whatever follows). -/
theorem C09_field_roundtrip (n : Nat) (ws : List Nat) (rest : Bytes) (hn : ws.length = n)
    (h : ∀ v ∈ ws, v < 4294967296) :
    unpackWords n ((ws.map le32).flatten ++ rest) = ws := by
  subst hn
  exact unpackWords_pack ws rest h

/-- The reference parser inverts the device's encoding of a directory entry: any mode, size, mtime
    below 2^32 and any name (below 2^32 bytes, any byte values), whatever follows. -/
theorem C09_dent_roundtrip (mode size mtime : Nat) (name rest : Bytes)
    (h1 : mode < 4294967296) (h2 : size < 4294967296) (h3 : mtime < 4294967296) (h4 : name.length < 4294967296) :
    parseRec .list (dentRec .DENT mode size mtime name ++ rest)
      = some (⟨.DENT, [mode, size, mtime], some name⟩, rest) :=
  parseRec_eq_some.2 (parse_dentRec .DENT mode size mtime name rest (by decide) h1 h2 h3 h4)

/-- … and of a STAT reply. -/
theorem C09_stat_roundtrip (mode size mtime : Nat) (rest : Bytes)
    (h1 : mode < 4294967296) (h2 : size < 4294967296) (h3 : mtime < 4294967296) :
    parseRec .stat (statRec mode size mtime ++ rest) = some (⟨.STAT, [mode, size, mtime], none⟩, rest) :=
  parseRec_eq_some.2 (parse_statRec mode size mtime rest h1 h2 h3)

/-- `stat`, normal return.  The events split into the part before the request (`ePre`: guards and
    the OPEN/OKAY exchange, which hand over no FileSync byte on an idle device), the transfer (`eX`)
    and the close (`eCl`).  The FileSync stream of the transfer starts with a STAT record and the
    result is exactly the three words after its id; the callback is never involved. -/
theorem C09_stat_exact (devPath : Bytes) (tt rt : Timeout) (w w' : World) (v : Val) (evs : List TEv)
    (h : devStat devPath tt rt w = (.ok v, w')) (hev : w'.trace = evs ++ w.trace) (hl : lockTransport ∉ w.locks) :
    ∃ (t : Txn) (w0 w1 : World) (ePre eX eCl : List TEv) (mode size mtime : Nat) (rest : Bytes) (c : Pkt),
      openStream (ascii "sync:") tt rt none w0 = (.ok t, w1) ∧
      evs = eCl ++ eX ++ ePre ∧
      parseRec .stat (Push.deliveredWrteData eX) = some (⟨.STAT, [mode, size, mtime], none⟩, rest) ∧
      v = .stat mode size mtime ∧
      transmitted eCl = [clseMsg t] ∧ delivered eCl = [c] ∧ c.cmd = Cmd.CLSE ∧
      Push.progressCalls evs = [] ∧
      Push.deliveredWrteData eCl = [] ∧ (w.locks = [] → Push.deliveredWrteData ePre = []) := by
  obtain ⟨t, w0, w1, ePre, eX, eCl, c, mode, size, mtime, rest, hph, hp, hv, hpc, hpre⟩ := devStat_exact h hev hl
  exact ⟨t, w0, w1, ePre, eX, eCl, mode, size, mtime, rest, c, hph.opened, hph.split, parseRec_eq_some.2 hp, hv,
    hph.txCl, hph.dlvCl, hph.cmdCl, hpc, hph.dwdCl, hpre⟩

/-- `stat` from the device's side (idle device): if the WRTE payloads delivered during the call
    concatenate to the packing of ANY 32-bit `(mode, size, mtime)` (followed by anything), however
    they were cut into packets, the result is exactly that triple. -/
theorem C09_stat_exact_wire (devPath : Bytes) (tt rt : Timeout) (w w' : World) (v : Val) (evs : List TEv)
    (mode size mtime : Nat) (tail : Bytes)
    (h : devStat devPath tt rt w = (.ok v, w')) (hev : w'.trace = evs ++ w.trace) (hl : w.locks = [])
    (h1 : mode < 4294967296) (h2 : size < 4294967296) (h3 : mtime < 4294967296)
    (hstream : Push.deliveredWrteData evs = statRec mode size mtime ++ tail) :
    v = .stat mode size mtime := by
  obtain ⟨t, w0, w1, ePre, eX, eCl, c, m, s, mt, rest, hph, hp, hv, -, hpre⟩ :=
    devStat_exact h hev (locks_nil_transport hl)
  rw [← hph.dwd (hpre hl), hstream, parse_statRec mode size mtime tail h1 h2 h3] at hp
  cases hp
  exact hv

/-- The loop of `list`, normal return: the reassembled stream is DENT records followed by one DONE
    record; every DENT record has exactly three header words between id and name length; the result
    is one entry per DENT record, in order, carrying the record's name bytes and those three words
    verbatim. -/
theorem C09_list_exact (t : Txn) (fuel : Nat) (fi : FsInfo) (files : List (Bytes × Nat × Nat × Nat))
    (w w' : World) (evs : List TEv)
    (h : listLoop t fuel fi [] w = (.ok files, w')) (hev : w'.trace = evs ++ w.trace) (hfmt : fi.fmt = .list) :
    ∃ (dents : List SyncRec) (done : SyncRec) (rest : Bytes),
      Recs .list (fi.recvBuf ++ Push.deliveredWrteData evs) (dents ++ [done]) rest ∧ done.id = SyncId.DONE ∧
      (∀ r ∈ dents, r.id = SyncId.DENT ∧ ∃ mode size mtime name, r = ⟨.DENT, [mode, size, mtime], some name⟩) ∧
      files = dents.map fun r => (r.data.getD [], r.fields.getD 0 0, r.fields.getD 1 0, r.fields.getD 2 0) := by
  obtain ⟨dents, done, rest, h1, h2, h3, h4⟩ := listLoop_ok h hev hfmt
  exact ⟨dents, done, rest, h1, h2, h3, by rw [h4]; rfl⟩

/-- `list` as a whole, normal return: as `C09_list_exact` for the FileSync stream of the transfer
    (`eX`), and then the stream is closed. -/
theorem C09_list (devPath : Bytes) (tt rt : Timeout) (w w' : World) (v : Val) (evs : List TEv)
    (h : devList devPath tt rt w = (.ok v, w')) (hev : w'.trace = evs ++ w.trace) (hl : lockTransport ∉ w.locks) :
    ∃ (t : Txn) (w0 w1 : World) (ePre eX eCl : List TEv) (dents : List SyncRec) (done : SyncRec) (rest : Bytes) (c : Pkt),
      openStream (ascii "sync:") tt rt none w0 = (.ok t, w1) ∧
      evs = eCl ++ eX ++ ePre ∧
      Recs .list (Push.deliveredWrteData eX) (dents ++ [done]) rest ∧ done.id = SyncId.DONE ∧
      (∀ r ∈ dents, r.id = SyncId.DENT ∧ ∃ mode size mtime name, r = ⟨.DENT, [mode, size, mtime], some name⟩) ∧
      v = .listing (dents.map entryOf) ∧
      transmitted eCl = [clseMsg t] ∧ delivered eCl = [c] ∧ c.cmd = Cmd.CLSE ∧
      Push.deliveredWrteData eCl = [] ∧ (w.locks = [] → Push.deliveredWrteData ePre = []) := by
  obtain ⟨t, w0, w1, ePre, eX, eCl, c, dents, done, rest, hph, hrecs, hdone, hall, hv, hpre⟩ := devList_exact h hev hl
  exact ⟨t, w0, w1, ePre, eX, eCl, dents, done, rest, c, hph.opened, hph.split, hrecs, hdone, hall, hv,
    hph.txCl, hph.dlvCl, hph.cmdCl, hph.dwdCl, hpre⟩

/-- `list` from the device's side (idle device): for ANY entries (32-bit mode, size, mtime, any name
    bytes below 2^32 bytes), if the WRTE payloads delivered during the call concatenate to
    `DENT(entry)… DONE`, however they were cut into packets, the result is exactly the entries, in
    order: `(name, mode, size, mtime)` each. -/
theorem C09_list_exact_wire (devPath : Bytes) (tt rt : Timeout) (w w' : World) (v : Val) (evs : List TEv)
    (entries : List Entry) (dn : Entry) (tail : Bytes)
    (h : devList devPath tt rt w = (.ok v, w')) (hev : w'.trace = evs ++ w.trace) (hl : w.locks = [])
    (he : ∀ e ∈ entries, e.fits) (hdn : dn.fits)
    (hstream : Push.deliveredWrteData evs = listStream entries dn tail) :
    v = .listing entries := by
  obtain ⟨t, w0, w1, ePre, eX, eCl, c, dents, done, rest, hph, hrecs, hdone, hall, hv, hpre⟩ :=
    devList_exact h hev (locks_nil_transport hl)
  rw [← hph.dwd (hpre hl), hstream] at hrecs
  obtain ⟨h1, -⟩ := list_wire hrecs hdone (fun r hr => (hall r hr).1) he hdn
  rw [hv, h1]

/-- Both close their stream afterwards: on a normal return of `stat` or `list`, a stream `t` was
    opened by the call, the LAST message the call handed to `_send` is the CLSE of that stream, and
    the last packet delivered to it is the device's CLSE. -/
theorem C09_closes_stream (devPath : Bytes) (tt rt : Timeout) (w w' : World) (v : Val) (evs : List TEv)
    (h : devStat devPath tt rt w = (.ok v, w') ∨ devList devPath tt rt w = (.ok v, w'))
    (hev : w'.trace = evs ++ w.trace) (hl : lockTransport ∉ w.locks) :
    ∃ (t : Txn) (w0 w1 : World) (eIn : List TEv) (c : Pkt),
      openStream (ascii "sync:") tt rt none w0 = (.ok t, w1) ∧
      transmitted evs = transmitted eIn ++ [clseMsg t] ∧ delivered evs = delivered eIn ++ [c] ∧ c.cmd = Cmd.CLSE := by
  rcases h with h | h
  · obtain ⟨t, w0, w1, ePre, eX, eCl, c, _, _, _, _, hph, -⟩ := devStat_exact h hev hl
    exact ⟨t, w0, w1, eX ++ ePre, c, hph.opened, hph.closes.1, hph.closes.2, hph.cmdCl⟩
  · obtain ⟨t, w0, w1, ePre, eX, eCl, c, _, _, _, hph, -⟩ := devList_exact h hev hl
    exact ⟨t, w0, w1, eX ++ ePre, c, hph.opened, hph.closes.1, hph.closes.2, hph.cmdCl⟩

/-! ### non-vacuity -/

/-- extreme field values survive -/
example : unpackWords 3 (([0, 4294967295, 2147483648].map le32).flatten ++ [7]) = [0, 4294967295, 2147483648] := by
  decide +kernel

/-- a whole `stat` whose 16-byte reply is cut after 5 bytes: normal return with the exact triple;
    the hypotheses of `C09_stat_exact_wire` hold; CLSE is sent last -/
example : (devStat sxPath (some 10) (some 10) wStat).1.toOption = some (.stat 33188 1234 1700000000) ∧
    wStat.locks = [] ∧
    Push.deliveredWrteData (devStat sxPath (some 10) (some 10) wStat).2.trace = statRec 33188 1234 1700000000 ++ [] ∧
    (transmitted (devStat sxPath (some 10) (some 10) wStat).2.trace).getLast? = some ⟨.CLSE, 1, 7, []⟩ := by
  decide +kernel

/-- a whole `list` of two entries (one with mtime 2^32-1) cut inside the first header and inside
    the second name: normal return with exactly the entries; the hypotheses of
    `C09_list_exact_wire` hold -/
example : (devList sxPath (some 10) (some 10) wList).1.toOption = some (.listing sxEntries) ∧
    wList.locks = [] ∧ (∀ e ∈ sxEntries, e.fits) ∧
    Push.deliveredWrteData (devList sxPath (some 10) (some 10) wList).2.trace = listStream sxEntries ([], 0, 0, 0) [] ∧
    (transmitted (devList sxPath (some 10) (some 10) wList).2.trace).getLast? = some ⟨.CLSE, 1, 7, []⟩ := by
  decide +kernel

end Adb
