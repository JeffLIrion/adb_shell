import AdbProofs.Lemmas.SyncDevice
import AdbProofs.Lemmas.SyncExamples
/-
  C08 — pull.  For any device file content and any way the device splits it into sync DATA records
  (up to 64 KiB each) and those records into WRITE packets (boundaries anywhere, including inside
  an 8-byte sync header), pull writes exactly the file's bytes, in order, to the destination path
  or BytesIO, then closes the stream.  The progress callback, when given, sees byte counts summing
  to the file size and cannot alter or abort the transfer.

  Conventions.  The trace is stored most recent first; `evs` is the list of events a call added
  (`w'.trace = evs ++ w.trace`).  `Push.deliveredWrteData evs` is the FileSync byte stream handed
  over by those events: the payloads of the device's WRTE packets delivered to the caller,
  concatenated, oldest first — how the device cut the stream into packets is not visible in it,
  and every statement below is about this stream only.  `SR.parse fmt bs` is the pure reference
  parser (one record at the head of `bs`: `more` / `badId` / `record r rest`), `SR.parseRec` its
  `Option` form, `SR.Recs fmt bs rs rest` says `bs` is the records `rs` followed by `rest`,
  `SR.dataRec d` is the DATA record with payload `d`, `SR.pullStream chunks dd tail` is the
  device's encoding `DATA(chunk)… DONE(dd) tail`.  `World.sink` is the destination of the pull.
-/
namespace Adb
open Adb.SR

/-- Partition independence, the key law of `_filesync_read_buffered(size)`: on a normal return
    exactly `size` bytes are returned, and what was buffered followed by what the device's WRTE
    packets delivered meanwhile equals what is returned followed by what stays buffered.  No byte is
    lost, duplicated or reordered, wherever the WRTE boundaries fall; the send buffer is untouched. -/
theorem C08_read_buffered_conservation (size : Nat) (t : Txn) (fi fi' : FsInfo) (bs : Bytes) (w w' : World)
    (evs : List TEv) (h : fsReadBuffered size t fi w = (.ok (bs, fi'), w')) (hev : w'.trace = evs ++ w.trace) :
    bs.length = size ∧ fi.recvBuf ++ Push.deliveredWrteData evs = bs ++ fi'.recvBuf ∧
    fi'.sendBuf = fi.sendBuf ∧ fi'.fmt = fi.fmt ∧ fi'.maxdata = fi.maxdata := by
  obtain ⟨e, he, hp⟩ := fsReadBuffered_any h
  have : evs = e := Push.evs_unique (he ▸ hev)
  subst this
  exact hp

/-- `_filesync_read_buffered`, the exceptional outcomes (the `FsInfo` is not returned then): an
    exception is either the model's loop-budget verdict (after at least `w.fuel` delivered packets)
    or the exception of a `_read_until([WRTE])` call that was made while fewer than `size` bytes had
    been handed over (`e0` are the events before that call, `el` the events of the failing call). -/
theorem C08_read_buffered_error (size : Nat) (t : Txn) (fi : FsInfo) (e : Err) (w w' : World) (evs : List TEv)
    (h : fsReadBuffered size t fi w = (.error e, w')) (hev : w'.trace = evs ++ w.trace) :
    (e = .hang ∧ w.fuel ≤ (Push.delivered evs).length) ∨
    ∃ e0 el w1, evs = el ++ e0 ∧ w1.trace = e0 ++ w.trace ∧
      (fi.recvBuf ++ Push.deliveredWrteData e0).length < size ∧ readUntil [.WRTE] t w1 = (.error e, w') := by
  obtain ⟨e', he, hp⟩ := fsReadBuffered_any h
  have : evs = e' := Push.evs_unique (he ▸ hev)
  subst this
  exact hp

/-- `_filesync_read` returns exactly the next record of the reassembled stream: the receive buffer
    followed by everything the device's WRTE packets delivered during the call (including those that
    arrived while a pending request was being flushed) parses — by the reference parser — as the
    returned record followed by the new receive buffer; and its id is an expected one. -/
theorem C08_fsRead_parses (expected : List SyncId) (t : Txn) (fi fi' : FsInfo) (r : SyncRec) (w w' : World)
    (evs : List TEv) (h : fsRead expected t fi w = (.ok (r, fi'), w')) (hev : w'.trace = evs ++ w.trace) :
    parseRec fi.fmt (fi.recvBuf ++ Push.deliveredWrteData evs) = some (r, fi'.recvBuf) ∧ r.id ∈ expected ∧
    fi'.sendBuf = [] ∧ fi'.fmt = fi.fmt ∧ fi'.maxdata = fi.maxdata := by
  obtain ⟨hp, hid, hf, hm, hs⟩ := fsRead_ok_parse h hev
  exact ⟨parseRec_eq_some.2 hp, hid, hs, hf, hm⟩

/-- The reference parser inverts the device's encoding of a pull/push record (any id but STAT, any
    payload below 2^32 bytes), whatever follows it. -/
theorem C08_record_roundtrip (id : SyncId) (data rest : Bytes) (hid : id ≠ SyncId.STAT)
    (hd : data.length < 4294967296) :
    parseRec .pull (Push.syncRec id data.length data ++ rest) = some (⟨id, [], some data⟩, rest) :=
  parseRec_eq_some.2 (parse_syncRec (Or.inl rfl) id data rest hid hd)

/-- The reading of a stream that stops at its first DONE record is unique, and a parsed record does
    not depend on the bytes after it: the record sequence is a function of the byte stream alone. -/
theorem C08_reading_unique (fmt : SyncFmt) (bs r1 r2 : Bytes) (a b : List SyncRec) (d1 d2 : SyncRec)
    (h1 : Recs fmt bs (a ++ [d1]) r1) (h2 : Recs fmt bs (b ++ [d2]) r2)
    (ha : ∀ x ∈ a, x.id ≠ SyncId.DONE) (hb : ∀ x ∈ b, x.id ≠ SyncId.DONE)
    (hd1 : d1.id = SyncId.DONE) (hd2 : d2.id = SyncId.DONE) : a = b ∧ d1 = d2 ∧ r1 = r2 :=
  Recs.until_done_unique h1 h2 ha hb hd1 hd2

/-- The loop of `_pull`, normal return: the reassembled stream is DATA records followed by one DONE
    record; the destination received exactly the concatenation of the DATA payloads, in order, and
    nothing else; the callback (when given) was called exactly once per DATA record, in order, with
    `(device_path, len(data), total_bytes)`. -/
theorem C08_pull_exact (devPath : Bytes) (cb : CbMode) (total : Nat) (t : Txn) (fuel : Nat) (fi : FsInfo)
    (w w' : World) (evs : List TEv)
    (h : pullLoop devPath cb total t fuel fi w = (.ok (), w')) (hev : w'.trace = evs ++ w.trace)
    (hfmt : fi.fmt = .pull) :
    ∃ (datas : List Bytes) (done : SyncRec) (rest : Bytes),
      Recs .pull (fi.recvBuf ++ Push.deliveredWrteData evs) (datas.map dataRec ++ [done]) rest ∧
      done.id = SyncId.DONE ∧
      (∀ s, w.sink = some s → w'.sink = some (s ++ datas.flatten)) ∧
      Push.progressCalls evs = (if cb = CbMode.none then [] else datas.map fun d => (devPath, d.length, total)) :=
  pullLoop_ok h hev hfmt

/-- The same from the device's side: if the reassembled stream is the encoding of the chunks
    `chunks` (each below 2^32 bytes — the wire format cannot say more) followed by DONE, then the
    destination received exactly `chunks.flatten`, i.e. the file content, whatever the chunking. -/
theorem C08_pull_exact_wire (devPath : Bytes) (cb : CbMode) (total : Nat) (t : Txn) (fuel : Nat) (fi : FsInfo)
    (w w' : World) (evs : List TEv) (chunks : List Bytes) (dd tail s : Bytes)
    (h : pullLoop devPath cb total t fuel fi w = (.ok (), w')) (hev : w'.trace = evs ++ w.trace)
    (hfmt : fi.fmt = .pull) (hs : w.sink = some s)
    (hstream : fi.recvBuf ++ Push.deliveredWrteData evs = pullStream chunks dd tail)
    (hc : ∀ c ∈ chunks, c.length < 4294967296) (hdd : dd.length < 4294967296) :
    w'.sink = some (s ++ chunks.flatten) ∧
    Push.progressCalls evs = (if cb = CbMode.none then [] else chunks.map fun d => (devPath, d.length, total)) := by
  obtain ⟨datas, done, rest, hrecs, hdone, hsink, hprog⟩ := pullLoop_ok h hev hfmt
  rw [hstream] at hrecs
  obtain ⟨rfl, -, -⟩ := pull_wire hrecs hdone hc hdd
  exact ⟨hsink s hs, hprog⟩

/-- `pull` as a whole, normal return.  The events split into the part before the RECV request
    (`ePre`), the transfer (`eX`) and the close (`eCl`).  The FileSync stream of the transfer is
    DATA records followed by DONE; the destination — created empty — holds exactly the DATA payloads
    in order; the callback was called once per DATA record; the last thing sent is the CLSE of the
    stream and the device's CLSE was received. -/
theorem C08_pull_writes_file (devPath : Bytes) (cb : CbMode) (tt rt : Timeout) (w w' : World) (v : Val)
    (evs : List TEv) (h : devPull devPath cb tt rt w = (.ok v, w')) (hev : w'.trace = evs ++ w.trace)
    (hl : lockTransport ∉ w.locks) :
    ∃ (t : Txn) (w0 w1 : World) (ePre eX eCl : List TEv) (datas : List Bytes) (done : SyncRec) (rest : Bytes)
      (total : Nat) (c : Pkt),
      openStream (ascii "sync:") tt rt none w0 = (.ok t, w1) ∧
      evs = eCl ++ eX ++ ePre ∧
      Recs .pull (Push.deliveredWrteData eX) (datas.map dataRec ++ [done]) rest ∧ done.id = SyncId.DONE ∧
      w'.sink = some datas.flatten ∧
      Push.progressCalls evs = (if cb = CbMode.none then [] else datas.map fun d => (devPath, d.length, total)) ∧
      transmitted eCl = [clseMsg t] ∧ delivered eCl = [c] ∧ c.cmd = Cmd.CLSE ∧ v = Val.none ∧
      Push.deliveredWrteData eCl = [] ∧ (cb = CbMode.none → w.locks = [] → Push.deliveredWrteData ePre = []) := by
  obtain ⟨t, w0, w1, ePre, eX, eCl, c, datas, done, rest, total, hph, hrecs, hdone, hsink, hprog, hv, hpre⟩ :=
    devPull_exact h hev hl
  exact ⟨t, w0, w1, ePre, eX, eCl, datas, done, rest, total, c, hph.opened, hph.split, hrecs, hdone, hsink, hprog,
    hph.txCl, hph.dlvCl, hph.cmdCl, hv, hph.dwdCl, hpre⟩

/-- `pull` from the device's side (no callback, idle device): for ANY file content `chunks.flatten`,
    cut by the device into DATA records `chunks` in any way (each below 2^32 bytes — the wire format
    cannot announce more) and those records cut into WRTE packets in any way, if the WRTE payloads
    delivered during the call concatenate to the encoding `DATA(chunk)… DONE` then after a normal
    return the destination is exactly the content.  (With a callback the `stat` reply, which arrives
    on its own stream, precedes these bytes; `C08_pull_writes_file` and `C08_pull_exact_wire` cover
    that case per phase.) -/
theorem C08_pull_writes_file_wire (devPath : Bytes) (tt rt : Timeout) (w w' : World) (v : Val)
    (evs : List TEv) (chunks : List Bytes) (dd tail : Bytes)
    (h : devPull devPath .none tt rt w = (.ok v, w')) (hev : w'.trace = evs ++ w.trace)
    (hl : w.locks = [])
    (hc : ∀ c ∈ chunks, c.length < 4294967296) (hdd : dd.length < 4294967296)
    (hstream : Push.deliveredWrteData evs = pullStream chunks dd tail) :
    w'.sink = some chunks.flatten := by
  obtain ⟨t, w0, w1, ePre, eX, eCl, c, datas, done, rest, total, hph, hrecs, hdone, hsink, -, -, hpre⟩ :=
    devPull_exact h hev (locks_nil_transport hl)
  rw [← hph.dwd (hpre rfl hl), hstream] at hrecs
  obtain ⟨rfl, -, -⟩ := pull_wire hrecs hdone hc hdd
  exact hsink

/-- `_clse` runs on every path of `pull` (in the `except BaseException` handler when the transfer
    raised, after the transfer otherwise — formerly a `finally` clause): for EVERY outcome of `pull`,
    either a guard or `_open` raised (no stream was ever open), or a stream `t` was opened and the
    last message handed to `_send` by the call is the CLSE of that stream; on a normal return the
    device's CLSE was received in reply. -/
theorem C08_close_in_finally (devPath : Bytes) (cb : CbMode) (tt rt : Timeout) (w w' : World) (res : Except Err Val)
    (evs : List TEv) (h : devPull devPath cb tt rt w = (res, w')) (hev : w'.trace = evs ++ w.trace)
    (hl : lockTransport ∉ w.locks) :
    (∃ e, res = .error e ∧ runGuards (guardsFor "pull") (some devPath) w = (.error e, w')) ∨
    (∃ e w0, res = .error e ∧ openStream (ascii "sync:") tt rt none w0 = (.error e, w')) ∨
    (∃ (t : Txn) (w0 w1 : World) (eIn eCl : List TEv),
      openStream (ascii "sync:") tt rt none w0 = (.ok t, w1) ∧ evs = eCl ++ eIn ∧
      transmitted eCl = [clseMsg t] ∧ transmitted evs = transmitted eIn ++ [clseMsg t] ∧
      (∀ v, res = .ok v → ∃ c, delivered eCl = [c] ∧ c.cmd = Cmd.CLSE)) := by
  rcases devPull_inv h with ⟨e, he, hg⟩ | ⟨e, w0, he, -, ho⟩ | ⟨w0, t, w1, r1, w2, r2, h0, h1, hin, hcl, hres⟩
  · exact Or.inl ⟨e, he, hg⟩
  · exact Or.inr (Or.inl ⟨e, _, he, ho⟩)
  · right; right
    obtain ⟨ePre, eIn, eCl, hevs, -, htx, -, -, hclse⟩ := devPull_events h0 h1 hin hcl hev hl
    refine ⟨t, _, w1, eIn ++ ePre, eCl, h1, by rw [hevs, List.append_assoc], htx,
      by rw [hevs, List.append_assoc, transmitted_append, htx], ?_⟩
    intro v hv
    cases r2 with
    | ok u => exact hclse u rfl
    | error e => rw [hv] at hres; cases r1 <;> cases hres

/-- The byte counts the callback sees sum to the number of bytes written: with a callback, the
    calls recorded during the loop of `_pull` are `(device_path, len(data), total)` per DATA record
    and their counts add up to the growth of the destination; without a callback there is no call. -/
theorem C08_progress_sum (devPath : Bytes) (cb : CbMode) (total : Nat) (t : Txn) (fuel : Nat) (fi : FsInfo)
    (w w' : World) (evs : List TEv) (s : Bytes)
    (h : pullLoop devPath cb total t fuel fi w = (.ok (), w')) (hev : w'.trace = evs ++ w.trace)
    (hfmt : fi.fmt = .pull) (hs : w.sink = some s) :
    ∃ s', w'.sink = some (s ++ s') ∧
      (cb = CbMode.none → Push.progressCalls evs = []) ∧
      (cb ≠ CbMode.none → ((Push.progressCalls evs).map fun c => c.2.1).sum = s'.length ∧
        ∀ c ∈ Push.progressCalls evs, c.1 = devPath ∧ c.2.2 = total) := by
  obtain ⟨datas, done, rest, -, -, hsink, hprog⟩ := pullLoop_ok h hev hfmt
  refine ⟨datas.flatten, hsink s hs, ?_, ?_⟩
  · intro hcb; rw [hprog, if_pos hcb]
  · intro hcb
    rw [hprog, if_neg hcb]
    refine ⟨?_, ?_⟩
    · rw [List.map_map, List.length_flatten]; rfl
    · intro c hc
      simp only [List.mem_map] at hc
      obtain ⟨d, -, rfl⟩ := hc
      exact ⟨rfl, rfl⟩

/-- The callback cannot alter or abort the transfer: calling it — also when it raises — returns
    normally and changes nothing in the world but the trace, where the call is recorded. -/
theorem C08_callback_cannot_abort (cb : CbMode) (path : Bytes) (n total : Nat) (w : World) :
    callProgress cb path n total w =
      (.ok (), { w with trace := (if cb = CbMode.none then [] else [TEv.cbProgress path n total]) ++ w.trace }) :=
  Push.callProgress_run cb path n total w

/-! ### non-vacuity -/

/-- the reference parser on a DATA record whose bytes arrive header/data split: incomplete, then the record -/
example : parse .pull ((Push.syncRec .DATA 3 [9, 8, 7]).take 5) = .more ∧
    parse .pull ((Push.syncRec .DATA 3 [9, 8, 7]).take 10) = .more ∧
    parseRec .pull (Push.syncRec .DATA 3 [9, 8, 7] ++ [1]) = some (⟨.DATA, [], some [9, 8, 7]⟩, [1]) := by
  decide +kernel

/-- `_filesync_read_buffered(8)` with one byte buffered and ten bytes arriving in two WRTE packets:
    returns the first 8 bytes of the reassembled stream and keeps the other 3; with too little data
    and a silent device it raises the transport's timeout (an exception of `_read_until`) -/
example : ((fsReadBuffered 8 sxT { fmt := .pull, maxdata := 4096, recvBuf := [9] } (wRec [1, 2, 3, 4, 5, 6, 7, 8, 9, 10] 4)).1.toOption.map
      fun x => (x.1, x.2.recvBuf)) = some ([9, 1, 2, 3, 4, 5, 6, 7], [8, 9, 10]) ∧
    errOf (fsReadBuffered 8 sxT { fmt := .pull, maxdata := 4096 } (sxWorld (wrteFor 7 1 [1, 2, 3]))).1
      = some .transportTimeout := by
  decide +kernel

/-- a reading of an encoded stream (the hypotheses of `C08_reading_unique` are satisfiable) -/
example : Recs .pull (pullStream [[1], [2, 3]] [] [7]) ([[1], [2, 3]].map dataRec ++ [⟨.DONE, [], some []⟩]) [7] :=
  Recs_pullStream _ _ _ (by decide) (by decide)

/-- `_filesync_read` on a DATA record cut inside its 8-byte header returns that record -/
example : ((fsRead [.DATA, .DONE] sxT { fmt := .pull, maxdata := 4096 } (wRec (Push.syncRec .DATA 3 [9, 8, 7]) 5)).1.toOption.map (·.1))
    = some ⟨.DATA, [], some [9, 8, 7]⟩ := by decide +kernel

/-- a whole `pull` of the content [1,2,3,4,5] sent as DATA[1,2,3] DATA[4,5] DONE, cut after 3 bytes
    (inside the first header), then inside the first payload: normal return, destination = content,
    last message CLSE -/
example : (devPull sxPath .none (some 10) (some 10) wPull).1.toOption = some Val.none ∧
    (devPull sxPath .none (some 10) (some 10) wPull).2.sink = some [1, 2, 3, 4, 5] ∧
    (transmitted (devPull sxPath .none (some 10) (some 10) wPull).2.trace).getLast? = some ⟨.CLSE, 1, 7, []⟩ ∧
    lockTransport ∉ wPull.locks :=
  ⟨run_wPull.1, run_wPull.2.1, run_wPull.2.2.1, by decide⟩

/-- the hypotheses of `C08_pull_writes_file_wire` hold in that world: idle device, and the delivered
    WRTE payloads concatenate to the encoding of the chunks [1,2,3], [4,5] followed by DONE -/
example : wPull.locks = [] ∧
    Push.deliveredWrteData (devPull sxPath .none (some 10) (some 10) wPull).2.trace = pullStream [[1, 2, 3], [4, 5]] [] [] :=
  ⟨rfl, run_wPull.2.2.2⟩

/-- with a RAISING callback (so `stat` runs first on its own stream): same destination, two calls recorded -/
example : (devPull sxPath .raise (some 10) (some 10) wPullCb).1.toOption = some Val.none ∧
    (devPull sxPath .raise (some 10) (some 10) wPullCb).2.sink = some [1, 2, 3, 4, 5] ∧
    Push.progressCalls (devPull sxPath .raise (some 10) (some 10) wPullCb).2.trace
      = [(sxPath, 3, 5), (sxPath, 2, 5)] := by
  decide +kernel

/-- a pull that fails after the first DATA record still sends CLSE last (the close runs on every path) -/
example : errOf (devPull sxPath .none (some 10) (some 10) wPullFail).1 = some (.adbCommandFailure [110, 111]) ∧
    (transmitted (devPull sxPath .none (some 10) (some 10) wPullFail).2.trace).getLast? = some ⟨.CLSE, 1, 7, []⟩ :=
  ⟨run_wPullFail.1, run_wPullFail.2.1⟩

end Adb
