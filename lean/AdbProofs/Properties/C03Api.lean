import AdbProofs.Lemmas.FragExamples
/-
  C03 at the level of the PUBLIC API, as a relational theorem: "however the transport fragments the device's
  byte stream into reads (any sizes from 1 byte up to what was requested, empty reads interspersed) … every API
  call returns the same result as with unfragmented delivery".

  `FragAgree w₁ w₂` (AdbProofs/Lemmas/FragRel.lean): the two worlds are equal except for (a) the
  read-fragmentation script `Conn.frags` / `Conn.fragLeft` of the open connection and of the future connections
  (everything else in each `Conn` equal, the lists of future connections of equal length) and (b) the `TEv.req`
  events (the `bulk_read` requests) of the ghost trace — the subsequence of all other events is equal.

  Side conditions, each forced by a counterexample given below as an `example`:
  * `World.Dt0`: no virtual time passes in completed transport calls (`dt = 0` on every connection) — otherwise
    a fragmented delivery is slower and hits a timeout the unfragmented one does not (C11's subject);
  * `ApiOp.TimeoutsOk`: `read_timeout_s` is a NUMBER and non-negative, `timeout_s` is `None` or non-negative.
    (`read_timeout_s=None` makes `time.time() - start > None` raise TypeError after the first PARTIAL read, a
    negative one makes the check fire after the first partial read; a complete read never reaches the check.)
    The transport timeout is unconstrained.
  * neither run hung (`ApiOp.Hung`): a fragmented delivery needs more loop iterations and can exhaust the loop
    budget `World.fuel`.  For every operation except `pull`, `Hung` is "returned `Err.hang`".  `pull` runs its
    clean-up `_clse` in a `finally` whose exception is dropped when the body raised: a `hang` inside it is
    swallowed, the call reports the body's exception and the worlds have diverged.  `Hung` therefore refers to
    the hang-strict semantics `ApiOp.runS`, which is `ApiOp.run` except that this swallowed hang is reported.
  * inbound transport faults (`Conn.faults`) are ALLOWED: they sit at absolute stream offsets, a read never
    crosses one (`faultLimit`), so both runs meet each fault at the same stream position.

  Only property theorems and examples live here; the proof is in AdbProofs/Lemmas/FragRel.lean (relation,
  combinators), FragWire.lean (base case), FragOps.lean and FragApi.lean (lifting).
-/
namespace Adb
open Adb.Frag Adb.SR

/-- What `FragAgree` says about the observable parts: same packet store, same bytes received by the peer on the
    open connection and on the closed ones, same pull destination, `available`, `maxdata`, local-id counter and
    clock, the same number of device bytes consumed and the same device bytes still to come, and the same trace
    apart from the `bulk_read` requests (i.e. the same deliveries, transmissions, yielded items, callbacks). -/
theorem C03_fragAgree_observables (w₁ w₂ : World) (h : FragAgree w₁ w₂) :
    w₁.store = w₂.store ∧ w₁.peerGot = w₂.peerGot ∧ w₁.past = w₂.past ∧ w₁.sink = w₂.sink ∧
    w₁.available = w₂.available ∧ w₁.maxdata = w₂.maxdata ∧ w₁.localId = w₂.localId ∧ w₁.now = w₂.now ∧
    w₁.cur.map (·.inOff) = w₂.cur.map (·.inOff) ∧ w₁.inboundRest = w₂.inboundRest ∧
    w₁.trace.filter TEv.notReq = w₂.trace.filter TEv.notReq := by
  have hc := h.cur
  refine ⟨h.store, ?_, h.past, h.sink, h.available, h.maxdata, h.localId, h.now, ?_, ?_, h.trace⟩
  · unfold World.peerGot
    cases h1 : w₁.cur <;> cases h2 : w₂.cur <;>
      simp only [h1, h2, Option.map_some, Option.map_none, Option.some.injEq, reduceCtorEq] at hc ⊢
    exact (congrArg Conn.peerGot hc :)
  · cases h1 : w₁.cur <;> cases h2 : w₂.cur <;>
      simp only [h1, h2, Option.map_some, Option.map_none, Option.some.injEq, reduceCtorEq] at hc ⊢
    exact (congrArg Conn.inOff hc :)
  · unfold World.inboundRest
    cases h1 : w₁.cur <;> cases h2 : w₂.cur <;>
      simp only [h1, h2, Option.map_some, Option.map_none, Option.some.injEq, reduceCtorEq] at hc ⊢
    exact (congrArg Conn.inboundRest hc :)

/-- Base case: `_read_bytes_from_device(n)` for any `n`.  From two worlds that differ only in how the reads
    are fragmented (no virtual time in transport calls, numeric non-negative read timeout), either one run
    ends in `hang`, or both return the same result — the same bytes or the same exception — and end in worlds
    that again differ only in the fragmentation script and the recorded requests; in particular the same
    number of bytes has been consumed. -/
theorem C03_readBytes_frag (n : Nat) (t : Txn) (hrt : RtOk t.rt) (w₁ w₂ : World) (h : FragAgree w₁ w₂)
    (hd : w₁.Dt0) :
    (readBytes n t w₁).1 = .error .hang ∨ (readBytes n t w₂).1 = .error .hang ∨
    ((readBytes n t w₁).1 = (readBytes n t w₂).1 ∧ FragAgree (readBytes n t w₁).2 (readBytes n t w₂).2 ∧
      (readBytes n t w₁).2.Dt0) :=
  Ins_readBytes n t hrt w₁ w₂ ⟨h, hd⟩

/-- The same for `_read_packet_from_device`. -/
theorem C03_readPacket_frag (t : Txn) (hrt : RtOk t.rt) (w₁ w₂ : World) (h : FragAgree w₁ w₂) (hd : w₁.Dt0) :
    (readPacket t w₁).1 = .error .hang ∨ (readPacket t w₂).1 = .error .hang ∨
    ((readPacket t w₁).1 = (readPacket t w₂).1 ∧ FragAgree (readPacket t w₁).2 (readPacket t w₂).2 ∧
      (readPacket t w₁).2.Dt0) :=
  Ins_readPacket t hrt w₁ w₂ ⟨h, hd⟩

/-- EVERY operation of the public API: run from two worlds that differ only in the read fragmentation (and
    the recorded requests), with `dt = 0` and acceptable timeouts, either one of the runs hung, or both calls
    return the same — the same value or the same exception — and leave worlds that again differ only in the
    fragmentation scripts and the recorded requests (same store, same bytes received by the peer, same pull
    destination, same deliveries / transmissions / yielded items / callbacks in the trace, …, see
    `C03_fragAgree_observables`), still with `dt = 0`. -/
theorem C03_op_frag_independent (op : ApiOp) (hto : op.TimeoutsOk) (w₁ w₂ : World) (h : FragAgree w₁ w₂)
    (hd : w₁.Dt0) :
    op.Hung w₁ ∨ op.Hung w₂ ∨
    ((op.run w₁).1 = (op.run w₂).1 ∧ FragAgree (op.run w₁).2 (op.run w₂).2 ∧ (op.run w₁).2.Dt0) :=
  apiOp_frag op hto w₁ w₂ ⟨h, hd⟩

/-- For every operation except `pull`, "hung" is literally "the call returned `Err.hang`". -/
theorem C03_hung_iff_hang (op : ApiOp) (w : World) (hp : ∀ p cb tt rt, op ≠ .pull p cb tt rt) :
    op.Hung w ↔ (op.run w).1 = .error .hang :=
  hung_iff op w hp

/-- For `pull` too a call that returns `Err.hang` hung; and whenever a call did not hang, the hang-strict
    semantics used to define `Hung` IS the semantics (result and final world). -/
theorem C03_hung_spec (op : ApiOp) (w : World) :
    ((op.run w).1 = .error .hang → op.Hung w) ∧ (¬ op.Hung w → op.run w = op.runS w) :=
  ⟨hung_of_run_hang op w, run_eq_runS op w⟩

/-- The statement with the literal escape "a run returned `Err.hang`", for every operation except `pull`. -/
theorem C03_op_frag_independent_nonpull (op : ApiOp) (hp : ∀ p cb tt rt, op ≠ .pull p cb tt rt)
    (hto : op.TimeoutsOk) (w₁ w₂ : World) (h : FragAgree w₁ w₂) (hd : w₁.Dt0) :
    (op.run w₁).1 = .error .hang ∨ (op.run w₂).1 = .error .hang ∨
    ((op.run w₁).1 = (op.run w₂).1 ∧ FragAgree (op.run w₁).2 (op.run w₂).2 ∧ (op.run w₁).2.Dt0) := by
  rw [← C03_hung_iff_hang op w₁ hp, ← C03_hung_iff_hang op w₂ hp]
  exact C03_op_frag_independent op hto w₁ w₂ h hd

/-- Histories: any sequence of API calls (exceptions recorded, not propagated) run from two worlds that differ
    only in the read fragmentation: unless some call hung in one of the runs, the two lists of results are
    equal and the final worlds differ only in the fragmentation scripts and the recorded requests. -/
theorem C03_history_frag_independent (ops : List ApiOp) (hto : ∀ op ∈ ops, op.TimeoutsOk) (w₁ w₂ : World)
    (h : FragAgree w₁ w₂) (hd : w₁.Dt0) :
    histHung ops w₁ ∨ histHung ops w₂ ∨
    ((runHistory ops w₁).1 = (runHistory ops w₂).1 ∧ FragAgree (runHistory ops w₁).2 (runHistory ops w₂).2 ∧
      (runHistory ops w₁).2.Dt0) :=
  history_frag ops hto w₁ w₂ ⟨h, hd⟩

/-- `World.unfrag` really is unfragmented delivery: no fragmentation script on the open connection and on any
    future connection, nothing else changed. -/
theorem C03_unfrag_spec (w : World) :
    (∀ c, w.unfrag.cur = some c → c.frags = [] ∧ c.fragLeft = none) ∧
    (∀ c ∈ w.unfrag.conns, c.frags = [] ∧ c.fragLeft = none) ∧ FragAgree w w.unfrag ∧ w.unfrag.trace = w.trace := by
  refine ⟨?_, ?_, FragAgree.unfrag_right w, rfl⟩
  · intro c hc
    simp only [World.unfrag, Option.map_eq_some_iff] at hc
    obtain ⟨c', -, rfl⟩ := hc
    exact ⟨rfl, rfl⟩
  · intro c hc
    simp only [World.unfrag, List.mem_map] at hc
    obtain ⟨c', -, rfl⟩ := hc
    exact ⟨rfl, rfl⟩

/-- Corollary, the headline of C03: every API call returns what it returns with unfragmented delivery (and
    leaves the same observable state), unless one of the two runs hung. -/
theorem C03_unfragmented (op : ApiOp) (hto : op.TimeoutsOk) (w : World) (hd : w.Dt0) :
    op.Hung w ∨ op.Hung w.unfrag ∨
    ((op.run w).1 = (op.run w.unfrag).1 ∧ FragAgree (op.run w).2 (op.run w.unfrag).2) := by
  rcases C03_op_frag_independent op hto w w.unfrag (FragAgree.unfrag_right w) hd with g | g | ⟨g1, g2, -⟩
  · exact Or.inl g
  · exact Or.inr (Or.inl g)
  · exact Or.inr (Or.inr ⟨g1, g2⟩)

/-- … and every history of API calls returns the results it returns with unfragmented delivery. -/
theorem C03_unfragmented_history (ops : List ApiOp) (hto : ∀ op ∈ ops, op.TimeoutsOk) (w : World) (hd : w.Dt0) :
    histHung ops w ∨ histHung ops w.unfrag ∨
    ((runHistory ops w).1 = (runHistory ops w.unfrag).1 ∧
      FragAgree (runHistory ops w).2 (runHistory ops w.unfrag).2) := by
  rcases C03_history_frag_independent ops hto w w.unfrag (FragAgree.unfrag_right w) hd with g | g | ⟨g1, g2, -⟩
  · exact Or.inl g
  · exact Or.inr (Or.inl g)
  · exact Or.inr (Or.inr ⟨g1, g2⟩)

/-! ### non-vacuity: a `stat` exchange, unfragmented and with reads of sizes 1, 0, 3, 1, 0, 0, 7, … -/

/-- the hypotheses of `C03_op_frag_independent` hold for the two concrete worlds … -/
example : FragAgree (fxStat 0 fxFrags) (fxStat 0 []) ∧ (fxStat 0 fxFrags).Dt0 ∧
    (ApiOp.stat sxPath (some 10) (some 10)).TimeoutsOk ∧ fxStat 0 [] = (fxStat 0 fxFrags).unfrag :=
  ⟨fxStat_agree 0 _ _, fxStat_dt0 _, rtOk_some 10 (by decide), rfl⟩

/-- … neither run hangs, both return the same `stat` result, and the fragmentation script was really used
    (three bytes of its last fragment are left). -/
example :
    (devStat sxPath (some 10) (some 10) (fxStat 0 fxFrags)).1.toOption = some (.stat 33188 1234 1700000000) ∧
    (devStat sxPath (some 10) (some 10) (fxStat 0 [])).1.toOption = some (.stat 33188 1234 1700000000) ∧
    (devStat sxPath (some 10) (some 10) (fxStat 0 fxFrags)).2.cur.map (·.frags) = some [3] := by
  decide +kernel

/-- a two-call history on the same pair of worlds (the second `stat` finds the device silent: the same
    transport timeout in both) -/
example :
    ((runHistory [.stat sxPath (some 10) (some 10), .stat sxPath (some 10) (some 10)] (fxStat 0 fxFrags)).1.map
      (fun r => (r.toOption, errOf r))) =
    [(some (.stat 33188 1234 1700000000), none), (none, some .transportTimeout)] ∧
    ((runHistory [.stat sxPath (some 10) (some 10), .stat sxPath (some 10) (some 10)] (fxStat 0 [])).1.map
      (fun r => (r.toOption, errOf r))) =
    [(some (.stat 33188 1234 1700000000), none), (none, some .transportTimeout)] := by
  decide +kernel

/-! ### the side conditions are necessary -/

/-- `dt ≠ 0`: with one tick per transport call and `read_timeout_s` = 10 ticks, a header delivered in single
    bytes takes 12 reads and times out; delivered unfragmented the call succeeds.  (`FragAgree` holds.) -/
example : FragAgree (fxStat 1 (List.replicate 12 1)) (fxStat 1 []) ∧
    errOf (devStat sxPath (some 10) (some 10) (fxStat 1 (List.replicate 12 1))).1 = some .adbTimeout ∧
    (devStat sxPath (some 10) (some 10) (fxStat 1 [])).1.toOption = some (.stat 33188 1234 1700000000) :=
  ⟨fxStat_agree 1 _ _, by decide +kernel⟩

/-- a negative `read_timeout_s`: the check `time.time() - start > read_timeout_s` fires after the first partial
    read, but is never reached when every read is complete. -/
example : FragAgree (fxStat 0 [1, 1]) (fxStat 0 []) ∧ (fxStat 0 [1, 1]).Dt0 ∧
    errOf (devStat sxPath (some 10) (some (-1)) (fxStat 0 [1, 1])).1 = some .adbTimeout ∧
    (devStat sxPath (some 10) (some (-1)) (fxStat 0 [])).1.toOption = some (.stat 33188 1234 1700000000) :=
  ⟨fxStat_agree 0 _ _, fxStat_dt0 _, by decide +kernel⟩

/-- `read_timeout_s=None` (with `transport_timeout_s=None`): the same check raises TypeError after the first
    partial read. -/
example : FragAgree (fxStat 0 [1, 1]) (fxStat 0 []) ∧ (fxStat 0 [1, 1]).Dt0 ∧
    errOf (devStat sxPath none none (fxStat 0 [1, 1])).1 = some .pyTypeError ∧
    (devStat sxPath none none (fxStat 0 [])).1.toOption = some (.stat 33188 1234 1700000000) :=
  ⟨fxStat_agree 0 _ _, fxStat_dt0 _, by decide +kernel⟩

/-- the loop budget: with budget 10 a header arriving in 24 single bytes exhausts it (`hang`), the unfragmented
    run succeeds — hence the escape "unless one of the runs hung". -/
example : FragAgree { fxStat 0 (List.replicate 24 1) with fuel := 10 } { fxStat 0 [] with fuel := 10 } ∧
    errOf (devStat sxPath (some 10) (some 10) { fxStat 0 (List.replicate 24 1) with fuel := 10 }).1 = some .hang ∧
    (devStat sxPath (some 10) (some 10) { fxStat 0 [] with fuel := 10 }).1.toOption
      = some (.stat 33188 1234 1700000000) :=
  ⟨⟨rfl, rfl, rfl, rfl, rfl, rfl, rfl, rfl, rfl, rfl, rfl, rfl, rfl, rfl, rfl, rfl⟩, by decide +kernel⟩

/-- the hang swallowed by `pull`'s `finally`: the device answers FAIL and then CLSE; loop budget 10.  With the
    CLSE header arriving byte by byte the clean-up `_clse` exhausts the budget, Python drops that `hang` and
    re-raises the FAIL — the same exception as in the unfragmented run, which completed the clean-up: the two
    worlds have consumed different amounts of the device stream (127 against 141 bytes).  The strict semantics
    reports the hang in the fragmented run (`Hung`), and only there. -/
example : FragAgree (fxPull 10 fxPullFrags) (fxPull 10 []) ∧ (fxPull 10 fxPullFrags).Dt0 ∧
    (ApiOp.pull sxPath .none (some 10) (some 10)).TimeoutsOk ∧
    errOf ((ApiOp.pull sxPath .none (some 10) (some 10)).run (fxPull 10 fxPullFrags)).1
      = some (.adbCommandFailure [110, 111]) ∧
    errOf ((ApiOp.pull sxPath .none (some 10) (some 10)).run (fxPull 10 [])).1
      = some (.adbCommandFailure [110, 111]) ∧
    ((ApiOp.pull sxPath .none (some 10) (some 10)).run (fxPull 10 fxPullFrags)).2.cur.map (·.inOff) = some 127 ∧
    ((ApiOp.pull sxPath .none (some 10) (some 10)).run (fxPull 10 [])).2.cur.map (·.inOff) = some 141 ∧
    errOf ((ApiOp.pull sxPath .none (some 10) (some 10)).runS (fxPull 10 fxPullFrags)).1 = some .hang ∧
    errOf ((ApiOp.pull sxPath .none (some 10) (some 10)).runS (fxPull 10 [])).1
      = some (.adbCommandFailure [110, 111]) :=
  ⟨fxPull_agree 10 _ _, fxPull_dt0 10 _, rtOk_some 10 (by decide), by decide +kernel⟩

/-- with the default loop budget the same two `pull` runs agree, as the theorem says -/
example :
    errOf ((ApiOp.pull sxPath .none (some 10) (some 10)).run (fxPull 100000 fxPullFrags)).1
      = some (.adbCommandFailure [110, 111]) ∧
    ((ApiOp.pull sxPath .none (some 10) (some 10)).run (fxPull 100000 fxPullFrags)).2.cur.map (·.inOff) = some 141 ∧
    ((ApiOp.pull sxPath .none (some 10) (some 10)).run (fxPull 100000 [])).2.cur.map (·.inOff) = some 141 := by
  decide +kernel

end Adb
