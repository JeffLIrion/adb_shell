import AdbProofs.Lemmas.ConcLemmas
import AdbModel.Generated.AstFacts
/-
  C06 — concurrent streams are isolated; no deadlock.   (partial: K1)
  Model: `AdbModel/Conc.lean` (atomic steps = the lock-protected blocks of `_AdbIOManager.read`).
  Vocabulary (defined in `AdbProofs/Lemmas/ConcLemmas.lean`):
    `Initial sys`    = `WellFormed sys ∧ sys.store = [] ∧ sys.lost = [] ∧` every reader is fresh
                       (`given = []`, `dropped = []`, `done = false`, `inLoop = false`);
    `ownOf r ps`     = the packets of `ps` with `(arg0, arg1) = (r.rid, r.lid)` (from the model);
    `parked st r`    = the queue the store `st` holds under `(r.rid, r.lid)`, as packets, oldest first;
    `lostOf s r`     = the packets of `s.lost` (discarded by `put`, K1) addressed to `r`'s stream;
    `soloSched i n`  = `pre i, iter i` repeated `n` times.
  The legacy zero-id fallbacks of `args_match` / `find_allow_zeros` (`Reader.owns`, `findAllowZeros`)
  are excluded by `WellFormed` (all ids non-zero); with a zero id the statements below are false.
  The full property (isolation and completion for EVERY schedule) is false of the code:
  `C06_K1_witness` is its machine-checked negation; the other theorems are the strongest true parts.
-/
namespace Adb
open Conc

/-- The unrestricted isolation property is FALSE of the code (K1): there is a well-formed two-reader
    system, starting with an empty store, and a schedule in which reader 1 takes reader 0's CLSE off
    the transport while the store has no entry for reader 0's stream; `put` discards it, the transport
    is drained completely, and reader 0 is never given a CLSE and never completes. -/
theorem C06_K1_witness :
    ∃ (sys : Sys) (sched : List Choice) (i : Nat), WellFormed sys ∧ sys.store = [] ∧ sys.lost = [] ∧ (run sys sched).lost ≠ [] ∧
      (run sys sched).wire = [] ∧
      (∃ r : Reader, (run sys sched).readers[i]? = some r ∧ r.done = false ∧ ∀ p ∈ r.given, p.cmd ≠ .CLSE) := by
  refine ⟨sysK1, schedK1, 0, wellFormed_of_B (by decide +kernel), rfl, rfl, by decide +kernel, by decide +kernel, ?_⟩
  refine ⟨{ lid := 1, rid := 11, inLoop := true, given := [⟨.WRTE, 11, 1, [97]⟩] }, by decide +kernel, rfl, by decide +kernel⟩

/-- Conservation, for EVERY schedule.  Start from a well-formed system with an empty store, nothing
    lost and no reader started (`Initial`), run any schedule, and look at any reader `i` (initially
    `r₀`, now `r`).  The packets the device sent on stream `i`, in the order sent, are exactly: those
    already given to reader `i`, then those parked in the store under the pair `(rid, lid)` of stream
    `i`, then those still on the transport, then those `put` discarded (K1).  Reader `i` discarded
    nothing itself, every lost packet is a CLSE, and a lost packet of stream `i` is the last packet
    the device sent on that stream. -/
theorem C06_conservation (sys₀ : Sys) (h₀ : Initial sys₀) (sched : List Choice) (i : Nat) (r₀ : Reader)
    (hr₀ : sys₀.readers[i]? = some r₀) :
    ∃ r : Reader, (run sys₀ sched).readers[i]? = some r ∧ r.lid = r₀.lid ∧ r.rid = r₀.rid ∧
      ownOf r₀ sys₀.wire =
        r.given ++ parked (run sys₀ sched).store r₀ ++ ownOf r₀ (run sys₀ sched).wire ++ lostOf (run sys₀ sched) r₀ ∧
      r.dropped = [] ∧
      (∀ p ∈ (run sys₀ sched).lost, p.cmd = Cmd.CLSE) ∧
      (∀ p ∈ lostOf (run sys₀ sched) r₀, (ownOf r₀ sys₀.wire).getLast? = some p) := by
  have h := reach_inv h₀ sched
  obtain ⟨r, hr, e1, e2⟩ := inv_reader h hr₀
  exact ⟨r, hr, e1, e2, inv_cons₀ h hr₀ hr, (h.cons i r hr).2.1, h.lostC,
    fun p hp => lost_is_last h₀.1 h hr₀ hp⟩

/-- No crosstalk: whatever the schedule, every packet given to reader `i` carries exactly the ids of
    stream `i`; nothing addressed to another stream is ever delivered to it. -/
theorem C06_no_crosstalk (sys₀ : Sys) (h₀ : Initial sys₀) (sched : List Choice) (i : Nat) (r : Reader)
    (hr : (run sys₀ sched).readers[i]? = some r) :
    ∀ p ∈ r.given, p.arg0 = r.rid ∧ p.arg1 = r.lid := by
  intro p hp
  have h := reach_inv h₀ sched
  have hE := (h.cons i r hr).1
  have : p ∈ ownOf r sys₀.wire := by rw [hE, view]; simp [hp]
  rw [ownOf_eq, List.mem_filter] at this
  simpa [ownB, and_comm] using this.2

/-- No duplication, no reordering, no gap: whatever the schedule, what reader `i` has been given so
    far is a prefix of the packets the device sent on stream `i`, in the order sent. -/
theorem C06_no_duplication_no_reorder (sys₀ : Sys) (h₀ : Initial sys₀) (sched : List Choice) (i : Nat)
    (r₀ r : Reader) (hr₀ : sys₀.readers[i]? = some r₀) (hr : (run sys₀ sched).readers[i]? = some r) :
    r.given <+: ownOf r₀ sys₀.wire := by
  have hE := inv_cons₀ (reach_inv h₀ sched) hr₀ hr
  exact ⟨parked (run sys₀ sched).store r₀ ++ ownOf r₀ (run sys₀ sched).wire ++ lostOf (run sys₀ sched) r₀,
    by rw [hE]; simp⟩

/-- The only loss is K1.  (1) Every packet the device sent on stream `i` is given to reader `i`, or
    parked for it, or still on the transport — or it is in `lost`, and then it is a CLSE and the last
    packet of its stream.  (2) In a reachable state, a step makes `lost` grow only when the stepping
    reader `j` takes a CLSE of a stream that is not its own off the transport while the store has no
    entry for that stream — exactly the branch of `_AdbPacketStore.put` that returns early. -/
theorem C06_only_loss_is_K1 (sys₀ : Sys) (h₀ : Initial sys₀) (sched : List Choice) :
    (∀ (i : Nat) (r₀ r : Reader), sys₀.readers[i]? = some r₀ → (run sys₀ sched).readers[i]? = some r →
      ∀ p ∈ ownOf r₀ sys₀.wire,
        p ∈ r.given ∨ p ∈ parked (run sys₀ sched).store r₀ ∨ p ∈ ownOf r₀ (run sys₀ sched).wire ∨
        (p ∈ (run sys₀ sched).lost ∧ p.cmd = Cmd.CLSE ∧ (ownOf r₀ sys₀.wire).getLast? = some p)) ∧
    (∀ c : Choice, (step (run sys₀ sched) c).lost = (run sys₀ sched).lost ∨
      ∃ (j : Nat) (rj : Reader) (p : Pkt) (rest : List Pkt), c = .iter j ∧
        (run sys₀ sched).readers[j]? = some rj ∧ ownB rj p = false ∧
        (run sys₀ sched).wire = p :: rest ∧ p.cmd = Cmd.CLSE ∧
        (run sys₀ sched).store.queue p.arg0 p.arg1 = none ∧
        (step (run sys₀ sched) c).lost = (run sys₀ sched).lost ++ [p]) := by
  have h := reach_inv h₀ sched
  refine ⟨?_, fun c => step_lost h₀.1 h c⟩
  intro i r₀ r hr₀ hr p hp
  rw [inv_cons₀ h hr₀ hr] at hp
  simp only [List.mem_append] at hp
  rcases hp with ((hp | hp) | hp) | hp
  · exact Or.inl hp
  · exact Or.inr (Or.inl hp)
  · exact Or.inr (Or.inr (Or.inl hp))
  · exact Or.inr (Or.inr (Or.inr ⟨(List.mem_filter.1 hp).1, h.lostC p (List.mem_filter.1 hp).1,
      lost_is_last h₀.1 h hr₀ hp⟩))

/-
  FULL isolation statement (FALSE of the code, refuted by `C06_K1_witness`):
    ∀ sys₀ sched i, Initial sys₀ → fair sched → (run sys₀ sched).readers[i].given = aloneGiven r₀ sys₀.wire
  What holds for every schedule is the prefix statement below; equality needs `lostOf … r₀ = []`.
-/

/-- Isolation, the part that holds for every schedule: what reader `i` has been given is a prefix of
    what it would be given if it were alone on the transport (`aloneGiven`: its packets up to and
    including its CLSE).  (The hypothesis "nothing was lost" is not needed for the prefix.) -/
theorem C06_isolation_partial (sys₀ : Sys) (h₀ : Initial sys₀) (sched : List Choice) (i : Nat)
    (r₀ r : Reader) (hr₀ : sys₀.readers[i]? = some r₀) (hr : (run sys₀ sched).readers[i]? = some r) :
    r.given <+: aloneGiven r₀ sys₀.wire := by
  rw [aloneGiven_eq_ownOf h₀.1 (List.mem_of_getElem? hr₀)]
  exact C06_no_duplication_no_reorder sys₀ h₀ sched i r₀ r hr₀ hr

/-- Same result as alone, when the reader completes: if reader `i` is done (it was given its CLSE),
    or if nothing of stream `i` was lost and nothing of it is parked or left on the transport, then
    it has been given exactly what it would have been given alone. -/
theorem C06_completes_partial (sys₀ : Sys) (h₀ : Initial sys₀) (sched : List Choice) (i : Nat)
    (r₀ r : Reader) (hr₀ : sys₀.readers[i]? = some r₀) (hr : (run sys₀ sched).readers[i]? = some r) :
    (r.done = true → r.given = aloneGiven r₀ sys₀.wire) ∧
    (lostOf (run sys₀ sched) r₀ = [] → parked (run sys₀ sched).store r₀ = [] →
      ownOf r₀ (run sys₀ sched).wire = [] → r.given = aloneGiven r₀ sys₀.wire) := by
  have h := reach_inv h₀ sched
  constructor
  · intro hd
    obtain ⟨a, b, c⟩ := done_rest h₀.1 h hr₀ hr hd
    exact given_all h₀.1 h hr₀ hr a b c
  · intro h1 h2 h3
    exact given_all h₀.1 h hr₀ hr h2 h3 h1

/-
  FULL completion statement (FALSE of the code because of K1, see `C06_K1_witness`):
    every reader of every fair schedule ends with `given = aloneGiven r₀ sys₀.wire`.
  Proved below: from EVERY reachable state, letting reader `i` run (`pre i, iter i` repeated) for as
  many rounds as there are packets on the transport and parked for it makes it end with exactly the
  result it would have alone — unless its CLSE was lost (K1).  Not proved: the same conclusion for an
  arbitrary fair interleaving of the remaining steps (the suffix here is reader `i` running alone;
  the other readers may be in any state and may have run in any order before).
-/

/-- Completion, no schedule deadlocks the reader: after any schedule `sched`, let reader `i` run for
    `n` rounds, `n` at least the number of packets then on the transport plus those parked for it.
    Then reader `i` has been given exactly what it would have been given alone, and it is done
    exactly if alone it would be done (its stream's CLSE was sent) — or a packet of its stream was
    lost (K1). -/
theorem C06_completes_after_solo_partial (sys₀ : Sys) (h₀ : Initial sys₀) (sched : List Choice) (i : Nat)
    (r₀ : Reader) (hr₀ : sys₀.readers[i]? = some r₀) (n : Nat)
    (hn : (run sys₀ sched).wire.length + (parked (run sys₀ sched).store r₀).length ≤ n) :
    ∃ r : Reader, (run sys₀ (sched ++ soloSched i n)).readers[i]? = some r ∧
      ((r.given = aloneGiven r₀ sys₀.wire ∧ r.done = (aloneGiven r₀ sys₀.wire).any (·.cmd == Cmd.CLSE))
        ∨ lostOf (run sys₀ (sched ++ soloSched i n)) r₀ ≠ []) := by
  obtain ⟨r, hr, hsat⟩ := solo_progress h₀.1 hr₀ n _ (reach_inv h₀ sched) hn
  rw [← run_append] at hr hsat
  exact ⟨r, hr, sat_result h₀.1 (reach_inv h₀ _) hr₀ hr hsat⟩

/-- Lock order, on facts GENERATED from the source AST of `adb_device.py` / `adb_device_async.py`:
    the only nesting of locks is "store lock inside transport lock" (one edge, so the nesting graph
    is acyclic: no edge is a loop and no edge is reversed); while the store lock is held only
    `_AdbPacketStore` methods are called (never the transport, never another lock); while the
    local-id lock is held only a constructor and a timeout getter are called. -/
theorem C06_lock_order :
    Generated.lockEdgesSync = [("transport", "store")] ∧ Generated.lockEdgesAsync = [("transport", "store")] ∧
    (∀ e ∈ Generated.lockEdgesSync ++ Generated.lockEdgesAsync,
      e.1 ≠ e.2 ∧ (e.2, e.1) ∉ Generated.lockEdgesSync ++ Generated.lockEdgesAsync) ∧
    (∀ c ∈ Generated.storeLockCallsSync ++ Generated.storeLockCallsAsync,
      c.startsWith "self._packet_store." = true) ∧
    (∀ c ∈ Generated.localIdLockCallsSync ++ Generated.localIdLockCallsAsync,
      c ∈ ["_AdbTransactionInfo", "self._get_transport_timeout_s"]) := by
  refine ⟨rfl, rfl, by decide +kernel, by decide +kernel, by decide +kernel⟩

/-- No deadlock under an ordered locking discipline: if every thread only ever requests a lock of
    rank greater than every lock it holds (`Thr.Ordered`; in the code: transport = 0 < store = 1,
    local-id lock never nested), then in every non-empty configuration some thread is not blocked —
    it either waits for nothing, or the lock it waits for is held by no other thread. -/
theorem C06_no_deadlock (cfg : List Thr) (hne : cfg ≠ []) (hord : ∀ t ∈ cfg, t.Ordered) :
    ∃ i, i < cfg.length ∧ ¬ Blocked cfg i := by
  by_cases hw : ∃ t ∈ cfg, Thr.wants t = none
  · obtain ⟨t, ht, hn⟩ := hw
    obtain ⟨i, hi, hti⟩ := List.getElem_of_mem ht
    refine ⟨i, hi, ?_⟩
    rintro ⟨t', l', hi', hl', _⟩
    rw [List.getElem?_eq_getElem hi, hti] at hi'
    cases hi'
    rw [hn] at hl'
    cases hl'
  · -- all threads wait: one that waits for a lock of maximal rank is not blocked
    have hw : ∀ t ∈ cfg, Thr.wants t ≠ none := fun t ht hn => hw ⟨t, ht, hn⟩
    obtain ⟨t, ht, hmax⟩ := exists_max (fun t : Thr => t.wants.getD 0) cfg hne
    obtain ⟨i, hi, hti⟩ := List.getElem_of_mem ht
    obtain ⟨l, hl⟩ := Option.ne_none_iff_exists'.1 (hw t ht)
    refine ⟨i, hi, ?_⟩
    rintro ⟨t', l', hi', hl', j, u, _, hu, hmem⟩
    rw [List.getElem?_eq_getElem hi, hti] at hi'
    cases hi'
    rw [hl] at hl'
    cases hl'
    have hum : u ∈ cfg := List.mem_of_getElem? hu
    obtain ⟨lu, hlu⟩ := Option.ne_none_iff_exists'.1 (hw u hum)
    have h1 := hord u hum lu hlu l hmem
    have h2 : u.wants.getD 0 ≤ t.wants.getD 0 := hmax u hum
    rw [hlu, hl, Option.getD_some, Option.getD_some] at h2
    omega

/-! ### Non-vacuity -/

/-- the hypotheses of the theorems are satisfiable: the two-reader system above is `Initial` -/
example : Initial sysK1 := ⟨wellFormed_of_B (by decide +kernel), rfl, rfl, by decide +kernel⟩

/-- a full schedule of the two-reader system in which nothing is lost delivers everything to both
    readers, exactly what each would be given alone -/
example : (run sysK1 schedGood).lost = [] ∧ (run sysK1 schedGood).wire = [] ∧ (run sysK1 schedGood).store = [] ∧
    (run sysK1 schedGood).readers.map (·.given) =
      [aloneGiven { lid := 1, rid := 11 } sysK1.wire, aloneGiven { lid := 2, rid := 12 } sysK1.wire] ∧
    (run sysK1 schedGood).readers.map (·.done) = [true, true] := by decide +kernel

/-- the K1 schedule: reader 0 has a proper prefix of what it would be given alone, its CLSE is in `lost` -/
example : (run sysK1 schedK1).lost = [⟨.CLSE, 11, 1, []⟩] ∧
    (run sysK1 schedK1).readers.map (·.given) = [[⟨.WRTE, 11, 1, [97]⟩], [⟨.WRTE, 12, 2, [98]⟩, ⟨.CLSE, 12, 2, []⟩]] ∧
    aloneGiven { lid := 1, rid := 11 } sysK1.wire = [⟨.WRTE, 11, 1, [97]⟩, ⟨.CLSE, 11, 1, []⟩] := by decide +kernel

/-- `C06_completes_after_solo_partial` on the K1 system: after reader 1 parked reader 0's WRTE, two
    rounds of reader 0 alone complete it with the result it would have alone -/
example : (run sysK1 ([.pre 1, .iter 1, .iter 1] ++ soloSched 0 2)).readers[0]?.map (·.given) =
    some (aloneGiven { lid := 1, rid := 11 } sysK1.wire) := by decide +kernel

/-- the lock discipline of the code in the abstract model: thread 0 holds the transport lock (rank 0)
    and waits for the store lock (rank 1) held by thread 1; thread 2 waits for the transport lock.
    Thread 1 is not blocked. -/
example : ∃ i, i < 3 ∧ ¬ Blocked [⟨[0], some 1⟩, ⟨[1], none⟩, ⟨[], some 0⟩] i :=
  C06_no_deadlock [⟨[0], some 1⟩, ⟨[1], none⟩, ⟨[], some 0⟩] (by simp) (by simp [Thr.Ordered])

end Adb
