import AdbProofs.Lemmas.Utf8Lemmas
/-
  C01 (decoding part) — "With decode=True shell/exec_out return the backslash-escaping UTF-8 decoding of that
  whole concatenation ... and never raise a decode error".
  These theorems are about the decoder model `Utf8.decodeBS` (`bytes.decode('utf8', 'backslashreplace')`).
  Only property theorems and non-vacuity examples live here; helpers are in AdbProofs/Lemmas/Utf8Lemmas.lean.
-/
namespace Adb
open Utf8

/-- Decoding the empty input gives the empty string. -/
theorem C01_decodeBS_nil : decodeBS [] = [] := decodeBS_nil

/-- When a well-formed sequence of `len` bytes starts the input, the decoder emits its code point and continues
    after exactly those `len` bytes (the fuel of `decodeAux` never runs out). -/
theorem C01_decodeBS_valid (b : UInt8) (rest : Bytes) (cp len : Nat)
    (h : decodeStep (b :: rest) = some (cp, len)) :
    decodeBS (b :: rest) = cp :: decodeBS ((b :: rest).drop len) :=
  decodeBS_valid _ _ _ h

/-- When no well-formed sequence starts the input, the decoder emits `\xNN` for the first byte only and continues
    with the very next byte. -/
theorem C01_decodeBS_invalid (b : UInt8) (rest : Bytes) (h : decodeStep (b :: rest) = none) :
    decodeBS (b :: rest) = escape b ++ decodeBS rest :=
  decodeBS_invalid b rest h

/-- Decoding is total and consumes everything: every input splits, left to right, into segments of 1 to 4 bytes,
    each either a well-formed sequence (contributing its code point) or — only where no well-formed sequence
    starts — a single byte (contributing its `\xNN` escape); the segments' bytes concatenate to the input and
    their outputs concatenate to the decoded string. -/
theorem C01_decode_total_progress (bs : Bytes) :
    ∃ segs : List (Bytes × List Nat), Segmented bs segs
      ∧ (segs.map (·.1)).flatten = bs ∧ (segs.map (·.2)).flatten = decodeBS bs
      ∧ ∀ s ∈ segs, 1 ≤ s.1.length ∧ s.1.length ≤ 4 :=
  segmented_exists bs

/-- A sequence accepted by the decoder yields a Unicode scalar value (never a surrogate, never above U+10FFFF),
    is 1 to 4 bytes long, lies inside the input, and is exactly the (shortest-form) UTF-8 encoding of that
    code point — overlong forms are not accepted. -/
theorem C01_decodeStep_sound (bs : Bytes) (cp len : Nat) (h : decodeStep bs = some (cp, len)) :
    IsScalar cp ∧ 1 ≤ len ∧ len ≤ 4 ∧ len ≤ bs.length ∧ encodeCp cp = bs.take len :=
  decodeStep_sound bs cp len h

/-- The encoding of every scalar value is accepted with its own code point and length, whatever follows. -/
theorem C01_decodeStep_complete (c : Nat) (rest : Bytes) (h : IsScalar c) :
    decodeStep (encodeCp c ++ rest) = some (c, (encodeCp c).length) :=
  decodeStep_complete c rest h

/-- Round trip: valid UTF-8 text (the encoding of any list of scalar values, of any length) decodes to itself. -/
theorem C01_decode_encode (cps : List Nat) (h : ∀ c ∈ cps, IsScalar c) : decodeBS (encode cps) = cps := by
  have := decodeBS_encode_append cps [] h
  simpa [decodeBS_nil] using this

/-- The escape of a byte is the four characters `\`, `x` and the two lowercase hexadecimal digits of the byte
    (high nibble first), and every code point the decoder ever produces is a scalar value — so the result is
    always a legal `str` ("never raise a decode error"). -/
theorem C01_escape_shape :
    (∀ b : UInt8, escape b = [92, 120, hexDigitLower (b.toNat / 16), hexDigitLower (b.toNat % 16)])
    ∧ (∀ n, n < 16 → (n < 10 → hexDigitLower n = 48 + n) ∧ (10 ≤ n → hexDigitLower n = 97 + (n - 10))
        ∧ ((48 ≤ hexDigitLower n ∧ hexDigitLower n ≤ 57) ∨ (97 ≤ hexDigitLower n ∧ hexDigitLower n ≤ 102)))
    ∧ (∀ bs : Bytes, ∀ c ∈ decodeBS bs, IsScalar c) := by
  refine ⟨fun _ => rfl, ?_, decodeBS_scalar⟩
  intro n hn
  refine ⟨?_, ?_, hexDigitLower_range n hn⟩
  · intro h; simp [hexDigitLower, h]
  · intro h; unfold hexDigitLower; split <;> omega

/-- Bytes below 0x80 decode to themselves. -/
theorem C01_decode_ascii (bs : Bytes) (h : ∀ b ∈ bs, b < 0x80) : decodeBS bs = bs.map (·.toNat) :=
  decodeBS_ascii bs h

/-- Splitting the input at a character boundary commutes with decoding: valid text followed by anything decodes
    to that text followed by the decoding of the remainder. (Per-chunk decoding can therefore differ from
    decoding the whole concatenation only when a chunk boundary falls inside a character.) -/
theorem C01_decode_append_valid (cps : List Nat) (rest : Bytes) (h : ∀ c ∈ cps, IsScalar c) :
    decodeBS (encode cps ++ rest) = cps ++ decodeBS rest :=
  decodeBS_encode_append cps rest h

/-! ### non-vacuity and concrete behaviour -/

/-- per-chunk decoding differs from decoding the whole concatenation when a chunk boundary falls inside a
    character (U+20AC, `E2 82 AC`) -/
example : decodeBS ([0xE2, 0x82] ++ [0xAC]) = [0x20AC]
    ∧ decodeBS [0xE2, 0x82] ++ decodeBS [0xAC] = escape 0xE2 ++ escape 0x82 ++ escape 0xAC
    ∧ escape 0xE2 ++ escape 0x82 ++ escape 0xAC
        = [92, 120, 101, 50, 92, 120, 56, 50, 92, 120, 97, 99] := by decide +kernel

-- hypotheses of `C01_decodeBS_valid` / `C01_decodeStep_sound` are satisfiable (4-byte sequence, U+1F600)
example : decodeStep [0xF0, 0x9F, 0x98, 0x80, 0x41] = some (0x1F600, 4) := by decide +kernel
-- hypotheses of `C01_decodeBS_invalid`: overlong `C0 80`, surrogate `ED A0 80`, too large `F4 90 80 80`, truncated
example : decodeStep [0xC0, 0x80] = none ∧ decodeStep [0xED, 0xA0, 0x80] = none
    ∧ decodeStep [0xF4, 0x90, 0x80, 0x80] = none ∧ decodeStep [0xE2, 0x82] = none
    ∧ decodeStep [0xE0, 0x9F, 0xBF] = none ∧ decodeStep [0xF0, 0x8F, 0xBF, 0xBF] = none := by decide +kernel
-- scalar values exist in every length class, including the boundaries
example : IsScalar 0x41 ∧ IsScalar 0x7FF ∧ IsScalar 0x800 ∧ IsScalar 0xD7FF ∧ IsScalar 0xE000 ∧ IsScalar 0xFFFF
    ∧ IsScalar 0x10000 ∧ IsScalar 0x10FFFF ∧ ¬ IsScalar 0xD800 ∧ ¬ IsScalar 0xDFFF ∧ ¬ IsScalar 0x110000 := by
  unfold IsScalar; omega
-- the round trip on a text using all four lengths, followed by an invalid byte
example : encode [0x41, 0xE9, 0x20AC, 0x1F600] = [0x41, 0xC3, 0xA9, 0xE2, 0x82, 0xAC, 0xF0, 0x9F, 0x98, 0x80]
    ∧ decodeBS (encode [0x41, 0xE9, 0x20AC, 0x1F600] ++ [0xFF])
        = [0x41, 0xE9, 0x20AC, 0x1F600, 92, 120, 102, 102] := by decide +kernel
-- ASCII hypothesis satisfiable
example : (∀ b ∈ ([0x68, 0x69, 0x0A] : Bytes), b < 0x80) ∧ decodeBS [0x68, 0x69, 0x0A] = [0x68, 0x69, 0x0A] := by
  decide
-- a concrete segmentation: valid 2-byte sequence, stray continuation byte, ASCII
example : Segmented [0xC3, 0xA9, 0x80, 0x41] [([0xC3, 0xA9], [0xE9]), ([0x80], escape 0x80), ([0x41], [0x41])] :=
  .valid _ 0xE9 2 _ (by decide +kernel) (.invalid _ _ _ (by decide +kernel) (.valid _ 0x41 1 _ (by decide +kernel) .nil))

end Adb
