import AdbProofs.Lemmas.IdFrame
import AdbProofs.Properties.C14
/-
  C14, API level — the id counter stays in [0, 2^32) over every operation and every history, so every
  allocation (`nextId` of the counter, `C14_open_uses_allocated`) is in [1, 2^32 - 1] for the whole life
  of the object, whatever the outcomes of the operations in between (failed opens included: the
  counter is never decremented or reset).
-/
namespace Adb

/-- Every public operation, in every world and whatever its outcome, keeps the stream-id counter below 2^32. -/
theorem C14_counter_stays_32bit (op : ApiOp) (w : World) (h : w.localId < 4294967296) :
    (op.run w).2.localId < 4294967296 :=
  Pres_apiOp IdB.wrel IdB.admits IdB.alloc (fun _ _ => .of_eq rfl) (fun _ _ _ => .of_eq rfl) op w h

/-- …and over any history of calls. A fresh object starts at 0. -/
theorem C14_counter_history (ops : List ApiOp) (w : World) (h : w.localId < 4294967296) :
    (runHistory ops w).2.localId < 4294967296 :=
  Pres_runHistory IdB.wrel IdB.admits IdB.alloc (fun _ _ => .of_eq rfl) (fun _ _ _ => .of_eq rfl) ops w h

/-- Hence the id of the NEXT stream opened after any history on a fresh object is in [1, 2^32 - 1]. -/
theorem C14_next_id_after_history (ops : List ApiOp) (w : World) (h : w.localId = 0) :
    1 ≤ nextId (runHistory ops w).2.localId ∧ nextId (runHistory ops w).2.localId < 4294967296 :=
  C14_range _ (C14_counter_history ops w (by omega))

example : ({ localId := 4294967295 } : World).localId < 4294967296 := by decide

end Adb
