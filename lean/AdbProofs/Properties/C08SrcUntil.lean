import AdbProofs.Lemmas.SrcFsRead
/-
  C08 / C10 (tie to the source, by proof) — the loop of `_filesync_read_until` (both twins), extracted from the CURRENT source by harness/pytrans.py with `self._filesync_read(...)` and the
  `yield` as effects: every iteration asks `_filesync_read` for exactly `expected_ids + finish_ids` (with the untouched transaction objects), yields exactly the triple it was handed, in the
  order `(id, header, data)`, and ends the loop iff the id is one of `finish_ids`; the loop condition is `True`.  So the records `list` / `_pull` / `_push` iterate over are exactly the
  ones `_filesync_read` (C10SrcRead.lean) classified, one per iteration, nothing dropped, reordered or repeated.
  Only property theorems live here.
-/
set_option linter.unusedSimpArgs false
namespace Adb
open Py

/-- One iteration of `_filesync_read_until` (sync): request, yield and continuation. -/
theorem C08_src_read_until_iter_sync (expected finish : List SyncId) (info fi x0 x1 x2 hdr data eff1 : Py.Val) (c : SyncId) :
    Src.AdbDevice_filesync_read_until_cond info x0 x1 (encIds expected) fi (encIds finish) x2 = .ok (.bool true)
    ∧ Src.AdbDevice_filesync_read_until_eff0_args info x0 x1 (encIds expected) fi (encIds finish) x2
        = .ok (.tuple [.str "request", .str "_filesync_read", encIds (expected ++ finish), info, fi])
    ∧ Src.AdbDevice_filesync_read_until_eff1_args info x0 x1 (encIds expected) fi (encIds finish) x2 (.tuple [.bytes c.idBytes, hdr, data])
        = .ok (.tuple [.str "request", .str "yield", .tuple [.bytes c.idBytes, hdr, data]])
    ∧ Src.AdbDevice_filesync_read_until_iter info x0 x1 (encIds expected) fi (encIds finish) x2 (.tuple [.bytes c.idBytes, hdr, data]) eff1
        = .ok (.tuple [.str (if finish.contains c then "break" else "continue"), .bytes c.idBytes, data, hdr]) := by
  refine ⟨rfl, ?_, ?_, ?_⟩
  · simp [Src.AdbDevice_filesync_read_until_eff0_args, encIds, Py.add, pysimp]
  · simp [Src.AdbDevice_filesync_read_until_eff1_args, pysimp]
  · simp only [Src.AdbDevice_filesync_read_until_iter, pysimp, Py.inV, Py.contains, encIds, anyEq_syncIdBytes]
    by_cases h : c ∈ finish <;> simp [h]

/-- The translation of `_filesync_read_until` of the async class is, piece by piece, that of the sync class; an edit of one twin only breaks these equations. -/
theorem Src.filesync_read_until_twin : Src.AdbDeviceAsync_filesync_read_until_cond = Src.AdbDevice_filesync_read_until_cond
    ∧ Src.AdbDeviceAsync_filesync_read_until_eff0_args = Src.AdbDevice_filesync_read_until_eff0_args
    ∧ Src.AdbDeviceAsync_filesync_read_until_eff1_args = Src.AdbDevice_filesync_read_until_eff1_args
    ∧ Src.AdbDeviceAsync_filesync_read_until_iter = Src.AdbDevice_filesync_read_until_iter := ⟨rfl, rfl, rfl, rfl⟩

/-- One iteration of `_filesync_read_until` (async twin): the same statement. -/
theorem C08_src_read_until_iter_async (expected finish : List SyncId) (info fi x0 x1 x2 hdr data eff1 : Py.Val) (c : SyncId) :
    Src.AdbDeviceAsync_filesync_read_until_cond info x0 x1 (encIds expected) fi (encIds finish) x2 = .ok (.bool true)
    ∧ Src.AdbDeviceAsync_filesync_read_until_eff0_args info x0 x1 (encIds expected) fi (encIds finish) x2
        = .ok (.tuple [.str "request", .str "_filesync_read", encIds (expected ++ finish), info, fi])
    ∧ Src.AdbDeviceAsync_filesync_read_until_eff1_args info x0 x1 (encIds expected) fi (encIds finish) x2 (.tuple [.bytes c.idBytes, hdr, data])
        = .ok (.tuple [.str "request", .str "yield", .tuple [.bytes c.idBytes, hdr, data]])
    ∧ Src.AdbDeviceAsync_filesync_read_until_iter info x0 x1 (encIds expected) fi (encIds finish) x2 (.tuple [.bytes c.idBytes, hdr, data]) eff1
        = .ok (.tuple [.str (if finish.contains c then "break" else "continue"), .bytes c.idBytes, data, hdr]) := by
  simp only [Src.filesync_read_until_twin]
  exact C08_src_read_until_iter_sync expected finish info fi x0 x1 x2 hdr data eff1 c

end Adb
