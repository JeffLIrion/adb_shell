import AdbProofs.Lemmas.ResetInv
/-
  C12, last clause — "a subsequent connect() to a healthy device succeeds and every operation then
  behaves correctly, unaffected by packets or partial state from the broken session".

  Noninterference formulation.  `SessionEq w₁ w₂`: the two worlds have the same future (scripts of
  the coming connections, clock, loop budget), the same local-id counter, banner, default timeout,
  locks and local files, but ARBITRARILY different leftovers: packet store, `available`, `maxdata`,
  the open (possibly half-read, reset, …) connection, the pull destination, and the ghost fields.
  `connect()` maps such worlds to worlds that agree on everything any later operation reads, and
  from then on every operation of every history returns the same in both.  Taking for `w₂` a world
  without leftovers (empty store, no open connection) this says: the object after a broken session
  and a reconnect is indistinguishable from a clean one.
-/
namespace Adb
open Adb.Reset

/-- `connect()` resets the session.  Two device objects that differ only in leftovers of an earlier
    session (parked packets, an open or half-dead connection, `available`, `maxdata`, the pull
    destination) and whose transaction info can be built: `connect()` returns the same in both,
    leaves them agreeing on store, open connection, availability and all other fields a later
    operation can read (`SameSession`), on success also on `maxdata`, and the events it records
    (messages sent, packets delivered, callback) are the same. -/
theorem C12_connect_resets (keys : List Nat) (tt authT rt : Timeout) (cb : Bool) (w₁ w₂ : World)
    (h : SessionEq w₁ w₂) (hl : w₁.locks = [])
    (hmk : ∃ t, Txn.make none none (if tt.isSome = true then tt else w₁.defaultTT) rt none = .ok t) :
    (devConnect keys tt authT rt cb w₁).1 = (devConnect keys tt authT rt cb w₂).1 ∧
    SameSession (devConnect keys tt authT rt cb w₁).2 (devConnect keys tt authT rt cb w₂).2 ∧
    (∀ v, (devConnect keys tt authT rt cb w₁).1 = .ok v →
      (devConnect keys tt authT rt cb w₁).2.maxdata = (devConnect keys tt authT rt cb w₂).2.maxdata) ∧
    ∃ evs, (devConnect keys tt authT rt cb w₁).2.trace = evs ++ w₁.trace ∧
           (devConnect keys tt authT rt cb w₂).2.trace = evs ++ w₂.trace := by
  obtain ⟨t, hm⟩ := hmk
  obtain ⟨g1, g2, g3⟩ := devConnect_resets keys tt authT rt cb w₁ w₂ h hl t hm
  exact ⟨g1, g2.1.sameSession,
    fun v hv => g2.2 ((C13_connect_available keys tt authT rt cb w₁ t hm).1 v _ (Prod.ext hv rfl)).1, g3⟩

/-- The other branch of `connect()`: when the transaction info cannot be built (`read_timeout_s=None`
    with a transport timeout) it raises before touching anything — the same error in both objects,
    both unchanged. -/
theorem C12_connect_badargs_untouched (keys : List Nat) (tt authT rt : Timeout) (cb : Bool) (w₁ w₂ : World)
    (h : SessionEq w₁ w₂) (e : Err)
    (hmk : Txn.make none none (if tt.isSome = true then tt else w₁.defaultTT) rt none = .error e) :
    devConnect keys tt authT rt cb w₁ = (.error e, w₁) ∧ devConnect keys tt authT rt cb w₂ = (.error e, w₂) :=
  ⟨devConnect_run_err keys tt authT rt cb w₁ e hmk, devConnect_run_err keys tt authT rt cb w₂ e (h.defaultTT ▸ hmk)⟩

/-- `close()` resets as well: from two objects that differ only in session leftovers it returns
    `None` in both and leaves them in the same session state — no open connection, empty store,
    unavailable — having recorded the same event. -/
theorem C12_close_then_anything (w₁ w₂ : World) (h : SessionEq w₁ w₂) (hl : w₁.locks = []) :
    (devClose w₁).1 = .ok .none ∧ (devClose w₂).1 = .ok .none ∧
    SameSession (devClose w₁).2 (devClose w₂).2 ∧
    (devClose w₁).2.cur = none ∧ (devClose w₁).2.store = [] ∧ (devClose w₁).2.available = false ∧
    (devClose w₂).2.cur = none ∧ (devClose w₂).2.store = [] ∧ (devClose w₂).2.available = false ∧
    ∃ evs, (devClose w₁).2.trace = evs ++ w₁.trace ∧ (devClose w₂).2.trace = evs ++ w₂.trace := by
  rw [devClose_run w₁ hl, devClose_run w₂ (h.locks ▸ hl)]
  exact ⟨rfl, rfl, ⟨h, rfl, rfl, rfl⟩, rfl, rfl, rfl, rfl, rfl, rfl, [.tclose], rfl, rfl⟩

/-- After the reset nothing of the old session can matter: two objects in the same session state
    (`SameSession`: equal store, open connection, availability, id counter, …) with the same
    `maxdata` — e.g. one that went through a broken session and a reconnect, and a clean one —
    give, for EVERY public operation, the same result, the same session state and `maxdata`
    afterwards, the same recorded events (messages sent, packets delivered/parked/dropped, items
    yielded, callbacks), and the same pull destination if it was the same before (`pull` truncates
    it first).  The only fields allowed to differ are `past` and `trace`, which no operation reads. -/
theorem C12_ops_after_reset (op : ApiOp) (w₁ w₂ : World) (h : SameSession w₁ w₂) (hm : w₁.maxdata = w₂.maxdata) :
    (op.run w₁).1 = (op.run w₂).1 ∧ SameSession (op.run w₁).2 (op.run w₂).2 ∧
    (op.run w₁).2.maxdata = (op.run w₂).2.maxdata ∧
    (w₁.sink = w₂.sink → (op.run w₁).2.sink = (op.run w₂).2.sink) ∧
    ∃ evs, (op.run w₁).2.trace = evs ++ w₁.trace ∧ (op.run w₂).2.trace = evs ++ w₂.trace := by
  obtain ⟨g1, g2, g3⟩ := Ins_apiOp (s := false) op w₁ w₂ (SameSession.agree h (fun _ => hm) nofun)
  exact ⟨g1, g2.sameSession, g2.maxdata rfl,
    fun hs => (Ins_apiOp (s := true) op w₁ w₂ (SameSession.agree h (fun _ => hm) fun _ => hs)).2.1.sink rfl, g3⟩

/-- …and so for whole histories of calls, each possibly failing. -/
theorem C12_history_after_reset (ops : List ApiOp) (w₁ w₂ : World) (h : SameSession w₁ w₂)
    (hm : w₁.maxdata = w₂.maxdata) :
    (runHistory ops w₁).1 = (runHistory ops w₂).1 ∧ SameSession (runHistory ops w₁).2 (runHistory ops w₂).2 ∧
    (runHistory ops w₁).2.maxdata = (runHistory ops w₂).2.maxdata := by
  induction ops generalizing w₁ w₂ with
  | nil => exact ⟨rfl, h, hm⟩
  | cons op ops ih =>
    obtain ⟨g1, g2, g3, -, -⟩ := C12_ops_after_reset op w₁ w₂ h hm
    obtain ⟨i1, i2, i3⟩ := ih _ _ g2 g3
    simp only [runHistory]
    exact ⟨by rw [g1, i1], i2, i3⟩

/-- The property as a whole: take an object with arbitrary leftovers of a broken session and any
    other object in the same situation otherwise — in particular a clean one (empty store, nothing
    open, never connected) with the same id counter.  After a `connect()` call (with arguments from
    which the transaction info can be built), whether it succeeds or raises, every later history
    of calls — each possibly failing — returns exactly the same in both, and they end in the same
    session state.  Nothing parked, half-read or half-written in the broken session can surface. -/
theorem C12_reconnect_then_history (keys : List Nat) (tt authT rt : Timeout) (cb : Bool) (ops : List ApiOp)
    (w₁ w₂ : World) (h : SessionEq w₁ w₂) (hl : w₁.locks = [])
    (hmk : ∃ t, Txn.make none none (if tt.isSome = true then tt else w₁.defaultTT) rt none = .ok t) :
    (runHistory (.connect keys tt authT rt cb :: ops) w₁).1 = (runHistory (.connect keys tt authT rt cb :: ops) w₂).1 ∧
    SameSession (runHistory (.connect keys tt authT rt cb :: ops) w₁).2
                (runHistory (.connect keys tt authT rt cb :: ops) w₂).2 := by
  obtain ⟨t, hm⟩ := hmk
  obtain ⟨g1, hinv, -⟩ := devConnect_resets keys tt authT rt cb w₁ w₂ h hl t hm
  obtain ⟨i1, i2⟩ := history_inv ops _ _ hinv
  simp only [runHistory, ApiOp.run]
  exact ⟨by rw [g1, i1], i2.1.sameSession⟩

/-! ### Non-vacuity (evaluated by the kernel) -/

/-- The hypotheses of `C12_connect_resets` hold for a fresh object and for the same object carrying
    junk in every free field (a parked packet, `available`, a reset half-read connection, a closed
    earlier connection, another `maxdata`, a sink, an old trace); the device answers CNXN:
    `connect()` returns True in both, with the store empty, the same open connection and maxdata. -/
example :
    SessionEq exJunk exFresh ∧ exJunk.locks = [] ∧
    (∃ t, Txn.make none none (if (none : Timeout).isSome = true then none else exJunk.defaultTT) (some 10240) none = .ok t) ∧
    exJunk.store.isEmpty = false ∧ exFresh.store.isEmpty = true ∧
    exJunk.available = true ∧ exFresh.available = false ∧
    exJunk.cur.isSome = true ∧ exFresh.cur.isSome = false ∧
    exJunk.past.length = 1 ∧ exFresh.past.length = 0 ∧ exJunk.maxdata ≠ exFresh.maxdata ∧
    isOkTrue (devConnect [] none (some 10240) (some 10240) false exJunk).1 = true ∧
    isOkTrue (devConnect [] none (some 10240) (some 10240) false exFresh).1 = true ∧
    (devConnect [] none (some 10240) (some 10240) false exJunk).2.store.isEmpty = true ∧
    (devConnect [] none (some 10240) (some 10240) false exJunk).2.maxdata = 4096 ∧
    (devConnect [] none (some 10240) (some 10240) false exFresh).2.maxdata = 4096 ∧
    (devConnect [] none (some 10240) (some 10240) false exJunk).2.cur.map (·.inOff) = some 33 ∧
    (devConnect [] none (some 10240) (some 10240) false exFresh).2.cur.map (·.inOff) = some 33 :=
  ⟨exJunk_sessionEq, rfl, ⟨_, rfl⟩, by decide +kernel⟩

/-- The failing side of `C12_connect_resets`: the same two objects with no device to connect to —
    `connect()` raises the same transport error in both, and both end closed, empty and unavailable. -/
example :
    SessionEq exJunkDead exFreshDead ∧ exJunkDead.locks = [] ∧
    isErr .transportError (devConnect [] none (some 10240) (some 10240) false exJunkDead).1 = true ∧
    isErr .transportError (devConnect [] none (some 10240) (some 10240) false exFreshDead).1 = true ∧
    (devConnect [] none (some 10240) (some 10240) false exJunkDead).2.store.isEmpty = true ∧
    (devConnect [] none (some 10240) (some 10240) false exJunkDead).2.cur.isSome = false ∧
    (devConnect [] none (some 10240) (some 10240) false exJunkDead).2.available = false :=
  ⟨⟨rfl, rfl, rfl, rfl, rfl, rfl, rfl, rfl, rfl⟩, rfl, by decide +kernel⟩

/-- `C12_connect_badargs_untouched` is about a real case: `read_timeout_s=None` with a transport timeout. -/
example : Txn.make none none (if (some 5 : Timeout).isSome = true then some 5 else exJunk.defaultTT) none none
    = .error .pyTypeError := rfl

/-- `C12_close_then_anything` / `C12_ops_after_reset`: the junk object and the fresh one after `close()`
    are in the same session state although they started differently. -/
example : SessionEq exJunk exFresh ∧ exJunk.locks = [] ∧ exJunk.cur.isSome = true ∧ exFresh.cur.isSome = false ∧
    (devClose exJunk).2.past.length = 2 ∧ (devClose exFresh).2.past.length = 0 :=
  ⟨exJunk_sessionEq, rfl, rfl, rfl, by decide +kernel⟩

/-- The hypotheses of `C12_ops_after_reset` / `C12_history_after_reset` hold for two worlds that are
    NOT equal: the junk object and the fresh one after their `connect()` — same session state and
    `maxdata`, but different `past`, `sink` and `trace`. -/
example :
    let v₁ := (devConnect [] none (some 10240) (some 10240) false exJunk).2
    let v₂ := (devConnect [] none (some 10240) (some 10240) false exFresh).2
    SameSession v₁ v₂ ∧ v₁.maxdata = v₂.maxdata ∧ v₁.past.length = 2 ∧ v₂.past.length = 0 ∧
      v₁.sink.isSome = true ∧ v₂.sink.isSome = false ∧ v₁.trace.length ≠ v₂.trace.length :=
  ⟨(C12_connect_resets [] none (some 10240) (some 10240) false exJunk exFresh exJunk_sessionEq rfl ⟨_, rfl⟩).2.1,
    by decide +kernel⟩

/-- `C12_reconnect_then_history` with a real history: after the reconnect a `shell` call is answered
    the same way by both objects (here: both time out reading, the scripted device says nothing more);
    the hypotheses are those of the first example. -/
example :
    let h : List ApiOp := [.connect [] none (some 10240) (some 10240) false, .shell (ascii "id") none (some 10240) none false]
    isOkTrue (devConnect [] none (some 10240) (some 10240) false exJunk).1 = true ∧
    (runHistory h exJunk).1.length = 2 ∧
    (runHistory h exJunk).1.map (isErr .transportTimeout) = [false, true] ∧
    (runHistory h exFresh).1.map (isErr .transportTimeout) = [false, true] := by
  decide +kernel

end Adb
