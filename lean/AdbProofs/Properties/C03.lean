import AdbProofs.Lemmas.WireLemmas
import AdbProofs.Properties.C02
/-
  C03 — however the transport fragments the device's byte stream into reads (any sizes from 1 byte up to
  what was requested, empty reads interspersed), the library reconstructs exactly the packets the device
  sent; it never requests more bytes than remain in the current packet.  A packet whose non-empty payload
  does not match its checksum is never delivered to the caller (InvalidChecksumError) and an unknown
  command word is rejected (InvalidCommandError).
  Only property theorems and non-vacuity examples live here; helper lemmas are in
  AdbProofs/Lemmas/WireLemmas.lean.
-/
namespace Adb

/-- One `bulk_read(n)` call, for every fragmentation / gating / fault script and timing: it touches only the
    connection and the clock; what it returns is at most `n` bytes and is exactly the front of the remaining
    device stream, which is shortened by exactly those bytes; an exception consumes nothing.  The peer's
    received bytes and the trace are untouched. -/
theorem C03_bulkRead_spec (n : Nat) (tt : Timeout) (w : World) (r : Except Err Bytes) (w' : World)
    (h : bulkRead n tt w = (r, w')) :
    SameDevice w w' ∧ w'.peerGot = w.peerGot ∧ w'.trace = w.trace ∧
    (∀ bs, r = .ok bs → bs.length ≤ n ∧ w.inboundRest = bs ++ w'.inboundRest) ∧
    (∀ e, r = .error e → w'.inboundRest = w.inboundRest) :=
  bulkRead_spec n tt w r w' h

/-- `_read_bytes_from_device(n)` returning normally returns exactly `n` bytes, and they are exactly the next
    `n` bytes of the device stream (which is shortened by exactly them) — for EVERY fragmentation, fault
    script and timing. -/
theorem C03_readBytes_exact (n : Nat) (t : Txn) (w : World) (bs : Bytes) (w' : World)
    (h : readBytes n t w = (.ok bs, w')) :
    bs.length = n ∧ w.inboundRest = bs ++ w'.inboundRest ∧ w'.peerGot = w.peerGot ∧ SameDevice w w' := by
  obtain ⟨sd, hpg, -, ⟨got, -, hsp, hok⟩⟩ := readBytes_spec n t w _ w' h
  obtain ⟨rfl, hl⟩ := hok bs rfl
  exact ⟨hl, hsp, hpg, sd⟩

/-- For any outcome of `_read_bytes_from_device(n)` (normal, timeout, transport error, hang) what was consumed
    is a prefix of at most `n` bytes of the device stream: it never reads past the frame and never loses
    bytes out of order. -/
theorem C03_readBytes_consumes_prefix (n : Nat) (t : Txn) (w : World) (r : Except Err Bytes) (w' : World)
    (h : readBytes n t w = (r, w')) :
    ∃ k, k ≤ n ∧ w'.inboundRest = w.inboundRest.drop k ∧ w'.peerGot = w.peerGot ∧ SameDevice w w' := by
  obtain ⟨sd, hpg, -, ⟨got, hl, hsp, -⟩⟩ := readBytes_spec n t w r w' h
  exact ⟨got.length, hl, by rw [hsp, List.drop_left], hpg, sd⟩

/-- Every `bulk_read` that `_read_bytes_from_device(n)` issues asks for exactly the number of bytes still
    missing in the frame (`req b b`: requested = remaining), which is between 1 and `n`; it records nothing
    else in the trace. -/
theorem C03_request_le_remaining (n : Nat) (t : Txn) (w : World) (r : Except Err Bytes) (w' : World)
    (h : readBytes n t w = (r, w')) :
    ∃ evs, w'.trace = evs ++ w.trace ∧ ∀ e ∈ evs, ∃ b, e = .req b b ∧ 1 ≤ b ∧ b ≤ n :=
  (readBytes_spec n t w r w' h).2.2.1

/-- The exact request sequence: if the successive `bulk_read` calls made by `_read_bytes_from_device(n)`
    returned `chunks` (a raising call counts as an empty chunk), then the trace grew by exactly
    `req n n, req (n-|c₀|) (n-|c₀|), req (n-|c₀|-|c₁|) …` (`reqsOf`, oldest first) — every request equals `n`
    minus the bytes already obtained — and the consumed part of the device stream is the concatenation of
    the chunks. -/
theorem C03_request_exact (n : Nat) (t : Txn) (w : World) (r : Except Err Bytes) (w' : World)
    (h : readBytes n t w = (r, w')) :
    ∃ chunks : List Bytes, w'.trace = (reqsOf n chunks).reverse ++ w.trace ∧
      w.inboundRest = chunks.flatten ++ w'.inboundRest :=
  readBytes_requests n t w r w' h

/-- `_read_packet_from_device` returning a packet `p` means: the next 24 bytes of the device stream are a
    header `hb` that unpacks to a known command and `p`'s arguments, announcing `len(p.data)` payload bytes,
    the payload is the next `len` bytes, its checksum matches when it is non-empty, and the stream is
    shortened by exactly header + payload. -/
theorem C03_readPacket_exact (t : Txn) (w : World) (p : Pkt) (w' : World)
    (h : readPacket t w = (.ok p, w')) :
    ∃ hb hd, hb.length = 24 ∧ unpack hb = some hd ∧ Cmd.ofWire? hd.cmd = some p.cmd ∧ hd.arg0 = p.arg0 ∧
      hd.arg1 = p.arg1 ∧ hd.len = p.data.length ∧ (p.data ≠ [] → checksum p.data = hd.sum) ∧
      w.inboundRest = hb ++ p.data ++ w'.inboundRest ∧ w'.peerGot = w.peerGot ∧ SameDevice w w' := by
  obtain ⟨hb, hd, h1, h2, h3, h4, h5, h6, h7, h8⟩ := readPacket_ok t w p w' h
  obtain ⟨sd, hpg, -⟩ := readPacket_frame t w _ w' h
  exact ⟨hb, hd, h1, h2, h3, h4, h5, h6, h7, h8, hpg, sd⟩

/-- For any outcome of `_read_packet_from_device` only a prefix of the device stream is consumed and nothing
    else in the world changes (in particular a rejected packet does not disturb the device object). -/
theorem C03_readPacket_consumes_prefix (t : Txn) (w : World) (r : Except Err Pkt) (w' : World)
    (h : readPacket t w = (r, w')) :
    (∃ got, w.inboundRest = got ++ w'.inboundRest) ∧ w'.peerGot = w.peerGot ∧ SameDevice w w' := by
  obtain ⟨sd, hpg, hg⟩ := readPacket_frame t w r w' h
  exact ⟨hg, hpg, sd⟩

/-- If the device stream continues with a header announcing `len > 0` payload bytes followed by a payload whose
    checksum differs from the announced one, `_read_packet_from_device` does not deliver a packet — whatever
    the fragmentation, faults and timing. -/
theorem C03_bad_checksum_never_delivered (t : Txn) (w : World) (hb d rest : Bytes) (hd : Hdr)
    (hw : w.inboundRest = hb ++ d ++ rest) (hlen : hb.length = 24) (hu : unpack hb = some hd)
    (hpos : hd.len > 0) (hdl : d.length = hd.len) (hbad : checksum d ≠ hd.sum) :
    ∀ p w', readPacket t w ≠ (.ok p, w') := by
  intro p w' h
  obtain ⟨hb', hd', h1, h2, -, -, -, h6, h7, h8, -, -⟩ := C03_readPacket_exact t w p w' h
  rw [hw, List.append_assoc, List.append_assoc] at h8
  obtain ⟨rfl, h9⟩ := List.append_inj h8 (by rw [hlen, h1])
  rw [hu] at h2
  cases h2
  obtain ⟨rfl, -⟩ := List.append_inj h9 (by rw [hdl, h6])
  have hne : p.data ≠ [] := by
    intro hd0
    rw [hd0] at hdl
    simp at hdl
    omega
  exact hbad (h7 hne)

/-- If the device stream continues with a header whose command word is not one of the seven known ones,
    `_read_packet_from_device` does not deliver a packet; and as soon as the 24 header bytes have been read the
    outcome is exactly `InvalidCommandError` (nothing more is consumed). -/
theorem C03_unknown_command_rejected (t : Txn) (w : World) (hb rest : Bytes) (hd : Hdr)
    (hw : w.inboundRest = hb ++ rest) (hlen : hb.length = 24) (hu : unpack hb = some hd)
    (hcmd : Cmd.ofWire? hd.cmd = none) :
    (∀ p w', readPacket t w ≠ (.ok p, w')) ∧
    (∀ bs w1, readBytes 24 t w = (.ok bs, w1) → readPacket t w = (.error .invalidCommand, w1)) := by
  constructor
  · intro p w' h
    obtain ⟨hb', hd', h1, h2, h3, -, -, -, -, h8, -, -⟩ := C03_readPacket_exact t w p w' h
    rw [hw, List.append_assoc] at h8
    obtain ⟨rfl, -⟩ := List.append_inj h8 (by rw [hlen, h1])
    rw [hu] at h2
    cases h2
    rw [hcmd] at h3
    cases h3
  · intro bs w1 h
    obtain ⟨h1, h2, -, -⟩ := C03_readBytes_exact 24 t w bs w1 h
    rw [hw] at h2
    obtain ⟨rfl, -⟩ := List.append_inj h2 (by rw [hlen, h1])
    have h' : readBytes Generated.MESSAGE_SIZE t w = (.ok hb, w1) := h
    rw [readPacket, bind_run_ok h']
    simp [hu, hcmd]

/-- Fragmentation independence: two worlds that agree on the remaining device byte stream — and may differ in
    everything else: segment boundaries, gating, read-size script, empty reads, faults, clock, timeouts —
    deliver the same packet and leave the same remaining stream whenever both deliver. -/
theorem C03_frag_independent (t₁ t₂ : Txn) (w₁ w₂ w₁' w₂' : World) (p₁ p₂ : Pkt)
    (hw : w₁.inboundRest = w₂.inboundRest)
    (h₁ : readPacket t₁ w₁ = (.ok p₁, w₁')) (h₂ : readPacket t₂ w₂ = (.ok p₂, w₂')) :
    p₁ = p₂ ∧ w₁'.inboundRest = w₂'.inboundRest := by
  obtain ⟨hb1, hd1, a1, a2, a3, a4, a5, a6, -, a8, -, -⟩ := C03_readPacket_exact t₁ w₁ p₁ w₁' h₁
  obtain ⟨hb2, hd2, b1, b2, b3, b4, b5, b6, -, b8, -, -⟩ := C03_readPacket_exact t₂ w₂ p₂ w₂' h₂
  rw [hw, b8, List.append_assoc, List.append_assoc] at a8
  obtain ⟨rfl, h9⟩ := List.append_inj a8 (by rw [a1, b1])
  rw [b2] at a2
  cases a2
  obtain ⟨hdat, hrest⟩ := List.append_inj h9 (by rw [← a6, ← b6])
  rw [b3] at a3
  have hc := Option.some.inj a3
  refine ⟨?_, hrest.symm⟩
  cases p₁; cases p₂
  simp_all

/-- Reconstruction: if the device stream continues with the encoding of a (packable) packet `p`, then whatever
    `_read_packet_from_device` delivers is exactly `p`, and the stream continues right after `p`'s encoding —
    for every fragmentation, fault script and timing.  (With `C03_frag_independent` and induction over a list of
    packets: the delivered sequence is a prefix of the sent sequence.) -/
theorem C03_readPacket_of_encode (t : Txn) (w : World) (p : Pkt) (rest : Bytes) (q : Pkt) (w' : World)
    (hw : w.inboundRest = p.encode ++ rest) (hp : p.toMsg.Packable)
    (h : readPacket t w = (.ok q, w')) : q = p ∧ w'.inboundRest = rest := by
  obtain ⟨hb, hd, a1, a2, a3, a4, a5, a6, -, a8, -, -⟩ := C03_readPacket_exact t w q w' h
  have hlen : p.toMsg.packHdr.length = 24 := (C02_header_len p.toMsg).1
  rw [hw, Pkt.encode, Msg.encode, List.append_assoc, List.append_assoc] at a8
  obtain ⟨rfl, h9⟩ := List.append_inj a8 (by rw [hlen, a1])
  rw [(C02_unpack_pack p.toMsg hp).1] at a2
  cases a2
  simp only [Pkt.toMsg] at a3 a4 a5 a6 h9
  rw [(C02_magic p.cmd).1] at a3
  have hc := Option.some.inj a3
  obtain ⟨hdat, hrest⟩ := List.append_inj h9 a6
  refine ⟨?_, hrest.symm⟩
  cases p; cases q
  simp_all

/-- decidable equality of outcomes, so that the test vectors below can be evaluated -/
local instance {ε α : Type} [DecidableEq ε] [DecidableEq α] : DecidableEq (Except ε α)
  | .ok a, .ok b => decidable_of_iff (a = b) ⟨congrArg _, Except.ok.inj⟩
  | .error a, .error b => decidable_of_iff (a = b) ⟨congrArg _, Except.error.inj⟩
  | .ok _, .error _ => isFalse nofun
  | .error _, .ok _ => isFalse nofun

/-- Non-vacuity: the device sends one WRTE packet (24-byte header + 2 payload bytes) cut into three segments
    (5 + 19 + 2 bytes, the last two gated on nothing), the transport delivers reads of 1, 23, 0 (an empty read)
    and 2 bytes; `_read_packet_from_device` returns exactly that packet and the stream is used up. -/
example :
    let m : Msg := ⟨.WRTE, 7, 9, [0xff, 0x01]⟩
    let c : Conn := { segs := [⟨0, m.packHdr.take 5⟩, ⟨0, m.packHdr.drop 5⟩, ⟨0, m.data⟩], frags := [1, 23, 0, 2] }
    let w : World := { cur := some c }
    let t : Txn := ⟨some 9, some 7, some 10, some 10, none⟩
    (readPacket t w).1 = .ok ⟨.WRTE, 7, 9, [0xff, 0x01]⟩ ∧ (readPacket t w).2.inboundRest = []
      ∧ (readPacket t w).2.trace = [.req 2 2, .req 2 2, .req 23 23, .req 24 24] := by
  intro m c w t
  decide +kernel

/-- Non-vacuity of the rejection theorems: same stream with a corrupted payload byte → InvalidChecksumError;
    with an unknown command word → InvalidCommandError. -/
example :
    let m : Msg := ⟨.WRTE, 7, 9, [0xff, 0x01]⟩
    let t : Txn := ⟨some 9, some 7, some 10, some 10, none⟩
    (readPacket t { cur := some { segs := [⟨0, m.packHdr⟩, ⟨0, [0xff, 0x02]⟩], frags := [3] } }).1
        = .error .invalidChecksum
    ∧ (readPacket t { cur := some { segs := [⟨0, [0x41] ++ m.packHdr.drop 1⟩, ⟨0, m.data⟩] } }).1
        = .error .invalidCommand := by
  intro m t
  decide +kernel

/-- Non-vacuity of the hypotheses of `C03_bad_checksum_never_delivered` and `C03_unknown_command_rejected`. -/
example :
    let m : Msg := ⟨.WRTE, 7, 9, [0xff, 0x01]⟩
    let w : World := { cur := some { segs := [⟨0, m.packHdr⟩, ⟨0, [0xff, 0x02]⟩, ⟨3, [5]⟩], frags := [3] } }
    let w₂ : World := { cur := some { segs := [⟨0, [0x41] ++ m.packHdr.drop 1⟩, ⟨0, m.data⟩] } }
    (∃ hd, w.inboundRest = m.packHdr ++ [0xff, 0x02] ++ [5] ∧ m.packHdr.length = 24 ∧ unpack m.packHdr = some hd
        ∧ hd.len > 0 ∧ [0xff, 0x02].length = hd.len ∧ checksum [0xff, 0x02] ≠ hd.sum)
    ∧ (∃ hd, w₂.inboundRest = ([0x41] ++ m.packHdr.drop 1) ++ m.data ∧ ([0x41] ++ m.packHdr.drop 1).length = 24
        ∧ unpack ([0x41] ++ m.packHdr.drop 1) = some hd ∧ Cmd.ofWire? hd.cmd = none) := by
  exact ⟨⟨_, rfl, rfl, rfl, by decide, rfl, by decide⟩, ⟨_, rfl, rfl, rfl, rfl⟩⟩

/-- Non-vacuity of `C03_frag_independent`: the same 26 device bytes, once in three segments read in pieces of
    1, 23, 0, 2 bytes with 10-tick calls, once in a single segment read at once by another transaction; both
    deliver (the same packet, by the theorem). -/
example :
    let m : Msg := ⟨.WRTE, 7, 9, [0xff, 0x01]⟩
    let w₁ : World := { cur := some { segs := [⟨0, m.packHdr.take 5⟩, ⟨0, m.packHdr.drop 5⟩, ⟨0, m.data⟩],
                                      frags := [1, 23, 0, 2], dt := 10 } }
    let w₂ : World := { cur := some { segs := [⟨0, m.encode⟩] }, now := 77 }
    let t₁ : Txn := ⟨some 9, some 7, some 10, some 100, none⟩
    let t₂ : Txn := ⟨some 1, none, none, none, none⟩
    w₁.inboundRest = w₂.inboundRest ∧ (∃ p, (readPacket t₁ w₁).1 = .ok p) ∧ (∃ p, (readPacket t₂ w₂).1 = .ok p) := by
  intro m w₁ w₂ t₁ t₂
  exact ⟨by decide +kernel, ⟨⟨.WRTE, 7, 9, [0xff, 0x01]⟩, by decide +kernel⟩, ⟨⟨.WRTE, 7, 9, [0xff, 0x01]⟩, by decide +kernel⟩⟩

end Adb
