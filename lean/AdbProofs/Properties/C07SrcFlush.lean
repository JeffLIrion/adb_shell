import AdbProofs.Lemmas.SrcLoops
import AdbProofs.Properties.C02Src
/-
  C07 / C10 (tie to the source, by proof; the `_filesync_flush` half of C08Src.lean's header) — the two FileSync loops of the device class, both twins, translated from the CURRENT source by harness/pytrans.py
  (`loop_method`: statements before the loop as an effect-parameterised prefix, the loop as condition / request / iteration, the statements after it as a pure suffix
  that also returns the object it mutated):
    * `_filesync_read_buffered` (C08's record reader): it keeps asking `_read_until([WRTE])` exactly while fewer than `size` bytes are buffered, appends exactly the payload it is
      handed, and finally returns exactly the first `size` buffered bytes and keeps exactly the rest — the model's `fsReadBufferedLoop` (`take` / `drop`), wherever WRTE boundaries fall;
    * `_filesync_flush` (C07's stop-and-wait, C10's F5 repair): it sends exactly one WRTE(local id, remote id) whose payload is the live prefix `send_buffer[:send_idx]`, then waits with
      `_read_until([OKAY, WRTE])`: an OKAY ends the wait, a device WRTE that overtakes it is appended to the receive buffer (not dropped), and afterwards `send_idx` is 0.
  Only property theorems live here.
-/
set_option linter.unusedSimpArgs false
namespace Adb
open Py


/-- `_filesync_flush` (sync), before the loop: exactly one message is sent, WRTE(local id, remote id) with the live prefix of the send buffer as payload. -/
theorem C07_src_flush_request_sync (icls fcls : String) (ifs ffs : List (String × Py.Val)) (l r idx : Nat) (sb : Bytes)
    (hl : alookupS "local_id" ifs = some (.int l)) (hr : alookupS "remote_id" ifs = some (.int r))
    (hs : alookupS "send_buffer" ffs = some (.bytearray sb)) (hi : alookupS "send_idx" ffs = some (.int idx)) :
    ∃ m, Src.AdbDevice_filesync_flush_pre_eff0_args (.obj icls ifs) (.obj fcls ffs)
        = .ok (.tuple [.str "request", .str "_io_manager.send", m, .obj icls ifs])
      ∧ getAttr m "command" = .ok (.int Cmd.WRTE.wire) ∧ getAttr m "arg0" = .ok (.int l) ∧ getAttr m "arg1" = .ok (.int r)
      ∧ getAttr m "data" = .ok (.bytearray (sb.take idx)) := by
  have hw : Src.const_WRTE = .bytes Cmd.WRTE.idBytes := rfl
  simp [Src.AdbDevice_filesync_flush_pre_eff0_args, pysimp, hl, hr, hs, hi, hw, Py.newObj, src_msg_init, Py.alookupS]

/-- `_filesync_flush` (sync), the wait: it asks `_read_until([OKAY, WRTE])`; an OKAY ends the loop with the receive buffer untouched; any other packet's payload (a device WRTE that
    overtook the OKAY) is APPENDED to the receive buffer and the wait goes on; after the loop `send_idx` is reset to 0. -/
theorem C07_src_flush_loop_sync (cls : String) (fs : List (String × Py.Val)) (buf data : Bytes) (c0 d0 info : Py.Val) (c : Cmd)
    (hb : alookupS "recv_buffer" fs = some (.bytearray buf)) :
    Src.AdbDevice_filesync_flush_eff0_args info c0 d0 (.obj cls fs)
        = .ok (.tuple [.str "request", .str "_read_until", .list [.bytes Cmd.OKAY.idBytes, .bytes Cmd.WRTE.idBytes], info])
      ∧ Src.AdbDevice_filesync_flush_iter info c0 d0 (.obj cls fs) (.tuple [.bytes c.idBytes, .bytes data])
          = (if c = .OKAY then .ok (.tuple [.str "break", .bytes c.idBytes, .bytes data, .obj cls fs])
             else .ok (.tuple [.str "continue", .bytes c.idBytes, .bytes data, .obj cls (asetS "recv_buffer" (.bytearray (buf ++ data)) fs)]))
      ∧ Src.AdbDevice_filesync_flush_post (.obj cls fs) = .ok (.tuple [.none, .obj cls (asetS "send_idx" (.int 0) fs)]) := by
  have hw : (c.idBytes == Cmd.OKAY.idBytes) = (c == Cmd.OKAY) := by cases c <;> decide
  have ho : Src.const_OKAY = .bytes Cmd.OKAY.idBytes := rfl
  refine ⟨?_, ?_, ?_⟩
  · simp [Src.AdbDevice_filesync_flush_eff0_args, pysimp]; exact ⟨rfl, rfl⟩
  · simp only [Src.AdbDevice_filesync_flush_iter, pysimp, hb, ho, hw]
    by_cases h : c = .OKAY <;> simp [pysimp, hb, h]
  · simp [Src.AdbDevice_filesync_flush_post, pysimp]

/-- The translation of `_filesync_flush` of the async class is, piece by piece, that of the sync class; an edit of one twin only breaks these equations. -/
theorem Src.filesync_flush_twin : Src.AdbDeviceAsync_filesync_flush_pre_eff0_args = Src.AdbDevice_filesync_flush_pre_eff0_args
    ∧ Src.AdbDeviceAsync_filesync_flush_eff0_args = Src.AdbDevice_filesync_flush_eff0_args
    ∧ Src.AdbDeviceAsync_filesync_flush_iter = Src.AdbDevice_filesync_flush_iter
    ∧ Src.AdbDeviceAsync_filesync_flush_post = Src.AdbDevice_filesync_flush_post := ⟨rfl, rfl, rfl, rfl⟩

/-- `_filesync_flush` (async twin), before the loop: exactly one message is sent, WRTE(local id, remote id) with the live prefix of the send buffer as payload. -/
theorem C07_src_flush_request_async (icls fcls : String) (ifs ffs : List (String × Py.Val)) (l r idx : Nat) (sb : Bytes)
    (hl : alookupS "local_id" ifs = some (.int l)) (hr : alookupS "remote_id" ifs = some (.int r))
    (hs : alookupS "send_buffer" ffs = some (.bytearray sb)) (hi : alookupS "send_idx" ffs = some (.int idx)) :
    ∃ m, Src.AdbDeviceAsync_filesync_flush_pre_eff0_args (.obj icls ifs) (.obj fcls ffs)
        = .ok (.tuple [.str "request", .str "_io_manager.send", m, .obj icls ifs])
      ∧ getAttr m "command" = .ok (.int Cmd.WRTE.wire) ∧ getAttr m "arg0" = .ok (.int l) ∧ getAttr m "arg1" = .ok (.int r)
      ∧ getAttr m "data" = .ok (.bytearray (sb.take idx)) := by
  simp only [Src.filesync_flush_twin]
  exact C07_src_flush_request_sync icls fcls ifs ffs l r idx sb hl hr hs hi

/-- `_filesync_flush` (async twin), the wait: it asks `_read_until([OKAY, WRTE])`; an OKAY ends the loop with the receive buffer untouched; any other packet's payload (a device WRTE that
    overtook the OKAY) is APPENDED to the receive buffer and the wait goes on; after the loop `send_idx` is reset to 0. -/
theorem C07_src_flush_loop_async (cls : String) (fs : List (String × Py.Val)) (buf data : Bytes) (c0 d0 info : Py.Val) (c : Cmd)
    (hb : alookupS "recv_buffer" fs = some (.bytearray buf)) :
    Src.AdbDeviceAsync_filesync_flush_eff0_args info c0 d0 (.obj cls fs)
        = .ok (.tuple [.str "request", .str "_read_until", .list [.bytes Cmd.OKAY.idBytes, .bytes Cmd.WRTE.idBytes], info])
      ∧ Src.AdbDeviceAsync_filesync_flush_iter info c0 d0 (.obj cls fs) (.tuple [.bytes c.idBytes, .bytes data])
          = (if c = .OKAY then .ok (.tuple [.str "break", .bytes c.idBytes, .bytes data, .obj cls fs])
             else .ok (.tuple [.str "continue", .bytes c.idBytes, .bytes data, .obj cls (asetS "recv_buffer" (.bytearray (buf ++ data)) fs)]))
      ∧ Src.AdbDeviceAsync_filesync_flush_post (.obj cls fs) = .ok (.tuple [.none, .obj cls (asetS "send_idx" (.int 0) fs)]) := by
  simp only [Src.filesync_flush_twin]
  exact C07_src_flush_loop_sync cls fs buf data c0 d0 info c hb

end Adb
