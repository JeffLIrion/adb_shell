import AdbProofs.Lemmas.Usb
/-
  C20 — the USB transport honours the transport contract on a conforming libusb backend.
  Model: `Adb.Usb` (AdbModel/Usb.lean), a transcription of `UsbTransport` over a scripted backend that logs every call.
  Timeouts are in milliseconds (`some ms` = a `transport_timeout_s` whose product with 1000 is exactly `ms`, `none` = `None`).
-/
namespace Adb
open Usb

/-- A successful `connect` holds a handle for the ADB interface: the backend calls it made are exactly
    `open`, then (unless the platform is Windows) `kernelDriverActive(i)` and possibly `detachKernelDriver(i)`, and finally
    `claimInterface(i)` on the handle just opened, where `i` is the number of the ADB setting; the transport remembers that
    handle and that interface number. -/
theorem C20_connect_claims (w w' : World) (h : connect w = (.ok (), w')) :
    ∃ hid mid,
      w'.st.handle = some ⟨hid⟩ ∧ w'.st.iface = some w.cfg.iface ∧
      w'.be.log = w.be.log ++ ([Call.open] ++ mid ++ [Call.claim hid w.cfg.iface]) ∧
      ((w.cfg.windows = true ∧ mid = []) ∨
        (w.cfg.windows = false ∧ (mid = [.kda hid w.cfg.iface] ∨ mid = [.kda hid w.cfg.iface, .detach hid w.cfg.iface]))) := by
  obtain ⟨r, wr, mid, _, _, hst, hlog, hmid⟩ := connect_ok h
  exact ⟨w.be.opened + 1, mid, by rw [hst], by rw [hst], hlog, hmid⟩

/-- Whatever sequence of `connect` / `bulk_read` / `bulk_write` / `close` calls is made on a fresh transport, with whatever
    backend script: every `bulkRead` that reaches the backend uses an endpoint address of the transport's setting with bit
    0x80 set (IN), every `bulkWrite` one with bit 0x80 clear (OUT), and every kernel-driver / claim / release call names the
    setting's interface number. -/
theorem C20_endpoints (cfg : Dev) (d : Option Nat) (script : List Res) (ops : List Op) :
    ∀ c ∈ (run (World.new cfg d script) ops).be.log,
      match c with
      | .bulkRead _ ep _ _ => ∃ a, ep = some a ∧ a ∈ cfg.eps ∧ a &&& 0x80 ≠ 0
      | .bulkWrite _ ep _ _ => ∃ a, ep = some a ∧ a ∈ cfg.eps ∧ a &&& 0x80 = 0
      | .kda _ i => i = cfg.iface
      | .detach _ i => i = cfg.iface
      | .claim _ i => i = cfg.iface
      | .release _ i => i = some cfg.iface
      | _ => True := by
  intro c hc
  obtain ⟨⟨_, hL⟩, hcfg⟩ := inv_run (inv_new cfg d script) ops
  have := hL c hc
  rw [hcfg] at this
  cases c <;> first | trivial | simpa [GoodCall, World.new] using this

/-- Which endpoints a successful `connect` settles on when the setting has several: the LAST address with bit 0x80 set
    becomes the read endpoint and the LAST address without it the write endpoint (as the loop in the code does). -/
theorem C20_endpoint_choice (w w' : World) (h : connect w = (.ok (), w')) :
    w'.st.readEp = (w.cfg.eps.filter (fun a => a &&& 0x80 != 0)).getLast? ∧
    w'.st.writeEp = (w.cfg.eps.filter (fun a => !(a &&& 0x80 != 0))).getLast? := by
  obtain ⟨r, wr, mid, hscan, _, hst, _, _⟩ := connect_ok h
  rw [scanEndpoints_last] at hscan
  simp only [Prod.mk.injEq] at hscan
  rw [hst]
  exact ⟨hscan.1.symm, hscan.2.symm⟩

/-- On an open transport whose backend is conforming for the device's IN stream (each successful `bulkRead` answer is at
    most the requested size and is the next bytes of the stream; errors consume nothing), a series of `bulk_read(n_i, t_i)`
    calls gives one result per call, and every payload is at most `n_i` bytes long. -/
theorem C20_read_le_requested (w : World) (h : Handle) (hh : w.st.handle = some h)
    (calls : List (Nat × Option Nat)) (stream : Bytes)
    (hc : Conforming (calls.map (·.1)) stream w.be.script) :
    (readMany w calls).1.length = calls.length ∧
    ∀ (i : Nat) (c : Nat × Option Nat) (bs : Bytes),
      calls[i]? = some c → (readMany w calls).1[i]? = some (Out.ok bs) → bs.length ≤ c.1 :=
  (readMany_conforming calls w h stream hh hc).1

/-- Under the same hypothesis the payloads come in order: their concatenation is a prefix of the device's IN stream, and the
    transport's attributes are unchanged by reading. -/
theorem C20_read_in_order (w : World) (h : Handle) (hh : w.st.handle = some h)
    (calls : List (Nat × Option Nat)) (stream : Bytes)
    (hc : Conforming (calls.map (·.1)) stream w.be.script) :
    okBytes (readMany w calls).1 <+: stream ∧ (readMany w calls).2.st = w.st :=
  (readMany_conforming calls w h stream hh hc).2

/-- Timeouts are passed in milliseconds: an explicit timeout is passed as it is (`int(t * 1000)` with `ms = t * 1000`), `None`
    means the transport's default, which is the constructor's value or — when that is `None` too — `DEFAULT_TIMEOUT_S * 1000`
    as generated from the source; no operation ever changes the default; and the value that reaches the backend with a
    `bulkRead` / `bulkWrite` is exactly that number. -/
theorem C20_timeout_ms (w : World) (h : Handle) (hh : w.st.handle = some h) (ms n : Nat) (t : Option Nat) (data : Bytes)
    (ops : List Op) :
    timeoutMs w.st (some ms) = ms ∧ timeoutMs w.st none = w.st.defaultMs ∧
    (St.new none).defaultMs = Generated.USB_DEFAULT_TIMEOUT_MS ∧ (St.new (some ms)).defaultMs = ms ∧
    (run w ops).st.defaultMs = w.st.defaultMs ∧
    (∃ tail, (bulkRead w n t).2.be.log = w.be.log ++ (.bulkRead h.id w.st.readEp n (timeoutMs w.st t) :: tail)) ∧
    (∃ tail, (bulkWrite w data t).2.be.log = w.be.log ++ (.bulkWrite h.id w.st.writeEp data (timeoutMs w.st t) :: tail)) := by
  refine ⟨rfl, rfl, rfl, rfl, run_defaultMs w ops, ?_, ?_⟩
  · obtain ⟨tail, hl, _⟩ := (bulkRead_open hh n t).log
    exact ⟨tail, hl⟩
  · obtain ⟨tail, hl, _⟩ := (bulkWrite_open hh data t).log
    exact ⟨tail, hl⟩

/-- Error mapping: on an open transport, when the backend answers the transfer with a `USBError` of any kind, `bulk_read`
    raises `UsbReadFailedError` and `bulk_write` raises `UsbWriteFailedError`, and the attributes are unchanged; and in
    every state and for every script these are the ONLY errors the two methods can raise.  (`close` swallows every
    `USBError`: it has no error outcome at all and always forgets the handle.) -/
theorem C20_error_mapping (w : World) (n : Nat) (t : Option Nat) (data : Bytes) :
    (∀ h k rest, w.st.handle = some h → w.be.script = .err k :: rest →
        (bulkRead w n t).1 = .err .usbReadFailed ∧ (bulkWrite w data t).1 = .err .usbWriteFailed ∧
        (bulkRead w n t).2.st = w.st ∧ (bulkWrite w data t).2.st = w.st) ∧
    (∀ e, (bulkRead w n t).1 = .err e → e = .usbReadFailed) ∧
    (∀ e, (bulkWrite w data t).1 = .err e → e = .usbWriteFailed) ∧
    (close w).st.handle = none := by
  refine ⟨?_, ?_, ?_, close_handle w⟩
  · intro h k rest hh hs
    have h1 := bulkRead_script hh n t
    have h2 := bulkWrite_script hh data t
    rw [hs] at h1 h2
    exact ⟨h1.1, h2, (bulkRead_open hh n t).st, (bulkWrite_open hh data t).st⟩
  · intro e he
    cases hh : w.st.handle with
    | none => rw [bulkRead_closed hh] at he; cases he; rfl
    | some h =>
      have h1 := bulkRead_script hh n t
      split at h1 <;> rw [h1.1] at he <;> cases he
      rfl
  · intro e he
    cases hh : w.st.handle with
    | none => rw [bulkWrite_closed hh] at he; cases he; rfl
    | some h =>
      have h1 := bulkWrite_script hh data t
      split at h1 <;> rw [h1] at he <;> cases he
      rfl

/-- What `connect` can raise: `AssertionError` when the setting lacks an IN or an OUT endpoint — then nothing at all has
    happened — or the backend's own `USBError`, unchanged. -/
theorem C20_connect_errors (w w' : World) (e : Err) (h : connect w = (.err e, w')) :
    (e = .assertion ∧ w' = w) ∨ ∃ k, e = .usb k := by
  rcases connect_cases w with e' | ⟨r, wr, hs, ⟨k, b, e', _⟩ | ⟨mid, hmid, ⟨k, b, e', _⟩ | ⟨out, b, e', ho, _⟩⟩⟩ <;>
    rw [e'] at h <;> cases h
  · exact .inl ⟨rfl, rfl⟩
  · exact .inr ⟨k, rfl⟩
  · exact .inr ⟨k, rfl⟩
  · rcases ho with ho | ⟨k, ho⟩
    · cases ho
    · cases ho; exact .inr ⟨k, rfl⟩

/-- Use after close: `bulk_read` raises `UsbReadFailedError` and `bulk_write` raises `UsbWriteFailedError`; the whole world —
    attributes, remaining script and the backend's call log — is exactly as `close` left it, so no backend call is made. -/
theorem C20_use_after_close (w : World) (n : Nat) (t : Option Nat) (data : Bytes) :
    bulkRead (close w) n t = (.err .usbReadFailed, close w) ∧
    bulkWrite (close w) data t = (.err .usbWriteFailed, close w) :=
  ⟨bulkRead_closed (close_handle w) n t, bulkWrite_closed (close_handle w) data t⟩

/-- `close` is idempotent: a second `close` changes nothing (not even the backend's call log), and `close` on a transport that
    was never connected does nothing either. -/
theorem C20_close_idempotent (w : World) (cfg : Dev) (d : Option Nat) (script : List Res) :
    close (close w) = close w ∧ close (World.new cfg d script) = World.new cfg d script :=
  ⟨close_closed (close_handle w), close_closed rfl⟩

/-- What `close` does on an open transport: `releaseInterface(i)` on the held handle, then the handle's `close()` — skipped
    when the release failed — plus one `getSerialNumber` for the log message when either failed; only the handle is forgotten. -/
theorem C20_close_releases (w : World) (h : Handle) (hh : w.st.handle = some h) :
    (close w).st = { w.st with handle := none } ∧
    ∃ tail, (close w).be.log = w.be.log ++ (.release h.id w.st.iface :: tail) ∧
      (tail = [.hclose h.id] ∨ tail = [.serial] ∨ tail = [.hclose h.id, .serial]) :=
  (close_open hh).2

/-! ### non-vacuity (the example device `c20Cfg`, script `c20Script` and worlds `c20W0`, `c20W1 = after connect` are defined
    in AdbProofs/Lemmas/Usb.lean) -/

/-- `connect` succeeds on it, with the calls the theorem describes (hypothesis of C20_connect_claims / C20_endpoint_choice) -/
example : (connect c20W0).1 = .ok () ∧
    (connect c20W0).2.be.log = [.open, .kda 1 3, .detach 1 3, .claim 1 3] ∧
    (connect c20W0).2.st = { handle := some ⟨1⟩, iface := some 3, readEp := some 0x82, writeEp := some 0x02, defaultMs := 10000 } := by
  decide

/-- the remaining script is conforming for reads of sizes 2, 4, 3 on the stream 1 2 3 4 5 6 (hypothesis of C20_read_*),
    with a time-out in the middle -/
example : c20W1.st.handle = some ⟨1⟩ ∧ Conforming ([(2, none), (4, some 500), (3, some 0)].map (·.1)) [1, 2, 3, 4, 5, 6] c20W1.be.script := by
  refine ⟨by decide, ?_⟩
  simp only [List.map, Conforming]
  refine ⟨by decide, by decide, by decide, by decide, trivial⟩

example : (readMany c20W1 [(2, none), (4, some 500), (3, some 0)]).1 = [.ok [1, 2], .err .usbReadFailed, .ok [3, 4, 5]] ∧
    (readMany c20W1 [(2, none), (4, some 500), (3, some 0)]).2.be.log.drop 4 =
      [.bulkRead 1 (some 0x82) 2 10000, .bulkRead 1 (some 0x82) 4 500, .serial, .bulkRead 1 (some 0x82) 3 0] := by
  decide

/-- a backend error on an open transport (hypothesis of C20_error_mapping) -/
example : (bulkWrite { c20W1 with be := { c20W1.be with script := [.err .noDevice] } } [9] (some 2250)).1 = .err .usbWriteFailed := by
  decide

/-- a whole run: write, close (release fails: the handle's close() is skipped), use after close, reconnect impossible to
    confuse with the old handle (handle ids count up) -/
example : (run c20W0 [.connect, .write [9] none, .close, .read 1 none, .connect]).be.log =
    [.open, .kda 1 3, .detach 1 3, .claim 1 3, .bulkWrite 1 (some 0x02) [9] 10000, .release 1 (some 3), .serial,
     .open, .kda 2 3, .detach 2 3, .claim 2 3] := by
  decide

/-- a setting without an OUT endpoint: AssertionError, nothing happened (hypothesis of C20_connect_errors) -/
example : connect (World.new { iface := 0, eps := [0x81, 0x83] } (some 500) []) =
    (.err .assertion, World.new { iface := 0, eps := [0x81, 0x83] } (some 500) []) := by
  decide

end Adb
