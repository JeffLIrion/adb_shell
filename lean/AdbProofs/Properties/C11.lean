import AdbProofs.Lemmas.TimeLemmas
/-
  C11 (timing part) — if the device stops sending what an operation is waiting for (total silence,
  end-of-stream, bytes trickling too slowly, or only traffic for other streams or unexpected commands), the
  operation fails with AdbTimeoutError or the transport's timeout error within a time bounded by a small
  multiple of read_timeout_s + transport_timeout_s, instead of blocking forever or returning fabricated data.

  Setting: virtual clock `World.now` (ticks); "conforming transport" `w.CallCost D`: every completed call on
  the open connection takes between 1 and `D` ticks; a call that finds nothing waits its transport timeout
  `τ` and raises the transport's timeout error.  `R` = read_timeout_s, `τ` = transport_timeout_s, both
  numbers (`t.rt = some R`, `t.tt = some τ`), `0 ≤ R`, `0 ≤ τ`.  The loop budget must exceed the read
  timeout: `R.toNat < w.fuel` (each completed non-final iteration costs at least one tick and is followed by
  the deadline test, so at most `R + 1` iterations happen).  The bounds hold for EVERY world, i.e. whatever
  the device and the transport script do.
  Only property theorems and non-vacuity examples live here; helper lemmas are in
  AdbProofs/Lemmas/TimeLemmas.lean (which also defines `World.CallCost` and `parkedCount`).
-/
namespace Adb

/-- One `bulk_read(n, τ)` on a conforming transport takes between 0 and `max D τ` ticks and never blocks
    forever: a normal return costs between 1 and `D` ticks, the transport's timeout error costs exactly `τ`,
    the only other outcome is a transport error, which costs nothing.  The call-cost invariant is kept. -/
theorem C11_bulkRead_time (n : Nat) (τ D : Int) (w : World) (r : Except Err Bytes) (w' : World)
    (h : bulkRead n (some τ) w = (r, w')) (hτ : 0 ≤ τ) (hc : w.CallCost D) :
    0 ≤ w'.now - w.now ∧ w'.now - w.now ≤ max D τ ∧ r ≠ .error .hang ∧ w'.CallCost D ∧
    (∀ bs, r = .ok bs → 1 ≤ w'.now - w.now ∧ w'.now - w.now ≤ D) ∧
    (∀ e, r = .error e → (e = .transportTimeout ∧ w'.now - w.now = τ) ∨ (e = .transportError ∧ w'.now - w.now = 0)) := by
  obtain ⟨h1, h2, h3⟩ := (bulkRead_call n _ w r w' h).time hτ hc
  cases r with
  | ok bs =>
    obtain ⟨a, b⟩ := h2 bs rfl
    exact ⟨by omega, by omega, by simp, h1, h2, by simp⟩
  | error e =>
    refine ⟨?_, ?_, ?_, h1, by simp, ?_⟩
    · rcases h3 e rfl with ⟨-, a⟩ | ⟨-, a⟩ <;> omega
    · rcases h3 e rfl with ⟨-, a⟩ | ⟨-, a⟩ <;> omega
    · rcases h3 e rfl with ⟨rfl, -⟩ | ⟨rfl, -⟩ <;> simp
    · intro e' he'
      simp only [Except.error.injEq] at he'; subst he'
      rcases h3 _ rfl with ⟨a, b⟩ | ⟨a, b⟩
      · exact Or.inl ⟨a, b⟩
      · exact Or.inr ⟨a, by omega⟩

/-- A blocking `bulk_read` (`transport_timeout_s = None`) ends in `hang` only in the situation the definition
    names: the connection is open, not reset, not at end-of-stream, and either a scripted "timeout" fault sits
    at the current read offset, or no fault is there and nothing is readable.  The clock does not move. -/
theorem C11_bulkRead_blocking (n : Nat) (w w' : World) (h : bulkRead n none w = (.error .hang, w')) :
    w'.now = w.now ∧ ∃ c, w.cur = some c ∧ c.isReset = false ∧ c.isEof = false ∧
      ((∃ f, nextFault true c.inOff c.faults = some f ∧ f.kind = .timeout) ∨
       (nextFault true c.inOff c.faults = none ∧ anyReadable c.outOff c.segs = false)) :=
  (bulkRead_call n _ w _ w' h).hang

/-- `_read_bytes_from_device(n)`: whatever the device does, it never hangs, ends at most `R + max D τ` ticks
    after it started (the last `bulk_read` starts no later than the deadline and lasts at most `max D τ`),
    fails only with AdbTimeoutError, the transport's timeout error or a transport error, and keeps the
    call-cost invariant. -/
theorem C11_readBytes_bound (n : Nat) (t : Txn) (R τ D : Int) (w : World) (r : Except Err Bytes) (w' : World)
    (h : readBytes n t w = (r, w')) (hrt : t.rt = some R) (htt : t.tt = some τ) (hR : 0 ≤ R) (hτ : 0 ≤ τ)
    (hc : w.CallCost D) (hf : R.toNat < w.fuel) :
    r ≠ .error .hang ∧ 0 ≤ w'.now - w.now ∧ w'.now - w.now ≤ R + max D τ ∧ w'.CallCost D ∧
    (∀ e, r = .error e → e = .adbTimeout ∨ e = .transportTimeout ∨ e = .transportError) := by
  obtain ⟨h1, h2, h3, h4, -, -⟩ := readBytes_time h hrt htt hR hτ hc (by omega)
  refine ⟨?_, by omega, h3, h1, fun e he => by simpa [waitErrs] using h4 e he⟩
  intro hr; exact hang_not_mem_waitErrs (h4 _ hr)

/-- `_write_all(data)`: never hangs, ends at most `R + max D τ` ticks after it started, fails only with
    AdbTimeoutError, the transport's timeout error or a transport error. -/
theorem C11_writeAll_bound (data : Bytes) (t : Txn) (R τ D : Int) (w : World) (r : Except Err Unit) (w' : World)
    (h : writeAll data t w = (r, w')) (hrt : t.rt = some R) (htt : t.tt = some τ) (hR : 0 ≤ R) (hτ : 0 ≤ τ)
    (hc : w.CallCost D) (hf : R.toNat < w.fuel) :
    r ≠ .error .hang ∧ 0 ≤ w'.now - w.now ∧ w'.now - w.now ≤ R + max D τ ∧ w'.CallCost D ∧
    (∀ e, r = .error e → e = .adbTimeout ∨ e = .transportTimeout ∨ e = .transportError) := by
  obtain ⟨h1, h2, h3, h4, -, -⟩ := writeAll_time h hrt htt hR hτ hc (by omega)
  refine ⟨?_, by omega, h3, h1, fun e he => by simpa [waitErrs] using h4 e he⟩
  intro hr; exact hang_not_mem_waitErrs (h4 _ hr)

/-- `_read_packet_from_device`: header wait + payload wait, so at most `2 * (R + max D τ)` ticks; never
    hangs; fails only with the three wait errors or because the bytes read are not a valid packet. -/
theorem C11_readPacket_bound (t : Txn) (R τ D : Int) (w : World) (r : Except Err Pkt) (w' : World)
    (h : readPacket t w = (r, w')) (hrt : t.rt = some R) (htt : t.tt = some τ) (hR : 0 ≤ R) (hτ : 0 ≤ τ)
    (hc : w.CallCost D) (hf : R.toNat < w.fuel) :
    r ≠ .error .hang ∧ 0 ≤ w'.now - w.now ∧ w'.now - w.now ≤ 2 * (R + max D τ) ∧ w'.CallCost D ∧
    (∀ e, r = .error e → e = .adbTimeout ∨ e = .transportTimeout ∨ e = .transportError ∨
      e = .invalidCommand ∨ e = .invalidChecksum ∨ e = .pyValueError) := by
  obtain ⟨h1, h2, h3, h4, -, -⟩ := readPacket_time h hrt htt hR hτ hc (by omega)
  refine ⟨?_, by omega, h3, h1, fun e he => by simpa [pktErrs] using h4 e he⟩
  intro hr; exact hang_not_mem_pktErrs (h4 _ hr)

/-- `_read_expected_packet_from_device(expected)`: a flood of packets with unexpected commands (or silence,
    end-of-stream, trickle) cannot keep it waiting: it never hangs and ends at most `R + 2 * (R + max D τ)`
    ticks after it started (the last packet read starts no later than the deadline); it fails only with the
    packet-level errors, and a normal return carries a packet whose command IS one of the expected ones. -/
theorem C11_expectPacket_bound (ex : List Cmd) (t : Txn) (R τ D : Int) (w : World) (r : Except Err Pkt) (w' : World)
    (h : expectPacket ex t w = (r, w')) (hrt : t.rt = some R) (htt : t.tt = some τ) (hR : 0 ≤ R) (hτ : 0 ≤ τ)
    (hc : w.CallCost D) (hf : R.toNat < w.fuel) :
    r ≠ .error .hang ∧ 0 ≤ w'.now - w.now ∧ w'.now - w.now ≤ R + 2 * (R + max D τ) ∧ w'.CallCost D ∧
    (∀ e, r = .error e → e = .adbTimeout ∨ e = .transportTimeout ∨ e = .transportError ∨
      e = .invalidCommand ∨ e = .invalidChecksum ∨ e = .pyValueError) ∧
    (∀ p, r = .ok p → p.cmd ∈ ex) := by
  obtain ⟨h1, h2, h3, h4, h5, -⟩ := expectPacket_time h hrt htt hR hτ hc (by omega)
  refine ⟨?_, by omega, h3, h1, fun e he => by simpa [pktErrs] using h4 e he, fun p hp => by simpa using h5 p hp⟩
  intro hr; exact hang_not_mem_pktErrs (h4 _ hr)

/-- `_AdbIOManager.read(expected, adb_info, allow_zeros)` called with no lock held: silence, end-of-stream
    (empty reads), trickle, floods of packets for other streams and floods of unexpected commands all end
    within `R + 2 * (R + max D τ)` ticks — the pre-check in the store costs no time, every loop iteration
    reads at most one packet and is followed by the deadline test.  It never hangs provided the loop budget
    exceeds `read timeout + number of packets parked in the store` (the drain loop removes one parked packet per
    iteration; every packet parked during the wait costs at least one tick).  It fails only with the
    packet-level errors or the packet store's KeyError / queue.Empty, and a normal return carries a packet
    whose command is one of the expected ones (taken from the store or read from the device: by
    `C03_readPacket_exact` never fabricated).  The store grows by at most one packet per tick waited. -/
theorem C11_ioRead_bound (ex : List Cmd) (t : Txn) (az : Bool) (R τ D : Int) (w : World) (r : Except Err Pkt)
    (w' : World) (h : ioRead ex t az w = (r, w')) (hrt : t.rt = some R) (htt : t.tt = some τ)
    (hR : 0 ≤ R) (hτ : 0 ≤ τ) (hc : w.CallCost D) (hlk : w.locks = [])
    (hf : parkedCount w.store + R.toNat < w.fuel) :
    r ≠ .error .hang ∧ 0 ≤ w'.now - w.now ∧ w'.now - w.now ≤ R + 2 * (R + max D τ) ∧ w'.CallCost D ∧
    (∀ e, r = .error e → e = .adbTimeout ∨ e = .transportTimeout ∨ e = .transportError ∨
      e = .invalidCommand ∨ e = .invalidChecksum ∨ e = .pyValueError ∨ e = .pyKeyError ∨ e = .pyQueueEmpty) ∧
    (∀ p, r = .ok p → p.cmd ∈ ex) ∧
    (parkedCount w'.store : Int) ≤ parkedCount w.store + (w'.now - w.now) := by
  obtain ⟨h1, h2, h3, h4, h5, h6, -, -⟩ := ioRead_time h hrt htt hR hτ hc hlk (by omega)
  refine ⟨?_, by omega, h3, h1, fun e he => by simpa [ioReadErrs, pktErrs] using h4 e he,
    fun p hp => by simpa using h5 p hp, h6⟩
  intro hr; exact hang_not_mem_ioReadErrs (h4 _ hr)

/-- Summary of the possible failures of the wait loops when both timeouts are numbers and the loop budget
    exceeds the read timeout: only the documented exception kinds — never `hang`, never anything else. -/
theorem C11_wait_outcomes (t : Txn) (R τ D : Int) (w : World) (hrt : t.rt = some R) (htt : t.tt = some τ)
    (hR : 0 ≤ R) (hτ : 0 ≤ τ) (hc : w.CallCost D) (hf : R.toNat < w.fuel) :
    (∀ n e w', readBytes n t w = (.error e, w') → e = .adbTimeout ∨ e = .transportTimeout ∨ e = .transportError) ∧
    (∀ d e w', writeAll d t w = (.error e, w') → e = .adbTimeout ∨ e = .transportTimeout ∨ e = .transportError) ∧
    (∀ e w', readPacket t w = (.error e, w') → e = .adbTimeout ∨ e = .transportTimeout ∨ e = .transportError ∨
      e = .invalidCommand ∨ e = .invalidChecksum ∨ e = .pyValueError) ∧
    (∀ ex e w', expectPacket ex t w = (.error e, w') → e = .adbTimeout ∨ e = .transportTimeout ∨
      e = .transportError ∨ e = .invalidCommand ∨ e = .invalidChecksum ∨ e = .pyValueError) ∧
    (∀ ex az e w', w.locks = [] → parkedCount w.store + R.toNat < w.fuel → ioRead ex t az w = (.error e, w') →
      e = .adbTimeout ∨ e = .transportTimeout ∨ e = .transportError ∨ e = .invalidCommand ∨
      e = .invalidChecksum ∨ e = .pyValueError ∨ e = .pyKeyError ∨ e = .pyQueueEmpty) :=
  ⟨fun n e w' h => (C11_readBytes_bound n t R τ D w _ w' h hrt htt hR hτ hc hf).2.2.2.2 e rfl,
   fun d e w' h => (C11_writeAll_bound d t R τ D w _ w' h hrt htt hR hτ hc hf).2.2.2.2 e rfl,
   fun e w' h => (C11_readPacket_bound t R τ D w _ w' h hrt htt hR hτ hc hf).2.2.2.2 e rfl,
   fun ex e w' h => (C11_expectPacket_bound ex t R τ D w _ w' h hrt htt hR hτ hc hf).2.2.2.2.1 e rfl,
   fun ex az e w' hlk hs h => (C11_ioRead_bound ex t az R τ D w _ w' h hrt htt hR hτ hc hlk hs).2.2.2.2.1 e rfl⟩

/-- `_read_until_close` with a whole-command limit `timeout_s = T` (called with no lock held): the total test
    follows every yielded item, and every yielded item cost at least one tick (its OKAY was written), so the
    generator never hangs and ends at most one iteration — one `read` (`R + 2 * (R + max D τ)`) plus one
    OKAY/CLSE send (`R + max D τ`) — after the limit.  The loop budget must exceed
    `T + R + number of parked packets`.  Failures: the `read` errors or `struct.error` from packing OKAY/CLSE. -/
theorem C11_total_timeout (t : Txn) (R τ T D : Int) (w : World) (r : Except Err (List Bytes)) (w' : World)
    (h : readUntilClose t w = (r, w')) (hrt : t.rt = some R) (htt : t.tt = some τ) (htot : t.total = some T)
    (hR : 0 ≤ R) (hτ : 0 ≤ τ) (hT : 0 ≤ T) (hc : w.CallCost D) (hlk : w.locks = [])
    (hf : parkedCount w.store + T.toNat + R.toNat < w.fuel) :
    r ≠ .error .hang ∧ 0 ≤ w'.now - w.now ∧
    w'.now - w.now ≤ T + ((R + 2 * (R + max D τ)) + (R + max D τ)) ∧ w'.CallCost D ∧
    (∀ e, r = .error e → e = .adbTimeout ∨ e = .transportTimeout ∨ e = .transportError ∨
      e = .invalidCommand ∨ e = .invalidChecksum ∨ e = .pyValueError ∨ e = .pyKeyError ∨ e = .pyQueueEmpty ∨
      e = .pyStructError) := by
  obtain ⟨h1, h2, h3, h4⟩ := readUntilClose_time h hrt htt htot hR hτ hT hc hlk (by omega)
  refine ⟨?_, by omega, h3, h1, fun e he => by simpa [streamErrs, ioReadErrs, pktErrs] using h4 e he⟩
  intro hr; exact hang_not_mem_streamErrs (h4 _ hr)

/-! ### non-vacuity
  The example worlds `c11Silent`, `c11Trickle`, `c11Eof`, `c11Flood`, `c11Stream` and transactions `c11Txn`,
  `c11StreamTxn` are defined at the end of AdbProofs/Lemmas/TimeLemmas.lean. -/

/-- the hypotheses of the theorems hold in the example worlds -/
example : c11Silent.CallCost 1 ∧ c11Trickle.CallCost 600 ∧ c11Eof.CallCost 600 ∧ c11Flood.CallCost 600 ∧
    c11Stream.CallCost 300 := by
  refine ⟨?_, ?_, ?_, ?_, ?_⟩ <;>
  ( intro c hc
    first
      | simp only [c11Silent, Option.some.injEq] at hc
      | simp only [c11Trickle, Option.some.injEq] at hc
      | simp only [c11Eof, Option.some.injEq] at hc
      | simp only [c11Flood, Option.some.injEq] at hc
      | simp only [c11Stream, Option.some.injEq] at hc
    subst hc; decide )

example : c11Txn.rt = some 1024 ∧ c11Txn.tt = some 50 ∧ (1024 : Int).toNat < c11Silent.fuel ∧
    parkedCount c11Flood.store + (1024 : Int).toNat < c11Flood.fuel ∧ c11Flood.locks = [] ∧
    c11StreamTxn.total = some 1000 ∧ c11Stream.locks = [] ∧
    parkedCount c11Stream.store + (1000 : Int).toNat + (1000 : Int).toNat < c11Stream.fuel := by decide

/-- with `transport_timeout_s = None` the same silence blocks forever (`C11_bulkRead_blocking` is not vacuous),
    which is why the theorems require numeric timeouts -/
example : (bulkRead 24 none c11Silent).1 = .error .hang ∧
    (readBytes 24 { c11Txn with tt := none } c11Silent).1 = .error .hang := ⟨rfl, rfl⟩

/-- silence: `_read_bytes_from_device(24)` raises the transport's timeout error after exactly `τ = 50` ticks -/
example : (readBytes 24 c11Txn c11Silent).1 = .error .transportTimeout ∧
    (readBytes 24 c11Txn c11Silent).2.now = 50 := ⟨rfl, rfl⟩

/-- trickle (one byte per 600-tick read): AdbTimeoutError after two reads, 1200 ticks ≤ R + max D τ = 1624 -/
example : (readBytes 24 c11Txn c11Trickle).1 = .error .adbTimeout ∧
    (readBytes 24 c11Txn c11Trickle).2.now = 1200 := ⟨rfl, rfl⟩

/-- silence seen by `_AdbIOManager.read`: the transport's timeout error after 50 ticks -/
example : (ioRead [.OKAY] c11Txn false c11Silent).1 = .error .transportTimeout ∧
    (ioRead [.OKAY] c11Txn false c11Silent).2.now = 50 :=
  And.imp_left eq_error_of_c11ErrOf (by decide +kernel)

/-- end-of-stream (every read returns `b''` after 600 ticks): AdbTimeoutError after two empty reads -/
example : (ioRead [.OKAY] c11Txn false c11Eof).1 = .error .adbTimeout ∧
    (ioRead [.OKAY] c11Txn false c11Eof).2.now = 1200 :=
  And.imp_left eq_error_of_c11ErrOf (by decide +kernel)

/-- foreign-stream flood (WRTE packets for local id 9, 600 ticks each): AdbTimeoutError after two packets,
    both parked in the store; 1200 ticks ≤ R + 2 * (R + max D τ) -/
example : (ioRead [.OKAY] c11Txn false c11Flood).1 = .error .adbTimeout ∧
    (ioRead [.OKAY] c11Txn false c11Flood).2.now = 1200 ∧
    parkedCount (ioRead [.OKAY] c11Txn false c11Flood).2.store = 2 :=
  And.imp_left eq_error_of_c11ErrOf (by decide +kernel)

/-- unexpected-command flood seen by `_read_expected_packet_from_device`: AdbTimeoutError after two packets -/
example : (expectPacket [.CNXN] c11Txn c11Flood).1 = .error .adbTimeout ∧
    (expectPacket [.CNXN] c11Txn c11Flood).2.now = 1200 :=
  And.imp_left eq_error_of_c11ErrOf (by decide +kernel)

/-- the whole-command limit fires: WRTE packets for our stream keep coming (header + payload + OKAY = 900 ticks
    per item, limit 1000 ticks): two items are yielded, then AdbTimeoutError at 1800 ticks ≤ T + one iteration -/
example : (readUntilClose c11StreamTxn c11Stream).1 = .error .adbTimeout ∧
    (readUntilClose c11StreamTxn c11Stream).2.now = 1800 :=
  And.imp_left eq_error_of_c11ErrOf (by decide +kernel)

end Adb
