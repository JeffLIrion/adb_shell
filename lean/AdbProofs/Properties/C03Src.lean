import AdbProofs.Lemmas.SrcLoops
import AdbModel.Generated.Src
/-
  C03 (tie to the source, by proof) — the byte reader `_AdbIOManager._read_bytes_from_device` (both twins). harness/pytrans.py extracts, from the CURRENT
  source on every run, the loop of that method as three pure functions: the loop condition, the ARGUMENTS of the one transport call the body makes, and the
  rest of the body as a function of the loop state and of the results of its effects (`bulk_read`'s return value, `time.time()`); `break` / falling off the
  end become tagged results. The theorems say these are exactly the model's loop (`readBytesLoop` = request, then `readStep`; lemma `readBytesLoop_step`):
  in particular the source asks the transport for EXACTLY the bytes still missing ("never requests more bytes than remain in the current packet"), appends
  what it gets, and gives up exactly when the model does. What remains modelled-not-proved is the loop skeleton itself (`while cond: body`, one transport call
  per iteration — the extractor insists on that shape) and the transport.
  Only property theorems and non-vacuity examples live here.
-/
set_option linter.unusedSimpArgs false
namespace Adb
open Py

/-- The loop continues exactly while bytes are missing (sync). -/
theorem C03_src_read_cond_sync (info data start temp : Py.Val) (rem : Nat) :
    Src.AdbDevice_read_bytes_from_device_cond info data (.int rem) start temp = .ok (.bool (decide (0 < rem))) := by
  simp [Src.AdbDevice_read_bytes_from_device_cond, pysimp]

/-- The transport call of an iteration is `bulk_read(length, adb_info.transport_timeout_s)` with `length` = the bytes still missing (sync):
    never more than remain of what was asked for. -/
theorem C03_src_read_request_sync (cls : String) (fs : List (String × Py.Val)) (t : Txn) (data start temp : Py.Val) (rem : Nat)
    (htt : alookupS "transport_timeout_s" fs = some (encTimeout t.tt)) :
    Src.AdbDevice_read_bytes_from_device_eff0_args (.obj cls fs) data (.int rem) start temp
      = .ok (.tuple [.str "bulk_read", .int rem, encTimeout t.tt]) := by
  simp [Src.AdbDevice_read_bytes_from_device_eff0_args, pysimp, htt]

/-- One iteration (sync): with `rem > 0` bytes missing, `temp` (at most `rem` bytes) returned by the transport and the clock at `now`, the source's loop body
    does exactly the model's `readStep`: it appends `temp`; leaves the loop when nothing is missing any more; otherwise raises `AdbTimeoutError` iff
    `now - start > read_timeout_s` (`TypeError` when that timeout is `None`), else goes round again with the new state. -/
theorem C03_src_read_iter_sync (cls : String) (fs : List (String × Py.Val)) (t : Txn) (tmp0 : Py.Val) (rem : Nat) (acc temp : Bytes) (start now : Int)
    (hle : temp.length ≤ rem) (hrt : alookupS "read_timeout_s" fs = some (encTimeout t.rt)) :
    Src.AdbDevice_read_bytes_from_device_iter (.obj cls fs) (.bytearray acc) (.int rem) (.int start) tmp0 (.bytes temp) (.int now)
      = (match readStep t start now rem acc temp with
         | .done s => .ok (.tuple [.str "break", .bytearray s.2, .int s.1, .bytes temp])
         | .again s => .ok (.tuple [.str "continue", .bytearray s.2, .int s.1, .bytes temp])
         | .fail .adbTimeout => .error .adbTimeout
         | .fail _ => .error .typeError) := by
  have hsub : (rem : Int) - (temp.length : Int) = ((rem - temp.length : Nat) : Int) := by omega
  -- evaluated as far as the tests allow; `if temp:` only guards a log line, so both its branches are the same
  simp only [Src.AdbDevice_read_bytes_from_device_iter, pysimp, hrt, hsub, ite_self, readStep]
  cases hr : t.rt with
  | none =>
    by_cases h1 : rem - temp.length = 0 <;> simp [pysimp, encTimeout, h1]
  | some l =>
    by_cases h1 : rem - temp.length = 0 <;> by_cases h2 : now - start > l <;> simp [pysimp, encTimeout, h1, h2]

/-- The translation of `_AdbIOManagerAsync._read_bytes_from_device` is, piece by piece, that of the sync method; an edit of one twin only breaks these equations. -/
theorem Src.read_bytes_twin : Src.AdbDeviceAsync_read_bytes_from_device_cond = Src.AdbDevice_read_bytes_from_device_cond
    ∧ Src.AdbDeviceAsync_read_bytes_from_device_eff0_args = Src.AdbDevice_read_bytes_from_device_eff0_args
    ∧ Src.AdbDeviceAsync_read_bytes_from_device_iter = Src.AdbDevice_read_bytes_from_device_iter := ⟨rfl, rfl, rfl⟩

/-- The same three statements for the async twin `_AdbIOManagerAsync._read_bytes_from_device`. -/
theorem C03_src_read_cond_async (info data start temp : Py.Val) (rem : Nat) :
    Src.AdbDeviceAsync_read_bytes_from_device_cond info data (.int rem) start temp = .ok (.bool (decide (0 < rem))) := by
  simp only [Src.read_bytes_twin]
  exact C03_src_read_cond_sync info data start temp rem

theorem C03_src_read_request_async (cls : String) (fs : List (String × Py.Val)) (t : Txn) (data start temp : Py.Val) (rem : Nat)
    (htt : alookupS "transport_timeout_s" fs = some (encTimeout t.tt)) :
    Src.AdbDeviceAsync_read_bytes_from_device_eff0_args (.obj cls fs) data (.int rem) start temp
      = .ok (.tuple [.str "bulk_read", .int rem, encTimeout t.tt]) := by
  simp only [Src.read_bytes_twin]
  exact C03_src_read_request_sync cls fs t data start temp rem htt

theorem C03_src_read_iter_async (cls : String) (fs : List (String × Py.Val)) (t : Txn) (tmp0 : Py.Val) (rem : Nat) (acc temp : Bytes) (start now : Int)
    (hle : temp.length ≤ rem) (hrt : alookupS "read_timeout_s" fs = some (encTimeout t.rt)) :
    Src.AdbDeviceAsync_read_bytes_from_device_iter (.obj cls fs) (.bytearray acc) (.int rem) (.int start) tmp0 (.bytes temp) (.int now)
      = (match readStep t start now rem acc temp with
         | .done s => .ok (.tuple [.str "break", .bytearray s.2, .int s.1, .bytes temp])
         | .again s => .ok (.tuple [.str "continue", .bytearray s.2, .int s.1, .bytes temp])
         | .fail .adbTimeout => .error .adbTimeout
         | .fail _ => .error .typeError) := by
  simp only [Src.read_bytes_twin]
  exact C03_src_read_iter_sync cls fs t tmp0 rem acc temp start now hle hrt

/-- The model side of the tie (restated from Lemmas/SrcLoops.lean so that it is audited with the property): the model's loop is "request `rem` bytes, then `readStep`". -/
theorem C03_model_read_loop_is_step (t : Txn) (start : Int) (fuel rem : Nat) (acc : Bytes) (w : World) :
    readBytesLoop t start (fuel + 1) rem acc w =
      if rem = 0 then (.ok acc, w) else
      match bulkRead rem t.tt { w with trace := .req rem rem :: w.trace } with
      | (.error e, w1) => (.error e, w1)
      | (.ok temp, w1) =>
        match readStep t start w1.now rem acc temp with
        | .done s => (.ok s.2, w1)
        | .again s => readBytesLoop t start fuel s.1 s.2 w1
        | .fail e => (.error e, w1) := readBytesLoop_step t start fuel rem acc w

/-! ### Non-vacuity: the last fragment of a 24-byte header, a fragment that leaves bytes missing in time, and one that is too late -/
example : readStep ⟨some 1, none, some 5, some 10, none⟩ 100 103 4 [1, 2] [3, 4, 5, 6] = .done (0, [1, 2, 3, 4, 5, 6]) := by rfl
example : readStep ⟨some 1, none, some 5, some 10, none⟩ 100 103 4 [1, 2] [3] = .again (3, [1, 2, 3]) := by rfl
example : readStep ⟨some 1, none, some 5, some 10, none⟩ 100 111 4 [1, 2] [3] = .fail .adbTimeout := by rfl

end Adb
