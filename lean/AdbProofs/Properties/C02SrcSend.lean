import AdbProofs.Lemmas.SrcLoops
import AdbProofs.Properties.C02Src
/-
  C02 / C15 (tie to the source, by proof) — `_AdbIOManager._send` (both twins): header, then payload, back to back. harness/pytrans.py cuts the CURRENT source of
  `_send` at its two `self._write_all(...)` calls; the theorems say that the first thing it hands to the write loop is exactly `msg.pack()` — the model's 24-byte
  header (`struct.error` exactly when the model's `pack?` is `none`) — and the second, only for a non-empty payload, exactly `msg.data`; nothing else is written.
  This is the model's `sendRaw` (`writeAll hdr`, then `writeAll data` iff the payload is non-empty).
  Only property theorems live here.
-/
set_option linter.unusedSimpArgs false
namespace Adb
open Py

/-- The translation of `_AdbIOManagerAsync._send` is, piece by piece, that of the sync method; an edit of one twin only breaks these equations. -/
theorem Src.send_twin : Src.AdbDeviceAsync_send_eff0_args = Src.AdbDevice_send_eff0_args ∧ Src.AdbDeviceAsync_send_eff1_args = Src.AdbDevice_send_eff1_args :=
  ⟨rfl, rfl⟩

/-- First write request of `_send` (both twins): the packed header of the message, or `struct.error` when a field does not fit 32 bits. -/
theorem C02_src_send_first_request (cls : String) (m : Msg) (info : Py.Val) :
    Src.AdbDevice_send_eff0_args (encMsg cls m) info
        = (match m.pack? with
           | some h => .ok (.tuple [.str "request", .str "_write_all", .bytes h, info])
           | none => .error .structError)
      ∧ Src.AdbDeviceAsync_send_eff0_args (encMsg cls m) info
        = (match m.pack? with
           | some h => .ok (.tuple [.str "request", .str "_write_all", .bytes h, info])
           | none => .error .structError) := by
  rw [Src.send_twin.1, and_self]
  simp only [Src.AdbDevice_send_eff0_args, C02_src_pack]
  cases m.pack? <;> simp [pysimp]

/-- Second write request of `_send` (both twins), `eff0` being whatever the first write loop returned: exactly the payload, and only when it is non-empty;
    with an empty payload `_send` is finished (returns `None`) without a second write. -/
theorem C02_src_send_second_request (cls : String) (m : Msg) (info eff0 : Py.Val) :
    Src.AdbDevice_send_eff1_args (encMsg cls m) info eff0
        = (match m.pack? with
           | none => .error .structError
           | some _ => if m.data.isEmpty then .ok .none else .ok (.tuple [.str "request", .str "_write_all", .bytes m.data, info]))
      ∧ Src.AdbDeviceAsync_send_eff1_args (encMsg cls m) info eff0
        = (match m.pack? with
           | none => .error .structError
           | some _ => if m.data.isEmpty then .ok .none else .ok (.tuple [.str "request", .str "_write_all", .bytes m.data, info])) := by
  rw [Src.send_twin.2, and_self]
  simp only [Src.AdbDevice_send_eff1_args, C02_src_pack]
  cases m.pack? with
  | none => simp [pysimp]
  | some h =>
    by_cases he : m.data.isEmpty <;> simp [pysimp, encMsg, Py.alookupS, he]

end Adb
