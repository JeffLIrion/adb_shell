import AdbProofs.Lemmas.Bytes
/-
  C02 — every packet the host emits is a well-formed ADB message.
  Only property theorems and non-vacuity examples live here; helper lemmas are in AdbProofs/Lemmas.
-/
namespace Adb

/-- The header is `MESSAGE_SIZE` bytes and the source still says that is 24 (`struct.calcsize('<6I')`). -/
theorem C02_header_len (m : Msg) :
    m.packHdr.length = Generated.MESSAGE_SIZE ∧ Generated.MESSAGE_SIZE = 24
      ∧ Generated.MESSAGE_FORMAT = "<6I" := by
  refine ⟨?_, rfl, rfl⟩
  simp [Msg.packHdr, Generated.MESSAGE_SIZE]

/-- The command/wire tables recomputed in the model are the tables of the current `constants.py`:
    names, order and every wire value (little-endian ASCII). -/
theorem C02_wire_table :
    Generated.IDS = Cmd.all.map Cmd.name
      ∧ Generated.ID_TO_WIRE = Cmd.all.map (fun c => (c.name, c.wire))
      ∧ Generated.WIRE_TO_ID = Cmd.all.map (fun c => (c.wire, c.name))
      ∧ [Generated.ID_AUTH, Generated.ID_CLSE, Generated.ID_CNXN, Generated.ID_OKAY, Generated.ID_OPEN,
         Generated.ID_SYNC, Generated.ID_WRTE] = Cmd.all.map Cmd.name := by
  decide +kernel

/-- Every command is known (`ofWire?` inverts `wire`), fits 32 bits, and its magic is the bitwise
    complement: `wire + magic = 2^32 - 1`. -/
theorem C02_magic (c : Cmd) :
    Cmd.ofWire? c.wire = some c ∧ c.wire < 4294967296 ∧ magicOf c.wire < 4294967296
      ∧ c.wire + magicOf c.wire = 4294967295 := by
  cases c <;> decide

/-- Layout: six little-endian words — command, arg0, arg1, payload length, byte sum mod 2^32,
    complement of the command — followed by exactly the payload. -/
theorem C02_layout (m : Msg) :
    m.encode = le32 m.cmd.wire ++ le32 m.arg0 ++ le32 m.arg1 ++ le32 m.data.length
        ++ le32 (byteSum m.data % 4294967296) ++ le32 (m.cmd.wire ^^^ 4294967295) ++ m.data := by
  simp [Msg.encode, Msg.packHdr, checksum, magicOf]

/-- `pack` succeeds exactly on 32-bit fields (Python's `struct.error` otherwise). -/
theorem C02_pack_iff (m : Msg) : (m.pack? = some m.packHdr ↔ m.Packable) ∧ (m.pack? = none ↔ ¬ m.Packable) := by
  unfold Msg.pack?; split <;> simp_all

/-- Unpacking a packed header returns the original fields, for every command, every 32-bit argument
    and every payload (any length below 2^32, any byte sum — the sum is reduced mod 2^32). -/
theorem C02_unpack_pack (m : Msg) (h : m.Packable) :
    unpack m.packHdr = some ⟨m.cmd.wire, m.arg0, m.arg1, m.data.length, byteSum m.data % 4294967296⟩
      ∧ unpackMagic m.packHdr = some (magicOf m.cmd.wire) := by
  obtain ⟨h0, h1, hl⟩ := h
  have hw := (C02_magic m.cmd).2.1
  have hm := (C02_magic m.cmd).2.2.1
  have hs : byteSum m.data % 4294967296 < 4294967296 := checksum_lt m.data
  constructor
  · simp only [Msg.packHdr, unpack, List.append_assoc]
    have := rd32_le32 _ hm []
    simp only [List.append_nil] at this
    simp [rd32_le32 _ hw, rd32_le32 _ h0, rd32_le32 _ h1, rd32_le32 _ hl, rd32_le32 _ hs, this, checksum]
  · have : (le32 m.cmd.wire ++ le32 m.arg0 ++ le32 m.arg1 ++ le32 m.data.length ++ le32 (checksum m.data)).length = 20 := by
      simp
    simp only [Msg.packHdr, unpackMagic]
    rw [List.drop_left' this]
    have := rd32_le32 _ hm []
    simp only [List.append_nil] at this
    simp [this]

/-- The strict well-formedness parser (the oracle run on the bytes the peer received) accepts the
    encoding of any packable message and returns exactly that message: the encoding announces exactly
    the payload length, a known command, the complement magic and the right checksum. -/
theorem C02_parse_encode (m : Msg) (h : m.Packable) (rest : Bytes) (acc : List Pkt) (fuel : Nat) :
    parseStrictAux (fuel + 1) (m.encode ++ rest) acc
      = parseStrictAux fuel rest (⟨m.cmd, m.arg0, m.arg1, m.data⟩ :: acc) := by
  have hlen : m.packHdr.length = 24 := (C02_header_len m).1
  have htake : (m.encode ++ rest).take 24 = m.packHdr := by
    simp [Msg.encode, hlen, List.append_assoc, List.take_left']
  have hdrop : (m.encode ++ rest).drop 24 = m.data ++ rest := by
    simp [Msg.encode, List.append_assoc, List.drop_left', hlen]
  have ⟨hu, hmg⟩ := C02_unpack_pack m h
  have hof := (C02_magic m.cmd).1
  rw [parseStrictAux]
  simp only [htake, hlen, Nat.lt_irrefl, if_false, hu, hmg, hof, hdrop]
  simp [checksum]

/-- A whole emitted stream: concatenated encodings parse back to exactly the messages, nothing left. -/
theorem C02_parse_stream (ms : List Msg) (h : ∀ m ∈ ms, m.Packable) (acc : List Pkt) (fuel : Nat)
    (hf : ms.length ≤ fuel) :
    parseStrictAux (fuel + 1) (ms.map Msg.encode).flatten acc
      = (acc.reverse ++ ms.map (fun m => ⟨m.cmd, m.arg0, m.arg1, m.data⟩), []) := by
  induction ms generalizing acc fuel with
  | nil => simp [parseStrictAux]
  | cons m ms ih =>
    cases fuel with
    | zero => simp at hf
    | succ f =>
      simp only [List.map_cons, List.flatten_cons]
      rw [C02_parse_encode m (h m (by simp))]
      rw [ih (fun x hx => h x (by simp [hx])) _ f (by simpa using hf)]
      simp

/-- Non-vacuity: a WRTE with 32-bit-boundary ids and a payload is packable and parses back. -/
example : (⟨.WRTE, 4294967295, 1, [0xff, 0x01]⟩ : Msg).Packable
    ∧ parseStrict (⟨.WRTE, 4294967295, 1, [0xff, 0x01]⟩ : Msg).encode
        = ([⟨.WRTE, 4294967295, 1, [0xff, 0x01]⟩], []) := by decide +kernel

end Adb
