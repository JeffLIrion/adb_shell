import AdbProofs.Properties.C04Src
/-
  C05 / C11 (tie to the source, by proof) — `_AdbIOManager._read_expected_packet_from_device` (both twins), the wait the CNXN/AUTH handshake uses. One iteration of its loop, extracted from
  the CURRENT source with the result of `self._read_packet_from_device(adb_info)` and the clock as parameters, is the model's `expectLoop` step: a packet whose command is one of the
  expected ones is returned unchanged; any other packet is skipped, and then `AdbTimeoutError` is raised iff more than `read_timeout_s` (the auth timeout during the last wait of the handshake)
  has passed since the wait began (`TypeError` for a `None` timeout), else the loop reads the next packet.
  Only property theorems live here.
-/
set_option linter.unusedSimpArgs false
namespace Adb
open Py

/-- the list of expected command ids as the Python list of their byte strings -/
def encCmds (l : List Cmd) : Py.Val := .list (l.map fun c => .bytes c.idBytes)

theorem anyEq_idBytes (c : Cmd) (l : List Cmd) : Py.anyEq (.bytes c.idBytes) (l.map fun d => Py.Val.bytes d.idBytes) = .ok (l.contains c) := by
  induction l with
  | nil => simp [Py.anyEq, pure, Except.pure]
  | cons d rest ih =>
    have hw : (c.idBytes == d.idBytes) = (c == d) := idBytes_eq_iff c d
    by_cases h : c = d
    · subst h; simp [Py.anyEq, Py.eq, bind, Except.bind, pure, Except.pure]
    · have h' : (c == d) = false := by simp [h]
      have h2 : ¬ (c.idBytes = d.idBytes) := by
        intro he; have : (c.idBytes == d.idBytes) = true := by simp [he]
        rw [hw, h'] at this; exact Bool.noConfusion this
      simp [Py.anyEq, Py.eq, bind, Except.bind, pure, Except.pure, h2, ih, List.contains_cons, h']
      intro he; exact absurd he h


/-- `cmd in expected_cmds` -/
theorem inV_encCmds (c : Cmd) (l : List Cmd) : Py.inV (.bytes c.idBytes) (encCmds l) = .ok (.bool (l.contains c)) := by
  simp only [Py.inV, Py.contains, encCmds, anyEq_idBytes, pysimp]

/-- One iteration of the expected-packet wait (sync): request, and reaction to the packet `(c, a0, a1, d)` with the clock at `now`. -/
theorem C05_src_expect_iter_sync (cls : String) (fs : List (String × Py.Val)) (t : Txn) (expected : List Cmd) (x0 x1 x2 x3 : Py.Val) (c : Cmd) (a0 a1 : Nat) (d : Bytes)
    (start now : Int) (hrt : alookupS "read_timeout_s" fs = some (encTimeout t.rt)) :
    Src.AdbDevice_read_expected_packet_from_device_eff0_args (.obj cls fs) x0 x1 x2 x3 (encCmds expected) (.int start) (.int now)
        = .ok (.tuple [.str "request", .str "_read_packet_from_device", .obj cls fs])
      ∧ Src.AdbDevice_read_expected_packet_from_device_iter (.obj cls fs) x0 x1 x2 x3 (encCmds expected) (.int start) (encRead c a0 a1 d) (.int now)
        = (if expected.contains c then .ok (.tuple [.str "return", encRead c a0 a1 d, .int a0, .int a1, .bytes c.idBytes, .bytes d])
           else match t.rt with
             | none => .error .typeError
             | some l => if now - start > l then .error .adbTimeout else .ok (.tuple [.str "continue", .int a0, .int a1, .bytes c.idBytes, .bytes d])) := by
  constructor
  · simp [Src.AdbDevice_read_expected_packet_from_device_eff0_args, pysimp]
  · simp only [Src.AdbDevice_read_expected_packet_from_device_iter, pysimp, encRead, inV_encCmds, hrt]
    by_cases hc : c ∈ expected
    · simp [hc]
    · cases hr : t.rt with
      | none => simp [pysimp, encTimeout, hc]
      | some l => by_cases h2 : now - start > l <;> simp [pysimp, encTimeout, hc, h2]

/-- The translation of `_read_expected_packet_from_device` of the async class is, piece by piece, that of the sync class; an edit of one twin only breaks these equations. -/
theorem Src.read_expected_packet_twin : Src.AdbDeviceAsync_read_expected_packet_from_device_eff0_args = Src.AdbDevice_read_expected_packet_from_device_eff0_args
    ∧ Src.AdbDeviceAsync_read_expected_packet_from_device_iter = Src.AdbDevice_read_expected_packet_from_device_iter := ⟨rfl, rfl⟩

/-- One iteration of the expected-packet wait (async twin): request, and reaction to the packet `(c, a0, a1, d)` with the clock at `now`. -/
theorem C05_src_expect_iter_async (cls : String) (fs : List (String × Py.Val)) (t : Txn) (expected : List Cmd) (x0 x1 x2 x3 : Py.Val) (c : Cmd) (a0 a1 : Nat) (d : Bytes)
    (start now : Int) (hrt : alookupS "read_timeout_s" fs = some (encTimeout t.rt)) :
    Src.AdbDeviceAsync_read_expected_packet_from_device_eff0_args (.obj cls fs) x0 x1 x2 x3 (encCmds expected) (.int start) (.int now)
        = .ok (.tuple [.str "request", .str "_read_packet_from_device", .obj cls fs])
      ∧ Src.AdbDeviceAsync_read_expected_packet_from_device_iter (.obj cls fs) x0 x1 x2 x3 (encCmds expected) (.int start) (encRead c a0 a1 d) (.int now)
        = (if expected.contains c then .ok (.tuple [.str "return", encRead c a0 a1 d, .int a0, .int a1, .bytes c.idBytes, .bytes d])
           else match t.rt with
             | none => .error .typeError
             | some l => if now - start > l then .error .adbTimeout else .ok (.tuple [.str "continue", .int a0, .int a1, .bytes c.idBytes, .bytes d])) := by
  simp only [Src.read_expected_packet_twin]
  exact C05_src_expect_iter_sync cls fs t expected x0 x1 x2 x3 c a0 a1 d start now hrt

end Adb
