import AdbProofs.Lemmas.SrcEnc
import AdbModel.Generated.Src
/-
  C19 / C01 / C06 (tie to the source, by proof) — stream matching, including the legacy zero-id fallback
  (`hidden_helpers._AdbTransactionInfo.args_match`, anchor of C19): the translation of the CURRENT source (harness/pytrans.py, regenerated on
  every run) computes exactly the model's `Txn.argsMatch`, the predicate every delivery / isolation theorem (C01, C04, C06) is stated with.
  Only property theorems and non-vacuity examples live here.
-/
set_option linter.unusedSimpArgs false
namespace Adb
open Py

/-- For every transaction info (local id and remote id each a number or `None`), every packet id pair and both values of `allow_zeros`, the
    source's `args_match(arg0, arg1, allow_zeros)` returns the boolean the model's `Txn.argsMatch` returns. -/
theorem C19_src_args_match (cls : String) (fs : List (String × Py.Val)) (t : Txn) (a0 a1 : Nat) (az : Bool)
    (hl : alookupS "local_id" fs = some (encOptNat t.localId)) (hr : alookupS "remote_id" fs = some (encOptNat t.remoteId)) :
    Src.AdbTransactionInfo_args_match (.obj cls fs) (.int a0) (.int a1) (.bool az) = .ok (.bool (t.argsMatch a0 a1 az)) := by
  -- both sides become the same boolean expression in `t.localId == some a1`, `t.remoteId.isNone`, … (up to how `and` / `or` / `if` nest)
  cases az <;> simp only [Src.AdbTransactionInfo_args_match, Txn.argsMatch, pysimp, hl, hr, Py.ite_ok_bool]
  all_goals simp [Bool.or_assoc]

/-! ### Non-vacuity: exact match, zero fallback, unknown remote id, foreign stream (concrete objects meet the hypotheses) -/
example : Src.AdbTransactionInfo_args_match (.obj "_AdbTransactionInfo" [("local_id", .int 5), ("remote_id", .int 9)]) (.int 9) (.int 5) (.bool false)
    = .ok (.bool true) :=
  C19_src_args_match "_AdbTransactionInfo" _ ⟨some 5, some 9, none, none, none⟩ 9 5 false rfl rfl
example : Src.AdbTransactionInfo_args_match (.obj "_AdbTransactionInfo" [("local_id", .int 5), ("remote_id", .int 9)]) (.int 0) (.int 0) (.bool true)
    = .ok (.bool true) :=
  C19_src_args_match "_AdbTransactionInfo" _ ⟨some 5, some 9, none, none, none⟩ 0 0 true rfl rfl
example : Src.AdbTransactionInfo_args_match (.obj "_AdbTransactionInfo" [("local_id", .int 5), ("remote_id", .none)]) (.int 77) (.int 5) (.bool false)
    = .ok (.bool true) :=
  C19_src_args_match "_AdbTransactionInfo" _ ⟨some 5, none, none, none, none⟩ 77 5 false rfl rfl
example : Src.AdbTransactionInfo_args_match (.obj "_AdbTransactionInfo" [("local_id", .int 5), ("remote_id", .int 9)]) (.int 9) (.int 6) (.bool true)
    = .ok (.bool false) :=
  C19_src_args_match "_AdbTransactionInfo" _ ⟨some 5, some 9, none, none, none⟩ 9 6 true rfl rfl

end Adb
