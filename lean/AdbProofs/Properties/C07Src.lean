import AdbProofs.Lemmas.SrcEnc
import AdbModel.Generated.Src
/-
  C07 (tie to the source, by proof) — translations of the CURRENT source (harness/pytrans.py, regenerated on every run) of
  `_FileSyncTransactionInfo.__init__`, `_FileSyncTransactionInfo.can_add_to_send_buffer` and `AdbDevice(Async).max_chunk_size` compute exactly
  the model's `SyncFmt.size` / `FsInfo.canAdd` / `maxChunkSize`: the flush threshold and the DATA chunk size that the buffering, payload-bound
  and chunking theorems of C07.lean are about are the ones the source contains now.
  Only property theorems and non-vacuity examples live here.
-/
set_option linter.unusedSimpArgs false
namespace Adb
open Py

/-- the `struct` format string of a receive format, as the bytes object `constants.FILESYNC_*_FORMAT` -/
def SyncFmt.pyFormat : SyncFmt → Py.Val
  | .list => .bytes (ascii Generated.FILESYNC_LIST_FORMAT)
  | .pull => .bytes (ascii Generated.FILESYNC_PULL_FORMAT)
  | .push => .bytes (ascii Generated.FILESYNC_PUSH_FORMAT)
  | .stat => .bytes (ascii Generated.FILESYNC_STAT_FORMAT)

/-- The flush threshold: on an object whose `recv_message_size`, `send_idx`, `_maxdata` are the naturals `sz`, `idx`, `md`, the source's
    `can_add_to_send_buffer(n)` is `idx + (sz + n) < md` — the model's `FsInfo.canAdd` (with `idx` = length of the live send-buffer prefix). -/
theorem C07_src_can_add (cls : String) (fs : List (String × Py.Val)) (sz idx md n : Nat)
    (h1 : alookupS "recv_message_size" fs = some (.int sz)) (h2 : alookupS "send_idx" fs = some (.int idx))
    (h3 : alookupS "_maxdata" fs = some (.int md)) :
    Src.FileSyncTransactionInfo_can_add_to_send_buffer (.obj cls fs) (.int n) = .ok (.bool (decide (idx + (sz + n) < md))) := by
  simp [Src.FileSyncTransactionInfo_can_add_to_send_buffer, pysimp, h1, h2, h3]
  try omega

/-- The same statement against the model structure: for a model `FsInfo` and an object carrying its three numbers, source and model agree. -/
theorem C07_src_can_add_model (cls : String) (fs : List (String × Py.Val)) (fi : FsInfo) (n : Nat)
    (h1 : alookupS "recv_message_size" fs = some (.int fi.fmt.size)) (h2 : alookupS "send_idx" fs = some (.int fi.sendBuf.length))
    (h3 : alookupS "_maxdata" fs = some (.int fi.maxdata)) :
    Src.FileSyncTransactionInfo_can_add_to_send_buffer (.obj cls fs) (.int n) = .ok (.bool (fi.canAdd n)) :=
  C07_src_can_add cls fs _ _ _ n h1 h2 h3

theorem SyncFmt.words_ge_two (f : SyncFmt) : 2 ≤ f.size / 4 ∧ 4 * (f.size / 4) = f.size := by cases f <;> decide

theorem SyncFmt.fmtWords (f : SyncFmt) : ∃ b, f.pyFormat = .bytes b ∧ Py.fmtWords b = some (f.size / 4) := by
  cases f
  · exact ⟨_, rfl, by decide⟩
  · exact ⟨_, rfl, by decide⟩
  · exact ⟨_, rfl, by decide⟩
  · exact ⟨_, rfl, by decide⟩

/-- The constructor: for each of the four receive formats (the GENERATED `constants.FILESYNC_*_FORMAT` strings) and any `maxdata`, the source's
    `__init__` stores `recv_message_size = SyncFmt.size` (so `struct.calcsize` of the format is what the model uses), `send_idx = 0`, an empty
    receive buffer, a zeroed send buffer of `maxdata` bytes and `_maxdata = maxdata`. -/
theorem C07_src_fsinfo_init (cls : String) (f : SyncFmt) (md : Nat) :
    ∃ fs, Src.FileSyncTransactionInfo_init (.obj cls []) f.pyFormat (.int md) = .ok (Py.Val.none, .obj cls fs)
      ∧ alookupS "recv_message_size" fs = some (.int f.size) ∧ alookupS "send_idx" fs = some (.int 0)
      ∧ alookupS "recv_buffer" fs = some (.bytearray []) ∧ alookupS "send_buffer" fs = some (.bytearray (List.replicate md 0))
      ∧ alookupS "_maxdata" fs = some (.int md) ∧ alookupS "recv_message_format" fs = some f.pyFormat := by
  obtain ⟨b, hb, hw⟩ := SyncFmt.fmtWords f
  have h4 := (SyncFmt.words_ge_two f).2
  simp only [Src.FileSyncTransactionInfo_init, hb, Py.structCalcsize_words b _ hw, h4, pysimp]
  refine ⟨_, rfl, ?_⟩
  simp only [pysimp, and_self]

/-- `max_chunk_size` (sync class): on an object whose `_maxdata` is the natural `md`, the source computes the model's `maxChunkSize md`
    (`min(MAX_CHUNK_SIZE, md // 2) or MAX_PUSH_DATA`, with the constants GENERATED from constants.py). -/
theorem C07_src_max_chunk_sync (cls : String) (fs : List (String × Py.Val)) (md : Nat) (h : alookupS "_maxdata" fs = some (.int md)) :
    Src.AdbDevice_max_chunk_size (.obj cls fs) = .ok (.int (maxChunkSize md)) := by
  have hc : Src.const_MAX_CHUNK_SIZE = .int (Generated.MAX_CHUNK_SIZE : Nat) := rfl
  have hp : Src.const_MAX_PUSH_DATA = .int (Generated.MAX_PUSH_DATA : Nat) := rfl
  simp only [Src.AdbDevice_max_chunk_size, pysimp, h, hc, hp, maxChunkSize]
  generalize md / 2 = k
  generalize Generated.MAX_CHUNK_SIZE = c
  generalize Generated.MAX_PUSH_DATA = p
  have h3 : min (c : Int) (k : Int) = ((min c k : Nat) : Int) := by omega
  have h3' : min (k : Int) (c : Int) = ((min c k : Nat) : Int) := by omega
  simp only [h3, h3']
  by_cases hz : min c k = 0
  · have : ((min c k : Nat) : Int) = 0 := by omega
    simp [hz, this]
  · have : ¬ ((min c k : Nat) : Int) = 0 := by omega
    simp [hz, this]

/-- The translation of `max_chunk_size` of the async class is, piece by piece, that of the sync class; an edit of one twin only breaks this equation. -/
theorem Src.max_chunk_size_twin : Src.AdbDeviceAsync_max_chunk_size = Src.AdbDevice_max_chunk_size := rfl

/-- `max_chunk_size` (async class): the same. -/
theorem C07_src_max_chunk_async (cls : String) (fs : List (String × Py.Val)) (md : Nat) (h : alookupS "_maxdata" fs = some (.int md)) :
    Src.AdbDeviceAsync_max_chunk_size (.obj cls fs) = .ok (.int (maxChunkSize md)) := by
  simp only [Src.max_chunk_size_twin]
  exact C07_src_max_chunk_sync cls fs md h

/-! ### Non-vacuity: the hypotheses are met by concrete objects (and the theorems then give the concrete values) -/
example : Src.AdbDevice_max_chunk_size (.obj "AdbDevice" [("_maxdata", .int 4096)]) = .ok (.int 2048) := by
  rw [C07_src_max_chunk_sync "AdbDevice" _ 4096 rfl]; rfl
example : Src.AdbDevice_max_chunk_size (.obj "AdbDevice" [("_maxdata", .int 1)]) = .ok (.int (Generated.MAX_PUSH_DATA : Nat)) := by
  rw [C07_src_max_chunk_sync "AdbDevice" _ 1 rfl]; rfl
example : Src.FileSyncTransactionInfo_can_add_to_send_buffer (.obj "_FileSyncTransactionInfo"
    [("recv_message_size", .int 8), ("send_idx", .int 4080), ("_maxdata", .int 4096)]) (.int 8) = .ok (.bool false) :=
  C07_src_can_add "_FileSyncTransactionInfo" _ 8 4080 4096 8 rfl rfl rfl
example : Src.FileSyncTransactionInfo_can_add_to_send_buffer (.obj "_FileSyncTransactionInfo"
    [("recv_message_size", .int 8), ("send_idx", .int 4080), ("_maxdata", .int 4096)]) (.int 7) = .ok (.bool true) :=
  C07_src_can_add "_FileSyncTransactionInfo" _ 8 4080 4096 7 rfl rfl rfl

end Adb
