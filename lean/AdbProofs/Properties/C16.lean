import AdbModel
/-
  C16 — the async API is behaviourally identical to the sync API.
  There is exactly ONE model; `AdbDevice` and `AdbDeviceAsync` (and the two TCP transports) are both
  checked against it on identical scenario lines, and against each other directly.  The theorems
  here are the (small) logical steps that turn "both correspond to the model" into "they agree",
  plus the structural twin facts that can be extracted exactly from the two source files.
-/
namespace Adb

/-- The model is a function of the scenario: a history of API calls from a given world has exactly
    one outcome (results and final world).  (Trivial by construction — stated because it is the step
    the argument below rests on.) -/
theorem C16_model_deterministic (ops : List ApiOp) (w : World) (r₁ r₂ : List (Except Err Val) × World)
    (h₁ : runHistory ops w = r₁) (h₂ : runHistory ops w = r₂) : r₁ = r₂ := h₁ ▸ h₂

/-- If the observables of both implementations equal the model's on a scenario, the two
    implementations agree on it.  All other property theorems therefore transfer to BOTH twins
    through the same correspondence; nothing is proved twice. -/
theorem C16_agree {Scn Obs : Type} (sync async model : Scn → Obs) (s : Scn)
    (hs : sync s = model s) (ha : async s = model s) : sync s = async s := hs.trans ha.symm

/-- …and conversely a disagreement between the twins on a scenario means at least one of them
    deviates from the model there (so a one-sided change is always seen by the correspondence of
    the changed twin). -/
theorem C16_disagreement_localises {Scn Obs : Type} (sync async model : Scn → Obs) (s : Scn)
    (h : sync s ≠ async s) : sync s ≠ model s ∨ async s ≠ model s := by
  by_cases hs : sync s = model s
  · right; intro ha; exact h (hs.trans ha.symm)
  · left; exact hs

/-- Structural twin facts regenerated from `adb_device.py` and `adb_device_async.py` on every run:
    same guard prefix for every public operation, same lock nesting, same calls under the store
    lock and under the id lock. -/
theorem C16_twin_facts :
    Generated.guardsSync = Generated.guardsAsync
      ∧ Generated.lockEdgesSync = Generated.lockEdgesAsync
      ∧ Generated.storeLockCallsSync = Generated.storeLockCallsAsync
      ∧ Generated.localIdLockCallsSync = Generated.localIdLockCallsAsync :=
  ⟨rfl, rfl, rfl, rfl⟩

end Adb
