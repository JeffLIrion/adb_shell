import AdbProofs.Lemmas.NextId
import AdbProofs.Lemmas.TxnLemmas
/-
  C14 — stream ids are non-zero, fit 32 bits, and are unique among live streams.
  `nextId` models `self._local_id += 1; if self._local_id == 2**32: self._local_id = 1` of `_open`;
  `openStream` allocates the id under the local-id lock and uses exactly that id in the OPEN message.
  Only property theorems and non-vacuity examples live here; helper lemmas are in AdbProofs/Lemmas.
-/
namespace Adb

/-- Every allocated id is in `[1, 2^32 - 1]` (given the counter itself is a 32-bit value, which it
    is initially (0) and, by this very theorem, stays). -/
theorem C14_range (c : Nat) (h : c < 4294967296) : 1 ≤ nextId c ∧ nextId c < 4294967296 :=
  nextId_range c h

/-- The id handed out by the `(k+1)`-th open after the counter was `c` is in `[1, 2^32 - 1]`. -/
theorem C14_range_iter (c k : Nat) (h : c < 4294967296) :
    1 ≤ nextId^[k+1] c ∧ nextId^[k+1] c < 4294967296 := by
  induction k generalizing c with
  | zero => exact nextId_range c h
  | succ k ih =>
    rw [nextId_iter_succ]
    exact ih (nextId c) (nextId_range c h).2

/-- Closed form: from a counter `c` in `[1, 2^32 - 1]`, `k` allocations later the counter is
    `(c - 1 + k) mod (2^32 - 1) + 1` — the ids cycle through `1 … 2^32 - 1` and never hit 0. -/
theorem C14_closed_form (c k : Nat) (h1 : 1 ≤ c) (h2 : c < 4294967296) :
    nextId^[k] c = (c - 1 + k) % 4294967295 + 1 :=
  nextId_iter_closed k c h1 h2

/-- The counter starts at 0: the `(k+1)`-th stream ever opened gets id `k mod (2^32 - 1) + 1`. -/
theorem C14_closed_form_zero (k : Nat) : nextId^[k+1] 0 = k % 4294967295 + 1 := by
  rw [nextId_iter_succ, show nextId 0 = 1 from rfl, nextId_iter_closed k 1 (by omega) (by omega)]
  simp

/-- Two opens fewer than `2^32 - 1` allocations apart never get the same id, also across the
    wrap-around: a stream's id cannot be reused while fewer than `2^32 - 1` later streams were opened. -/
theorem C14_distinct_window (c i j : Nat) (h : c < 4294967296) (hij : i < j)
    (hw : j - i < 4294967295) : nextId^[i+1] c ≠ nextId^[j+1] c := by
  obtain ⟨h1, h2⟩ := nextId_range c h
  rw [nextId_iter_succ, nextId_iter_succ, nextId_iter_closed i _ h1 h2, nextId_iter_closed j _ h1 h2]
  omega

/-- The window in `C14_distinct_window` is tight: exactly `2^32 - 1` allocations later the same id
    comes back. -/
theorem C14_period (c k : Nat) (h1 : 1 ≤ c) (h2 : c < 4294967296) :
    nextId^[k + 4294967295] c = nextId^[k] c := by
  rw [nextId_iter_closed _ c h1 h2, nextId_iter_closed _ c h1 h2]
  omega

/-- `_open` uses the id it allocated. For every outcome `(r, w')` of `openStream dest tt rt total w`:
    1. a normal return carries `local_id = nextId (old counter)`;
    2. if the local-id lock was free, the counter afterwards is `nextId (old counter)`, on every exit
       (normal, `TypeError` from the timeouts, transport failure, timeout, …) — the counter only moves
       through `nextId`, once per call; if the lock was held the call blocks and nothing changes;
    3. the only message `_send` can have been entered with is `OPEN(nextId (old counter), 0, dest+b'\0')`
       (the events added to the trace contain no other `tx`);
    4. on a normal return that message was sent, exactly once. -/
theorem C14_open_uses_allocated (dest : Bytes) (tt rt total : Timeout) (w w' : World)
    (r : Except Err Txn) (h : openStream dest tt rt total w = (r, w')) :
    (∀ t, r = .ok t → t.localId = some (nextId w.localId))
      ∧ (lockLocalId ∉ w.locks → w'.localId = nextId w.localId)
      ∧ (lockLocalId ∈ w.locks → w' = w ∧ r = .error .hang)
      ∧ (∃ evs, w'.trace = evs ++ w.trace
            ∧ ∀ m, TEv.tx m ∈ evs → m = ⟨.OPEN, nextId w.localId, 0, dest ++ [0]⟩)
      ∧ (∀ t, r = .ok t → ∃ evs,
            w'.trace = evs ++ TEv.tx ⟨.OPEN, nextId w.localId, 0, dest ++ [0]⟩ :: w.trace
              ∧ ∀ m, TEv.tx m ∉ evs) := by
  by_cases hl : lockLocalId ∈ w.locks
  · rw [openStream_idlock_held dest tt rt total w hl] at h
    simp at h
    obtain ⟨hr, hw⟩ := h
    subst hr hw
    simp [hl]
  · rw [openStream_alloc_run dest tt rt total w hl] at h
    cases hm : Txn.make (some (nextId w.localId)) none (effTT tt w) rt total with
    | error e =>
      simp only [hm] at h
      simp at h
      obtain ⟨hr, hw⟩ := h
      subst hr hw
      simp [hl, allocWorld]
    | ok t =>
      simp only [hm] at h
      have hid : t.localId = some (nextId w.localId) := (Txn.make_ids hm).1
      have spec := openRest_spec dest t (allocWorld w)
      rw [h, hid] at spec
      simp only [Option.getD_some] at spec
      refine ⟨?_, fun _ => ?_, fun hl' => absurd hl' hl, ?_, ?_⟩
      · intro t' ht'
        rcases spec with ⟨_, e, he⟩ | ⟨_, hk⟩
        · simp [ht'] at he
        · exact hk t' ht'
      · rcases spec with ⟨hq, _⟩ | ⟨hs, _⟩
        · exact hq.1
        · exact hs.localId
      · rcases spec with ⟨hq, _⟩ | ⟨hs, _⟩
        · obtain ⟨evs, he, hn⟩ := hq.2
          exact ⟨evs, he, fun m hmem => absurd hmem (hn m)⟩
        · obtain ⟨evs, he, hn⟩ := hs.trace
          refine ⟨evs ++ [TEv.tx ⟨.OPEN, nextId w.localId, 0, dest ++ [0]⟩], by simpa [allocWorld] using he, ?_⟩
          intro m hmem
          rcases List.mem_append.mp hmem with h1 | h1
          · exact absurd h1 (hn m)
          · simpa using h1
      · intro t' ht'
        rcases spec with ⟨_, e, he⟩ | ⟨hs, _⟩
        · simp [ht'] at he
        · exact hs.trace

/-- The computation of `_open` spelled out: with the local-id lock free, the counter is advanced, the
    transaction info is built with the new id, and then — if the constructor did not raise — exactly
    `send(OPEN(new id, 0, dest+b'\0'))`, `read([OKAY])` run in the world whose only change is the counter. -/
theorem C14_open_unfold (dest : Bytes) (tt rt total : Timeout) (w : World)
    (hl : lockLocalId ∉ w.locks) :
    openStream dest tt rt total w =
      match Txn.make (some (nextId w.localId)) none (if tt.isSome then tt else w.defaultTT) rt total with
      | .ok t =>
          (ioSend ⟨.OPEN, nextId w.localId, 0, dest ++ [0]⟩ t >>= fun _ =>
           ioRead [.OKAY] t >>= fun p =>
           pure { t with remoteId := some p.arg0 }) { w with localId := nextId w.localId }
      | .error e => (.error e, { w with localId := nextId w.localId }) := by
  rw [openStream_alloc_run dest tt rt total w hl]
  cases hm : Txn.make (some (nextId w.localId)) none (effTT tt w) rt total with
  | error e => simp only [effTT] at hm; simp only [hm]; rfl
  | ok t =>
    have hid : t.localId = some (nextId w.localId) := (Txn.make_ids hm).1
    simp only [effTT] at hm
    simp only [hm, openRest, hid, Option.getD_some]
    rfl

/-! ### Non-vacuity -/

example : nextId 0 = 1 := by decide
example : nextId 4294967294 = 4294967295 := by decide
example : nextId 4294967295 = 1 := by decide
example : nextId^[3] 4294967294 = 2 := by decide
example : nextId^[3] 0 = 3 := by decide
-- across the wrap: the ids 2^32-1, 1, 2 are pairwise different
example : nextId^[1] 4294967294 ≠ nextId^[3] 4294967294 := by decide
-- hypotheses of the window theorem are satisfiable at the extreme: i = 0, j = 2^32 - 2
example : (0 : Nat) < 4294967294 ∧ 4294967294 - 0 < 4294967295 := by decide
-- and the window is tight: 2^32 - 1 allocations after id 5 the id is 5 again
example : nextId^[0 + 4294967295] 5 = 5 := by rw [C14_period 5 0 (by decide) (by decide)]; rfl

-- `C14_open_uses_allocated` on concrete runs. A device that answers `OKAY(77, 1)`, counter at 2^32-1:
-- the open returns normally with local id 1 (wrapped, not 0 and not 2^32) and remote id 77, the counter
-- is 1 afterwards, and the only message sent is `OPEN(1, 0, b"s\0")`.
example :
    let w0 : World := { cur := some { segs := [⟨0, (⟨.OKAY, 77, 1, []⟩ : Msg).encode⟩] }, localId := 4294967295 }
    ((openStream [115] none (some 10240) none w0).1.toOption.map (fun t => (t.localId, t.remoteId))
        = some (some 1, some 77))
      ∧ (openStream [115] none (some 10240) none w0).2.localId = 1
      ∧ (openStream [115] none (some 10240) none w0).2.trace.filter
          (fun e => match e with | .tx _ => true | _ => false) = [.tx ⟨.OPEN, 1, 0, [115, 0]⟩] := by
  decide +kernel
-- an exit by exception still advances the counter exactly once: `read_timeout_s=None` with a total
-- timeout raises `TypeError` before anything is sent; no connection raises on the first write after
-- `_send` was entered with the OPEN message
example :
    (openStream [115] none none (some 5) {}).2.localId = 1
      ∧ (openStream [115] none none (some 5) {}).2.trace = []
      ∧ (openStream [115] none (some 5) none {}).2.localId = 1
      ∧ (openStream [115] none (some 5) none {}).2.trace = [.tx ⟨.OPEN, 1, 0, [115, 0]⟩] := by
  decide +kernel
-- the local-id lock held: the call blocks, nothing is allocated
example : (openStream [115] none (some 5) none { locks := [lockLocalId] }).2.localId = 0 := by decide +kernel

end Adb
