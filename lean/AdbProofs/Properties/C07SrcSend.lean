import AdbProofs.Lemmas.SrcLoops
import AdbProofs.Properties.C07Src
import AdbProofs.Lemmas.SrcMsg
/-
  C07 (tie to the source, by proof) — `AdbDevice._filesync_send` / `AdbDeviceAsync._filesync_send`, translated from the CURRENT source by harness/pytrans.py as an
  effect-parameterised function: the call `self._filesync_flush(adb_info, filesync_info)` is the effect, its result is the state of `filesync_info` after the flush, and the
  function returns `(None, filesync_info')` — the object it mutated.  Proved here, for both twins:
    * the flush is requested exactly when `can_add_to_send_buffer(len(data))` is false (the model's `FsInfo.canAdd`), with the untouched `filesync_info`;
    * afterwards the record `<wire id> <size> data` (`fsRecord`, the model's `le32 id.wire ++ le32 size ++ data`) is written at `send_buffer[send_idx:]` of the (possibly flushed)
      object and `send_idx` advances by its length; `size` defaults to `len(data)`; a size that does not fit 32 bits is `struct.error` (the model's `pyStructError`);
    * a `str` argument (device paths) is encoded as UTF-8 before anything else: it behaves exactly like its UTF-8 bytes (`C07_src_send_str`);
    * `spliced_live_prefix`: whenever the record fits the buffer, the live prefix `send_buffer[:send_idx]` afterwards is the live prefix before followed by the record — the model's
      `sendBuf ++ le32 id.wire ++ le32 size ++ data` — and the buffer keeps its length.
  Only property theorems, the definitions they are stated with and non-vacuity examples live here (three evaluation lemmas for `struct.pack('<2I')` and slice assignment precede them).
-/
set_option linter.unusedSimpArgs false
namespace Adb
open Py

/-- the record `_filesync_send` appends: two little-endian words (wire id, size) and the data -/
def fsRecord (w size : Nat) (data : Bytes) : Bytes := le32 w ++ le32 size ++ data

/-- `b[idx:idx+len(rec)] = rec` with Python's clamping -/
def splice (buf : Bytes) (idx : Nat) (rec : Bytes) : Bytes :=
  buf.take (Nat.min idx buf.length) ++ rec ++ buf.drop (Nat.max (Nat.min idx buf.length) (Nat.min (idx + rec.length) buf.length))

/-- the two attribute updates `_filesync_send` performs -/
def sendUpdate (fs : List (String × Py.Val)) (idx : Nat) (buf rec : Bytes) : List (String × Py.Val) :=
  asetS "send_idx" (.int ((idx : Int) + (rec.length : Int))) (asetS "send_buffer" (.bytearray (splice buf idx rec)) fs)

/-- the optional `size` argument -/
def optV : Option Nat → Py.Val
  | none => .none
  | some s => .int s

/-- the generated `FILESYNC_ID_TO_WIRE` table maps every sync id to the model's wire value -/
theorem src_fsIdToWire_get (c : SyncId) : Py.getItem Src.const_FILESYNC_ID_TO_WIRE (.bytes (ascii c.name)) = .ok (.int c.wire) := by
  cases c <;> rfl

theorem SyncId.wire_lt (c : SyncId) : c.wire < 4294967296 := by cases c <;> decide +kernel

theorem Py.structPack_2I (w s : Nat) (hw : w < 4294967296) :
    Py.structPack (.bytes [60, 50, 73]) [.int w, .int s]
      = if s < 4294967296 then .ok (.bytes (le32 w ++ le32 s)) else .error .structError := by
  have h2 : Py.fmtWords [60, 50, 73] = some 2 := by decide
  simp only [Py.structPack, Py.fmtBytes, Py.bind_ok', Py.pure_ok', h2, Py.packWords_nat, hw]
  by_cases h : s < 4294967296 <;> simp [h, Py.packWords, pysimp]

/-- `b[l:l+n] = d` on a bytearray (Python clamps both ends to `len(b)`) -/
theorem Py.setSlice_nat (b d : Bytes) (l n : Nat) :
    Py.setSlice (.bytearray b) (.int l) (.int ((l : Int) + (n : Int))) (.bytes d)
      = .ok (.bytearray (b.take (Nat.min l b.length) ++ d ++ b.drop (Nat.max (Nat.min l b.length) (Nat.min (l + n) b.length)))) := by
  have h0 : (0 : Int) ≤ (l : Int) + (n : Int) := by omega
  have h1 : ((l : Int) + (n : Int)).toNat = l + n := by omega
  simp [Py.setSlice, Py.natOf, Py.asInt, pysimp, h0, h1]

theorem Py.isinstance_bytes_bytes (d : Bytes) : Py.isinstance (.bytes d) "bytes" = .ok (.bool true) := rfl

/-- whenever the record fits, the live prefix afterwards is the live prefix before followed by the record, and the buffer keeps its length -/
theorem spliced_live_prefix (buf rec : Bytes) (idx : Nat) (h : idx + rec.length ≤ buf.length) :
    (splice buf idx rec).take (idx + rec.length) = buf.take idx ++ rec ∧ (splice buf idx rec).length = buf.length := by
  have e1 : Nat.min idx buf.length = idx := by simp [Nat.min_def]; omega
  have e2 : Nat.min (idx + rec.length) buf.length = idx + rec.length := by simp [Nat.min_def]; omega
  have e3 : Nat.max idx (idx + rec.length) = idx + rec.length := by simp [Nat.max_def]
  simp only [splice, e1, e2, e3]
  constructor
  · rw [List.take_append_of_le_length (by simp; omega)]
    rw [List.take_of_length_le (by simp; omega)]
  · simp; omega


/-- `_filesync_send` (sync), no flush needed: when `send_idx + (recv_message_size + len(data)) < _maxdata` the flush effect is not used, the record is written at `send_idx` and
    `send_idx` advances; `size` defaults to `len(data)`. -/
theorem C07_src_send_noflush_sync (cls : String) (fs : List (String × Py.Val)) (cmd info eff0 : Py.Val) (w sz idx md : Nat) (buf data : Bytes) (size : Option Nat)
    (hw : Py.getItem Src.const_FILESYNC_ID_TO_WIRE cmd = .ok (.int w)) (hw32 : w < 4294967296)
    (h1 : alookupS "recv_message_size" fs = some (.int sz)) (h2 : alookupS "send_idx" fs = some (.int idx))
    (h3 : alookupS "_maxdata" fs = some (.int md)) (hb : alookupS "send_buffer" fs = some (.bytearray buf))
    (hadd : idx + (sz + data.length) < md) :
    Src.AdbDevice_filesync_send_fn cmd info (.obj cls fs) (.bytes data) (optV size) eff0
      = (if size.getD data.length < 4294967296 then .ok (.tuple [.none, .obj cls (sendUpdate fs idx buf (fsRecord w (size.getD data.length) data))]) else .error .structError)
    ∧ Src.AdbDevice_filesync_send_eff0_args cmd info (.obj cls fs) (.bytes data) (optV size)
      = (if size.getD data.length < 4294967296 then .ok (.tuple [.none, .obj cls (sendUpdate fs idx buf (fsRecord w (size.getD data.length) data))]) else .error .structError) := by
  cases size <;> constructor <;>
    simp only [Src.AdbDevice_filesync_send_fn, Src.AdbDevice_filesync_send_eff0_args, pysimp, optV, Py.isinstance_bytes_bytes, Py.len_bytes, C07_src_can_add cls fs sz idx md _ h1 h2 h3,
      hadd, hw, Py.structPack_2I _ _ hw32, Py.ite_bind', h2, hb, Py.add_bytes_bytes, Py.setSlice_nat, sendUpdate, fsRecord, splice, Option.getD_none, Option.getD_some,
      List.append_assoc]

/-- `_filesync_send` (sync), buffer full: when `send_idx + (recv_message_size + len(data)) < _maxdata` is false, `_filesync_flush(adb_info, filesync_info)` is requested with
    the untouched arguments, and the record is then written into the FLUSHED object (the effect's result) at its `send_idx`. -/
theorem C07_src_send_flush_sync (cls cls' : String) (fs fs' : List (String × Py.Val)) (cmd info : Py.Val) (w sz idx md idx' : Nat) (buf' data : Bytes) (size : Option Nat)
    (hw : Py.getItem Src.const_FILESYNC_ID_TO_WIRE cmd = .ok (.int w)) (hw32 : w < 4294967296)
    (h1 : alookupS "recv_message_size" fs = some (.int sz)) (h2 : alookupS "send_idx" fs = some (.int idx))
    (h3 : alookupS "_maxdata" fs = some (.int md))
    (h2' : alookupS "send_idx" fs' = some (.int idx')) (hb' : alookupS "send_buffer" fs' = some (.bytearray buf'))
    (hadd : ¬ idx + (sz + data.length) < md) :
    Src.AdbDevice_filesync_send_eff0_args cmd info (.obj cls fs) (.bytes data) (optV size)
      = .ok (.tuple [.str "request", .str "_filesync_flush", info, .obj cls fs])
    ∧ Src.AdbDevice_filesync_send_fn cmd info (.obj cls fs) (.bytes data) (optV size) (.obj cls' fs')
      = (if size.getD data.length < 4294967296 then .ok (.tuple [.none, .obj cls' (sendUpdate fs' idx' buf' (fsRecord w (size.getD data.length) data))]) else .error .structError) := by
  cases size <;> constructor <;>
    simp only [Src.AdbDevice_filesync_send_fn, Src.AdbDevice_filesync_send_eff0_args, pysimp, optV, Py.isinstance_bytes_bytes, Py.len_bytes, C07_src_can_add cls fs sz idx md _ h1 h2 h3,
      hadd, hw, Py.structPack_2I _ _ hw32, Py.ite_bind', h2', hb', Py.add_bytes_bytes, Py.setSlice_nat, sendUpdate, fsRecord, splice, Option.getD_none, Option.getD_some,
      List.append_assoc]

/-- The translation of `_filesync_send` of the async class is, piece by piece, that of the sync class; an edit of one twin only breaks these equations. -/
theorem Src.filesync_send_twin : Src.AdbDeviceAsync_filesync_send_fn = Src.AdbDevice_filesync_send_fn
    ∧ Src.AdbDeviceAsync_filesync_send_eff0_args = Src.AdbDevice_filesync_send_eff0_args := ⟨rfl, rfl⟩

/-- `_filesync_send` (async), no flush needed: when `send_idx + (recv_message_size + len(data)) < _maxdata` the flush effect is not used, the record is written at `send_idx` and
    `send_idx` advances; `size` defaults to `len(data)`. -/
theorem C07_src_send_noflush_async (cls : String) (fs : List (String × Py.Val)) (cmd info eff0 : Py.Val) (w sz idx md : Nat) (buf data : Bytes) (size : Option Nat)
    (hw : Py.getItem Src.const_FILESYNC_ID_TO_WIRE cmd = .ok (.int w)) (hw32 : w < 4294967296)
    (h1 : alookupS "recv_message_size" fs = some (.int sz)) (h2 : alookupS "send_idx" fs = some (.int idx))
    (h3 : alookupS "_maxdata" fs = some (.int md)) (hb : alookupS "send_buffer" fs = some (.bytearray buf))
    (hadd : idx + (sz + data.length) < md) :
    Src.AdbDeviceAsync_filesync_send_fn cmd info (.obj cls fs) (.bytes data) (optV size) eff0
      = (if size.getD data.length < 4294967296 then .ok (.tuple [.none, .obj cls (sendUpdate fs idx buf (fsRecord w (size.getD data.length) data))]) else .error .structError)
    ∧ Src.AdbDeviceAsync_filesync_send_eff0_args cmd info (.obj cls fs) (.bytes data) (optV size)
      = (if size.getD data.length < 4294967296 then .ok (.tuple [.none, .obj cls (sendUpdate fs idx buf (fsRecord w (size.getD data.length) data))]) else .error .structError) := by
  simp only [Src.filesync_send_twin]
  exact C07_src_send_noflush_sync cls fs cmd info eff0 w sz idx md buf data size hw hw32 h1 h2 h3 hb hadd

/-- `_filesync_send` (async), buffer full: when `send_idx + (recv_message_size + len(data)) < _maxdata` is false, `_filesync_flush(adb_info, filesync_info)` is requested with
    the untouched arguments, and the record is then written into the FLUSHED object (the effect's result) at its `send_idx`. -/
theorem C07_src_send_flush_async (cls cls' : String) (fs fs' : List (String × Py.Val)) (cmd info : Py.Val) (w sz idx md idx' : Nat) (buf' data : Bytes) (size : Option Nat)
    (hw : Py.getItem Src.const_FILESYNC_ID_TO_WIRE cmd = .ok (.int w)) (hw32 : w < 4294967296)
    (h1 : alookupS "recv_message_size" fs = some (.int sz)) (h2 : alookupS "send_idx" fs = some (.int idx))
    (h3 : alookupS "_maxdata" fs = some (.int md))
    (h2' : alookupS "send_idx" fs' = some (.int idx')) (hb' : alookupS "send_buffer" fs' = some (.bytearray buf'))
    (hadd : ¬ idx + (sz + data.length) < md) :
    Src.AdbDeviceAsync_filesync_send_eff0_args cmd info (.obj cls fs) (.bytes data) (optV size)
      = .ok (.tuple [.str "request", .str "_filesync_flush", info, .obj cls fs])
    ∧ Src.AdbDeviceAsync_filesync_send_fn cmd info (.obj cls fs) (.bytes data) (optV size) (.obj cls' fs')
      = (if size.getD data.length < 4294967296 then .ok (.tuple [.none, .obj cls' (sendUpdate fs' idx' buf' (fsRecord w (size.getD data.length) data))]) else .error .structError) := by
  simp only [Src.filesync_send_twin]
  exact C07_src_send_flush_sync cls cls' fs fs' cmd info w sz idx md idx' buf' data size hw hw32 h1 h2 h3 h2' hb' hadd

theorem Py.isinstance_str_bytes (x : String) : Py.isinstance (.str x) "bytes" = .ok (.bool false) := rfl
theorem Py.encodeUtf8_str (x : String) : Py.encodeUtf8 (.str x) = .ok (.bytes x.toUTF8.toList) := rfl

/-- `_filesync_send` with a `str` argument (device paths): it is encoded as UTF-8 FIRST, so the default `size`, the flush decision and the record are those of the encoded bytes —
    a `str` behaves exactly like its UTF-8 bytes, for every object, size argument and flush result (both twins). -/
theorem C07_src_send_str (cmd info fi eff0 sizeV : Py.Val) (x : String) :
    Src.AdbDevice_filesync_send_fn cmd info fi (.str x) sizeV eff0 = Src.AdbDevice_filesync_send_fn cmd info fi (.bytes x.toUTF8.toList) sizeV eff0
    ∧ Src.AdbDeviceAsync_filesync_send_fn cmd info fi (.str x) sizeV eff0 = Src.AdbDeviceAsync_filesync_send_fn cmd info fi (.bytes x.toUTF8.toList) sizeV eff0
    ∧ Src.AdbDevice_filesync_send_eff0_args cmd info fi (.str x) sizeV = Src.AdbDevice_filesync_send_eff0_args cmd info fi (.bytes x.toUTF8.toList) sizeV
    ∧ Src.AdbDeviceAsync_filesync_send_eff0_args cmd info fi (.str x) sizeV = Src.AdbDeviceAsync_filesync_send_eff0_args cmd info fi (.bytes x.toUTF8.toList) sizeV := by
  have hfn : Src.AdbDevice_filesync_send_fn cmd info fi (.str x) sizeV eff0 = Src.AdbDevice_filesync_send_fn cmd info fi (.bytes x.toUTF8.toList) sizeV eff0 := by
    simp only [Src.AdbDevice_filesync_send_fn, Py.isinstance_str_bytes, Py.isinstance_bytes_bytes, Py.encodeUtf8_str, pysimp, Bool.not_false, Bool.not_true, if_true, if_false,
      ite_true, ite_false, Bool.false_eq_true]
  have heff : Src.AdbDevice_filesync_send_eff0_args cmd info fi (.str x) sizeV = Src.AdbDevice_filesync_send_eff0_args cmd info fi (.bytes x.toUTF8.toList) sizeV := by
    simp only [Src.AdbDevice_filesync_send_eff0_args, Py.isinstance_str_bytes, Py.isinstance_bytes_bytes, Py.encodeUtf8_str, pysimp, Bool.not_false, Bool.not_true, if_true,
      if_false, ite_true, ite_false, Bool.false_eq_true]
  simp only [Src.filesync_send_twin]
  exact ⟨hfn, hfn, heff, heff⟩

/-- The model side of the same step: when the record may be added and its size fits 32 bits, the model's `fsSend` appends exactly `fsRecord id.wire size data` to the live
    prefix and does nothing else — the statement `spliced_live_prefix` makes about the source's buffer. -/
theorem C07_model_fsSend_record (id : SyncId) (t : Txn) (fi : FsInfo) (data : Bytes) (size : Option Nat) (w : World)
    (hadd : fi.canAdd data.length = true) (hs : size.getD data.length < 4294967296) :
    fsSend id t fi data size w = (.ok { fi with sendBuf := fi.sendBuf ++ fsRecord id.wire (size.getD data.length) data }, w) := by
  have hs' : ¬ size.getD data.length ≥ 4294967296 := by omega
  simp [fsSend, hadd, hs', fsRecord, bind, pure, M.bind, M.pure]

/-! ### Non-vacuity -/
example : Src.AdbDevice_filesync_send_fn (.bytes (ascii "DONE")) .none
    (.obj "_FileSyncTransactionInfo" [("recv_message_size", .int 8), ("send_idx", .int 2), ("_maxdata", .int 64), ("send_buffer", .bytearray (List.replicate 64 0))])
    (.bytes []) (.int 1700000000) .none
    = .ok (.tuple [.none, .obj "_FileSyncTransactionInfo" (sendUpdate [("recv_message_size", .int 8), ("send_idx", .int 2), ("_maxdata", .int 64), ("send_buffer", .bytearray (List.replicate 64 0))]
        2 (List.replicate 64 0) (fsRecord SyncId.DONE.wire 1700000000 []))]) := by
  have h := (C07_src_send_noflush_sync "_FileSyncTransactionInfo" [("recv_message_size", .int 8), ("send_idx", .int 2), ("_maxdata", .int 64), ("send_buffer", .bytearray (List.replicate 64 0))]
    (.bytes (ascii "DONE")) .none .none SyncId.DONE.wire 8 2 64 (List.replicate 64 0) [] (some 1700000000) (src_fsIdToWire_get .DONE) (SyncId.wire_lt _) rfl rfl rfl rfl (by decide)).1
  simpa [optV] using h

end Adb
