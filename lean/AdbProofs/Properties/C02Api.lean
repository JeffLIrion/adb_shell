import AdbProofs.Lemmas.PeerFrameApi
/-
  C02 at the level of the public API: what the PEER RECEIVES during any public operation is a
  concatenation of whole well-formed messages (24-byte header, known command, complement magic,
  announced length = payload length, checksum = byte sum), and these messages are exactly the ones
  handed to `_send` (`transmitted` of the trace events of the call).  Only an operation that RAISED
  can leave a proper prefix of one more message with the peer.
  Coverage: every `ApiOp` — shell, exec_out, root, reboot, streaming_shell, list, stat, push
  (`C02_api_wellformed`), pull (`C02_pull_wellformed`: two phases because of its `finally: _clse`),
  connect (`C02_connect_wellformed`), close (`C02_close_wellformed`).
  Only property theorems and non-vacuity examples live here; the per-function infrastructure is in
  AdbProofs/Lemmas/PeerFrame.lean, PeerFrameOps.lean, PeerFrameApi.lean.
-/
namespace Adb
open PeerF

/-- Every public operation that talks over the established connection, except `pull`
    (shell, exec_out, root, reboot, streaming_shell, list, stat, push), in any world and with any
    outcome: the bytes it adds to what the peer has received on the open connection are the
    encodings of packable messages `ms`, one after the other, followed by `tail`.  Either `tail` is
    empty and `ms` are exactly the messages handed to `_send` during the call; or the operation RAISED,
    the messages handed to `_send` are `ms` plus one last message `m`, and `tail` is a PROPER prefix of
    the encoding of `m` (nothing at all if `m` was not packable).  No connection was closed. -/
theorem C02_api_wellformed (op : ApiOp) (hs : op.isStreamOp = true) (hp : op.isPull = false)
    (w : World) (r : Except Err Val) (w' : World) (h : op.run w = (r, w')) :
    ∃ evs ms tail, w'.trace = evs ++ w.trace ∧ (∀ m ∈ ms, m.Packable) ∧
      w'.peerGot = w.peerGot ++ (ms.map Msg.encode).flatten ++ tail ∧
      ((tail = [] ∧ transmitted evs = ms) ∨
       ((∃ e, r = .error e) ∧ ∃ (m : Msg) (k : Nat), transmitted evs = ms ++ [m] ∧ k < m.encode.length ∧
          (¬ m.Packable → k = 0) ∧ tail = m.encode.take k)) ∧
      w'.past = w.past := by
  obtain ⟨evs, ht, ho, hpast⟩ := (Pw_run op hs hp).peerGot h
  obtain ⟨ms, tail, hpk, hb, hc⟩ := ho.unpack
  exact ⟨evs, ms, tail, ht, hpk, hb, hc, hpast⟩

/-- `pull` runs `_clse` in a `finally` clause, so after a write that raised in the middle of a message
    (a one-shot transport timeout) a CLSE is still written.  Hence two phases — everything up to and
    including `_pull` (events `evs1`), then the `finally` clause (events `evs2`) — and EACH phase adds
    whole packable messages followed by a proper prefix of one more only if `pull` raised. -/
theorem C02_pull_wellformed (path : Bytes) (cb : CbMode) (tt rt : Timeout)
    (w : World) (r : Except Err Val) (w' : World) (h : (ApiOp.pull path cb tt rt).run w = (r, w')) :
    ∃ evs1 evs2 ms1 tail1 ms2 tail2, w'.trace = evs2 ++ evs1 ++ w.trace ∧
      (∀ m ∈ ms1, m.Packable) ∧ (∀ m ∈ ms2, m.Packable) ∧
      w'.peerGot = w.peerGot ++ (ms1.map Msg.encode).flatten ++ tail1 ++ (ms2.map Msg.encode).flatten ++ tail2 ∧
      ((tail1 = [] ∧ transmitted evs1 = ms1) ∨
       ((∃ e, r = .error e) ∧ ∃ (m : Msg) (k : Nat), transmitted evs1 = ms1 ++ [m] ∧ k < m.encode.length ∧
          (¬ m.Packable → k = 0) ∧ tail1 = m.encode.take k)) ∧
      ((tail2 = [] ∧ transmitted evs2 = ms2) ∨
       ((∃ e, r = .error e) ∧ ∃ (m : Msg) (k : Nat), transmitted evs2 = ms2 ++ [m] ∧ k < m.encode.length ∧
          (¬ m.Packable → k = 0) ∧ tail2 = m.encode.take k)) ∧
      w'.past = w.past := by
  obtain ⟨e1, e2, mid, ht, ho1, ho2, hpast⟩ := (Pw2_run (.pull path cb tt rt) rfl).peerGot h
  obtain ⟨ms1, tail1, hpk1, hb1, hc1⟩ := ho1.unpack
  obtain ⟨ms2, tail2, hpk2, hb2, hc2⟩ := ho2.unpack
  exact ⟨e1, e2, ms1, tail1, ms2, tail2, ht, hpk1, hpk2, by rw [hb2, hb1]; rfl, hc1, hc2, hpast⟩

/-- The messages on the wire are the transmitted messages: when ANY operation on the established
    connection (`pull` included) returns normally, every message handed to `_send` during the call
    (`transmitted` of the added trace events, the notion C04/C05/C07 speak about) is packable and the
    peer received exactly their encodings, in order, nothing else and nothing partial. -/
theorem C02_messages_are_transmitted (op : ApiOp) (hs : op.isStreamOp = true)
    (w : World) (v : Val) (w' : World) (h : op.run w = (.ok v, w')) :
    ∃ evs, w'.trace = evs ++ w.trace ∧ (∀ m ∈ transmitted evs, m.Packable) ∧
      w'.peerGot = w.peerGot ++ ((transmitted evs).map Msg.encode).flatten := by
  obtain ⟨e1, e2, mid, ht, ho1, ho2, -⟩ := (Pw2_run op hs).peerGot h
  have ho := Out.trans (ho1.mono (not_failed_ok v)) (ho2.mono (not_failed_ok v))
  obtain ⟨hp, hb⟩ := ho.of_ok
  refine ⟨e2 ++ e1, by rw [ht, List.append_assoc], ?_, ?_⟩ <;> rw [transmitted_append]
  · exact hp
  · exact hb

/-- The strict parser that the harness runs on the bytes the implementation wrote accepts the model's
    output: if the peer held whole packable messages `ms₀` before an operation that returns normally,
    then parsing what it holds afterwards gives `ms₀` followed by exactly the messages transmitted
    during the call, with no byte left over. -/
theorem C02_api_parses (op : ApiOp) (hs : op.isStreamOp = true)
    (w : World) (v : Val) (w' : World) (h : op.run w = (.ok v, w'))
    (ms₀ : List Msg) (h₀ : ∀ m ∈ ms₀, m.Packable) (hw : w.peerGot = (ms₀.map Msg.encode).flatten) :
    ∃ evs, w'.trace = evs ++ w.trace ∧
      parseStrict w'.peerGot
        = ((ms₀ ++ transmitted evs).map (fun m => (⟨m.cmd, m.arg0, m.arg1, m.data⟩ : Pkt)), []) := by
  obtain ⟨evs, ht, hp, hb⟩ := C02_messages_are_transmitted op hs w v w' h
  refine ⟨evs, ht, ?_⟩
  have : w'.peerGot = flat (ms₀ ++ transmitted evs) := by rw [hb, hw, flat_append]; rfl
  rw [this]
  exact parseStrict_flat _ (List.forall_mem_append.2 ⟨h₀, hp⟩)

/-- `connect()`, in a world whose scripted future connections are fresh (their peers have received
    nothing): over ALL connections (`peerAll`: the closed ones, oldest first, then the open one) the
    peer's bytes grow by whole packable messages — the CNXN/AUTH messages handed to `_send` — plus a
    proper prefix of one more only if `connect` raised; the bytes of the connection that `connect`
    closed first are kept, not rewritten.  When `connect` returns normally the NEW connection is
    open and its peer holds exactly these messages, which the strict parser returns. -/
theorem C02_connect_wellformed (keys : List Nat) (tt authT rt : Timeout) (hasCb : Bool)
    (w : World) (hfresh : w.FreshConns) (r : Except Err Val) (w' : World)
    (h : (ApiOp.connect keys tt authT rt hasCb).run w = (r, w')) :
    ∃ evs ms tail, w'.trace = evs ++ w.trace ∧ (∀ m ∈ ms, m.Packable) ∧
      w'.peerAll = w.peerAll ++ (ms.map Msg.encode).flatten ++ tail ∧
      ((tail = [] ∧ transmitted evs = ms) ∨
       ((∃ e, r = .error e) ∧ ∃ (m : Msg) (k : Nat), transmitted evs = ms ++ [m] ∧ k < m.encode.length ∧
          (¬ m.Packable → k = 0) ∧ tail = m.encode.take k)) ∧
      (∀ v, r = .ok v → w'.peerGot = (ms.map Msg.encode).flatten ∧
        parseStrict w'.peerGot = (ms.map (fun m => (⟨m.cmd, m.arg0, m.arg1, m.data⟩ : Pkt)), [])) := by
  obtain ⟨evs, ht, ho, hok⟩ := (devConnect_peer keys tt authT rt hasCb w r w' h).fresh hfresh
  obtain ⟨ms, tail, hpk, hb, hc⟩ := ho.unpack
  refine ⟨evs, ms, tail, ht, hpk, hb, hc, ?_⟩
  intro v hv
  have hT : transmitted evs = ms := by
    rcases hc with ⟨_, hT⟩ | ⟨⟨e, he⟩, _⟩
    · exact hT
    · rw [hv] at he; cases he
  have hg : w'.peerGot = flat ms := by rw [hok v hv, hT]
  exact ⟨hg, by rw [hg]; exact parseStrict_flat ms hpk⟩

/-- `close()` writes nothing: no message is handed to `_send` and the bytes the peer has received
    over all connections are unchanged (those of the open connection move to the closed ones). -/
theorem C02_close_wellformed (w : World) (r : Except Err Val) (w' : World) (h : ApiOp.close.run w = (r, w')) :
    ∃ evs, w'.trace = evs ++ w.trace ∧ transmitted evs = [] ∧ w'.peerAll = w.peerAll :=
  devClose_peer w r w' h

/-- Summary over EVERY public operation (connect, close, shell, exec_out, root, reboot, streaming_shell,
    list, stat, pull, push), any world with fresh future connections, any outcome: what the peer has
    received over all connections grows by `bs1 ++ bs2`, each a well-formed stream (whole packable
    messages, optionally followed by a proper prefix of one more — `WellFormedStream`); `bs2` (the
    `finally` clause) is empty for every operation but `pull`; and when the operation returns normally
    `bs1 ++ bs2` is whole packable messages only. -/
theorem C02_every_op_wellformed (op : ApiOp) (w : World) (hfresh : w.FreshConns)
    (r : Except Err Val) (w' : World) (h : op.run w = (r, w')) :
    ∃ bs1 bs2, w'.peerAll = w.peerAll ++ bs1 ++ bs2 ∧ WellFormedStream bs1 ∧ WellFormedStream bs2 ∧
      (op.isPull = false → bs2 = []) ∧
      (∀ v, r = .ok v → ∃ ms : List Msg, (∀ m ∈ ms, m.Packable) ∧ bs1 ++ bs2 = (ms.map Msg.encode).flatten) := by
  by_cases hs : op.isStreamOp = true
  · by_cases hp : op.isPull = true
    · obtain ⟨e1, e2, mid, -, ho1, ho2, -⟩ := Pw2_run op hs w r w' h
      obtain ⟨b1, hb1, hw1, hk1⟩ := ho1.stream
      obtain ⟨b2, hb2, hw2, hk2⟩ := ho2.stream
      refine ⟨b1, b2, by rw [hb2, hb1], hw1, hw2, (fun hn => by rw [hn] at hp; cases hp), ?_⟩
      intro v hv
      have hnf : ¬ Failed r := by rw [hv]; exact not_failed_ok v
      obtain ⟨h1, p1⟩ := hk1 hnf
      obtain ⟨h2, p2⟩ := hk2 hnf
      exact ⟨transmitted e1 ++ transmitted e2, List.forall_mem_append.2 ⟨p1, p2⟩, by rw [h1, h2]; simp [flat]⟩
    · obtain ⟨evs, -, ho, -⟩ := Pw_run op hs (by simpa using hp) w r w' h
      obtain ⟨b1, b2, hb, hw1, hw2, h2, hok⟩ := ho.summary
      exact ⟨b1, b2, hb, hw1, hw2, fun _ => h2, hok⟩
  · cases op with
    | connect keys tt authT rt hasCb =>
      obtain ⟨evs, -, ho, -⟩ := (devConnect_peer keys tt authT rt hasCb w r w' h).fresh hfresh
      obtain ⟨b1, b2, hb, hw1, hw2, h2, hok⟩ := ho.summary
      exact ⟨b1, b2, hb, hw1, hw2, fun _ => h2, hok⟩
    | close =>
      obtain ⟨evs, -, -, hpa⟩ := C02_close_wellformed w r w' h
      exact ⟨[], [], by simp [hpa], WellFormedStream.nil, WellFormedStream.nil, fun _ => rfl,
        fun _ _ => ⟨[], by simp, rfl⟩⟩
    | _ => exact (hs rfl).elim

/-! ### Non-vacuity (evaluated by the kernel) -/

/-- the shell example of C01 (`demoShellWorld`: connected, idle, the peer answers OPEN with OKAY, two
    WRTEs of this stream, CLSE): the call returns normally, the peer had nothing, and the strict parser
    splits what the peer received into OPEN, OKAY, OKAY, CLSE with nothing left — the hypotheses of
    `C02_api_parses` hold with `ms₀ = []` and its conclusion is this list. -/
example :
    let run := (ApiOp.shell [108, 115] none (some 10240) none false).run demoShellWorld
    run.1.toOption = some (.bytes [0xE2, 0x82, 0xAC, 0x21]) ∧ demoShellWorld.peerGot = [] ∧
    parseStrict run.2.peerGot =
      ([⟨.OPEN, 1, 0, ascii "shell:ls" ++ [0]⟩, ⟨.OKAY, 1, 77, []⟩, ⟨.OKAY, 1, 77, []⟩, ⟨.CLSE, 1, 77, []⟩], []) ∧
    transmitted run.2.trace =
      [⟨.OPEN, 1, 0, ascii "shell:ls" ++ [0]⟩, ⟨.OKAY, 1, 77, []⟩, ⟨.OKAY, 1, 77, []⟩, ⟨.CLSE, 1, 77, []⟩] := by
  decide +kernel

/-- the failure side of `C02_api_wellformed`: the same world with a connection reset after 30 bytes
    written; `shell` raises and the peer holds the first 30 bytes of the 33-byte OPEN, no more. -/
example :
    let w : World := { demoShellWorld with
      cur := demoShellWorld.cur.map fun c => { c with faults := [⟨false, 30, .reset⟩] } }
    let run := (ApiOp.shell [108, 115] none (some 10240) none false).run w
    (match run.1 with | .error e => some e | .ok _ => none) = some Err.transportError ∧
    run.2.peerGot = (⟨.OPEN, 1, 0, ascii "shell:ls" ++ [0]⟩ : Msg).encode.take 30 ∧
    transmitted run.2.trace = [⟨.OPEN, 1, 0, ascii "shell:ls" ++ [0]⟩] := by
  decide +kernel

/-- why `pull` needs two phases: the peer answers the OPEN; the write of the WRTE carrying the RECV request
    meets a one-shot transport timeout after 31 of its 34 bytes; `pull` raises, but its `finally` clause
    still writes a whole CLSE behind the truncated WRTE. -/
example :
    let w : World :=
      { cur := some { segs := [⟨0, (⟨.OKAY, 77, 1, []⟩ : Pkt).encode⟩, ⟨0, (⟨.CLSE, 77, 1, []⟩ : Pkt).encode⟩],
                      faults := [⟨false, 61, .timeout⟩] }, available := true }
    let run := (ApiOp.pull (ascii "/x") .none (some 10240) (some 10240)).run w
    (match run.1 with | .error e => some e | .ok _ => none) = some Err.transportTimeout ∧
    run.2.peerGot = (⟨.OPEN, 1, 0, ascii "sync:" ++ [0]⟩ : Msg).encode
      ++ (⟨.WRTE, 1, 77, ascii "RECV" ++ [2, 0, 0, 0] ++ ascii "/x"⟩ : Msg).encode.take 31
      ++ (⟨.CLSE, 1, 77, []⟩ : Msg).encode := by
  decide +kernel

/-- `connect()` on a fresh scripted connection whose device answers CNXN: the hypotheses of
    `C02_connect_wellformed` hold, the call returns normally and the new peer holds one CNXN message. -/
example :
    let w : World := { conns := [{ segs := [⟨0, (⟨.CNXN, 16777216, 4096, ascii "device::"⟩ : Pkt).encode⟩] }] }
    let run := (ApiOp.connect [] (some 10240) (some 10240) (some 10240) false).run w
    w.FreshConns ∧ run.1.toOption = some (.bool true) ∧
    parseStrict run.2.peerGot = ([⟨.CNXN, 16777216, 1048576, ascii "host::" ++ [0]⟩], []) := by
  refine ⟨?_, by decide +kernel⟩
  intro c hc
  simp only [List.mem_singleton] at hc
  subst hc
  rfl

/-- `connect()` that fails authentication (AUTH request, no keys): it raises after closing the
    transport; the CNXN it wrote is kept among the closed connections' bytes. -/
example :
    let w : World := { conns := [{ segs := [⟨0, (⟨.AUTH, 1, 0, [1, 2, 3]⟩ : Pkt).encode⟩] }] }
    let run := (ApiOp.connect [] (some 10240) (some 10240) (some 10240) false).run w
    (match run.1 with | .error e => some e | .ok _ => none) = some Err.deviceAuth ∧ run.2.peerGot = [] ∧
    parseStrict run.2.peerAll = ([⟨.CNXN, 16777216, 1048576, ascii "host::" ++ [0]⟩], []) := by
  decide +kernel

end Adb
