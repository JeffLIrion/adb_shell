import AdbProofs.Lemmas.SrcMsg
/-
  C02 (source tie) — the GENERATED Lean translation of adb_shell's adb_message.py (`Adb.Src.checksum`, `Src.unpack`,
  `Src.AdbMessage_init`, `Src.AdbMessage_pack`, `Src.AdbMessage_checksum`; `AdbModel/Generated/Src.lean`, produced from
  the current Python source by harness/pytrans.py over the Python-subset semantics `AdbModel/Py.lean`) computes, for ALL
  inputs, exactly what the hand-written model `AdbModel/Message.lean` says (`checksum`, `unpack`, `Msg`, `magicOf`,
  `Msg.packHdr`, `Msg.pack?`, with `Cmd.wire`).
  Only property theorems and non-vacuity examples live here; encoders (`Cmd.idBytes`, `encMsg`, `encHdr`) and helper
  lemmas are in AdbProofs/Lemmas/SrcMsg.lean.
-/
namespace Adb
open Py

/-- The source's `checksum(data)` on a `bytes` object and on a `bytearray` returns the model's `checksum`
    (`sum(data) & 0xFFFFFFFF` = byte sum mod 2^32), for every content — including the empty one, where the source's
    `data and isinstance(data[0], bytes)` test short-circuits. -/
theorem C02_src_checksum_bytes (d : Bytes) :
    Src.checksum (.bytes d) = .ok (.int (checksum d))
      ∧ Src.checksum (.bytearray d) = .ok (.int (checksum d)) :=
  ⟨src_checksum_bytes d, src_checksum_bytearray d⟩

/-- The source's `AdbMessage.__init__(self, command, arg0, arg1, data)` on a fresh object, called with the id bytes of
    a known command (`b'AUTH'`, …) and non-negative ints, returns `None` and leaves exactly the object the model
    describes: `command` = the model's `Cmd.wire`, `magic` = `magicOf` of it (`command ^ 0xFFFFFFFF`), `arg0`, `arg1`,
    `data` stored unchanged, attributes in that order. -/
theorem C02_src_msg_init (cls : String) (c : Cmd) (a0 a1 : Nat) (d : Bytes) :
    Src.AdbMessage_init (.obj cls []) (.bytes c.idBytes) (.int a0) (.int a1) (.bytes d)
      = .ok (.none, encMsg cls ⟨c, a0, a1, d⟩) :=
  src_msg_init cls c a0 a1 (.bytes d)

/-- With a bytes id that is none of the seven ids of `constants.IDS`, the source's `AdbMessage.__init__` raises
    `KeyError` (from `constants.ID_TO_WIRE[command]`) whatever the receiver and the other arguments are: the model's
    `Msg` having a `Cmd` (not arbitrary bytes) as its command loses nothing. -/
theorem C02_src_msg_init_unknown_id (self : Py.Val) (b : Bytes) (a0 a1 d : Py.Val) (h : ∀ c : Cmd, b ≠ c.idBytes) :
    Src.AdbMessage_init self (.bytes b) a0 a1 d = .error .keyError := by
  simp only [Src.AdbMessage_init, src_idToWire_get_bad b h, Py.bind_err']

/-- The source's `AdbMessage.checksum` property on a constructed message is the model's `checksum` of its payload. -/
theorem C02_src_msg_checksum (cls : String) (m : Msg) :
    Src.AdbMessage_checksum (encMsg cls m) = .ok (.int (checksum m.data)) :=
  src_msg_checksum_of_attr _ _ (encMsg_attrs cls m).2.2.2.2

/-- The source's `AdbMessage.pack()` on a constructed message returns exactly the model's 24-byte header
    (`Msg.packHdr`) when the message is `Packable` (arg0, arg1, payload length < 2^32), and raises `struct.error`
    otherwise — i.e. it is the model's `Msg.pack?`. -/
theorem C02_src_pack (cls : String) (m : Msg) :
    Src.AdbMessage_pack (encMsg cls m)
      = (match m.pack? with | some h => .ok (.bytes h) | none => .error .structError) := by
  obtain ⟨e1, e2, e3, e4, e5⟩ := encMsg_attrs cls m
  rw [src_pack_of_attrs _ _ _ _ _ _ e1 e2 e3 e4 e5 (Cmd.wire_lt m.cmd) (magicOf_wire_lt m.cmd)]
  by_cases h : m.Packable
  · have h' := h; unfold Msg.Packable at h'
    simp only [Msg.pack?, if_pos h, if_pos h', Msg.packHdr]
  · have h' := h; unfold Msg.Packable at h'
    simp only [Msg.pack?, if_neg h, if_neg h']

/-- The source's `unpack(message)` on a `bytes` object and on a `bytearray` returns the 5-tuple
    `(cmd, arg0, arg1, data_length, data_checksum)` of the model's `unpack` when the buffer is exactly 24 bytes, and
    raises `ValueError` (the converted `struct.error`) in every other case — exactly where the model returns `none`. -/
theorem C02_src_unpack (bs : Bytes) :
    Src.unpack (.bytes bs)
        = (match unpack bs with
           | some h => .ok (.tuple [.int h.cmd, .int h.arg0, .int h.arg1, .int h.len, .int h.sum])
           | none => .error .valueError)
      ∧ Src.unpack (.bytearray bs)
        = (match unpack bs with
           | some h => .ok (.tuple [.int h.cmd, .int h.arg0, .int h.arg1, .int h.len, .int h.sum])
           | none => .error .valueError) :=
  ⟨src_unpack_of_bytesOf (.bytes bs) bs rfl, src_unpack_of_bytesOf (.bytearray bs) bs rfl⟩

/-! ### non-vacuity -/

/-- the hypothesis of `C02_src_msg_init_unknown_id` is satisfiable: `b'FAIL'` (a FileSync id) and `b''` are not ADB ids -/
example : (∀ c : Cmd, ([70, 65, 73, 76] : Bytes) ≠ c.idBytes) ∧ (∀ c : Cmd, ([] : Bytes) ≠ c.idBytes) := by
  constructor <;> intro c <;> cases c <;> decide

/-- … and it really excludes the seven ids: `b'OKAY'` is `Cmd.OKAY.idBytes` -/
example : ([79, 75, 65, 89] : Bytes) = Cmd.OKAY.idBytes := by decide

/-- both branches of `C02_src_pack` occur: a packable message and one whose arg0 is 2^32 -/
example : (⟨.OPEN, 1, 0, [1, 2, 3]⟩ : Msg).pack?
      = some [79, 80, 69, 78, 1, 0, 0, 0, 0, 0, 0, 0, 3, 0, 0, 0, 6, 0, 0, 0, 176, 175, 186, 177]
    ∧ (⟨.OPEN, 4294967296, 0, []⟩ : Msg).pack? = none := by decide

/-- the generated `pack` on that concrete message, through the theorem -/
example : Src.AdbMessage_pack (encMsg "AdbMessage" ⟨.OPEN, 1, 0, [1, 2, 3]⟩)
    = .ok (.bytes [79, 80, 69, 78, 1, 0, 0, 0, 0, 0, 0, 0, 3, 0, 0, 0, 6, 0, 0, 0, 176, 175, 186, 177]) := by
  rw [C02_src_pack, show (⟨.OPEN, 1, 0, [1, 2, 3]⟩ : Msg).pack?
    = some [79, 80, 69, 78, 1, 0, 0, 0, 0, 0, 0, 0, 3, 0, 0, 0, 6, 0, 0, 0, 176, 175, 186, 177] by decide]

/-- both branches of `C02_src_unpack` occur: a 24-byte header and a short buffer -/
example : unpack [79, 80, 69, 78, 1, 0, 0, 0, 0, 0, 0, 0, 3, 0, 0, 0, 6, 0, 0, 0, 176, 175, 186, 177]
      = some ⟨1313165391, 1, 0, 3, 6⟩
    ∧ unpack [1, 2, 3] = none := by decide

/-- the generated `unpack` on the short buffer, through the theorem: `ValueError` -/
example : Src.unpack (.bytes [1, 2, 3]) = .error .valueError := by
  rw [(C02_src_unpack _).1, show unpack [1, 2, 3] = none by decide]

/-- the generated `checksum` on a concrete value, through the theorem -/
example : Src.checksum (.bytes [255, 255, 1]) = .ok (.int 511) := by
  rw [(C02_src_checksum_bytes _).1, show checksum [255, 255, 1] = 511 by decide]; rfl

end Adb
