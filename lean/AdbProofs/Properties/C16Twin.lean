import AdbModel
/-
  C16 (structure of the twins, from the source) — `Generated.twinIdentical` is computed by harness/gen.py on every run: the methods of
  adb_device.py / adb_device_async.py whose bodies are IDENTICAL once `async`/`await`/`Async` are erased from the async module.
  The theorem pins the set of core methods that must be in it: the whole I/O manager (read, send, connect, close, the byte/packet readers, the
  write loop) and the stream / FileSync helpers of the device class. "A correction made to one implementation but not the other is a violation"
  (the property's own words) therefore breaks this proof obligation at once for these methods; the public operations, which legitimately differ
  (generators vs async generators, aiofiles, class names in messages), are compared by the correspondence of both twins instead.
  Only property theorems live here.
-/
namespace Adb

/-- the methods that are line-for-line the same in both twins (after await-erasure) on the tree the model was written against -/
def twinCore : List String :=
  ["_AdbIOManager.__init__", "_AdbIOManager.close", "_AdbIOManager.connect", "_AdbIOManager.read", "_AdbIOManager.send",
   "_AdbIOManager._read_bytes_from_device", "_AdbIOManager._read_expected_packet_from_device", "_AdbIOManager._read_packet_from_device",
   "_AdbIOManager._send", "_AdbIOManager._write_all",
   "AdbDevice._open", "AdbDevice._okay", "AdbDevice._clse", "AdbDevice._read_until", "AdbDevice._read_until_close",
   "AdbDevice._filesync_flush", "AdbDevice._filesync_read_buffered", "AdbDevice._filesync_read_until", "AdbDevice._filesync_send",
   "AdbDevice._pull", "AdbDevice._get_transport_timeout_s", "AdbDevice.available", "AdbDevice.close", "AdbDevice.max_chunk_size"]

/-- Every core method is, in the CURRENT source, identical in `AdbDevice`/`_AdbIOManager` and `AdbDeviceAsync`/`_AdbIOManagerAsync` up to
    `async`/`await`. -/
theorem C16_twin_core_identical : ∀ m ∈ twinCore, m ∈ Generated.twinIdentical := by decide +kernel

/-- The only methods present in one twin and not the other are the USB constructor (there is no async USB transport) and the `_AsyncBytesIO`
    wrapper methods of the async module. -/
theorem C16_twin_only_one :
    Generated.twinOnlyOne = ["AdbDeviceUsb.__init__", "_BytesIO.__init__", "_BytesIO.read", "_BytesIO.size", "_BytesIO.write"] := rfl

end Adb
