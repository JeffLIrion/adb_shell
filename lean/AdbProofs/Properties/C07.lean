import AdbProofs.Lemmas.PushExamples
/-
  C07 — push.  For any local file, BytesIO or directory and any negotiated maxdata, the sync stream
  produced by push decodes to SEND('<device_path>,<mode>'), DATA chunks whose concatenation is the
  source content, DONE(mtime, or the current time when 0), once per file; files inside a pushed
  directory go to '<device_path>/<name>'; no DATA chunk exceeds 64 KiB, no WRTE payload exceeds
  maxdata; push returns normally only after the device's sync OKAY; the progress callback sees byte
  counts summing to the file size and neither its presence nor its failure changes what is sent.

  Conventions: the trace is stored most recent first; `evs` is the list of events a call added
  (`w'.trace = evs ++ w.trace`); `transmitted evs` are the messages handed to `_send`, oldest first;
  `wrtePayloads l r evs` the payloads of the WRTE messages of stream `(l, r)`;
  `syncRec id size data = pack('<2I', id, size) + data`; `chunksOf k content` the successive
  non-empty `read(k)` results.
-/
namespace Adb
open Adb.Push

/-- The chunk constant taken from `constants.py` is positive and at most 64 KiB, and the legacy
    fallback is positive (the build breaks if the constants change beyond that). -/
theorem C07_chunk_const :
    Generated.MAX_CHUNK_SIZE ≤ 65536 ∧ 0 < Generated.MAX_CHUNK_SIZE ∧ 0 < Generated.MAX_PUSH_DATA := by decide

/-- `max_chunk_size` is never 0, never above 64 KiB, and at most half of maxdata whenever maxdata ≥ 2. -/
theorem C07_max_chunk (maxdata : Nat) :
    0 < maxChunkSize maxdata ∧ maxChunkSize maxdata ≤ 65536 ∧ (2 ≤ maxdata → maxChunkSize maxdata ≤ maxdata / 2) :=
  maxChunkSize_spec maxdata

/-- `_read_until` hands nothing to `_send` except (at most) OKAY messages — in particular never a
    WRTE — and never calls the progress callback, whatever its outcome. -/
theorem C07_readUntil_only_okay (ex : List Cmd) (t : Txn) (w : World) (evs : List TEv)
    (hev : (readUntil ex t w).2.trace = evs ++ w.trace) :
    (∀ m ∈ transmitted evs, m.cmd = Cmd.OKAY) ∧ progressCalls evs = [] := by
  obtain ⟨e, he, hq⟩ := (Tr_readUntil QOkay.house QOkay.deliv QOkay.txOkay ex t).trace w
  have : evs = e := evs_unique (he ▸ hev)
  subst this
  exact ⟨QOkay.transmitted hq, QOkay.progressCalls hq⟩

/-- `_AdbIOManager.read` hands nothing at all to `_send`, whatever its outcome. -/
theorem C07_read_transmits_nothing (ex : List Cmd) (t : Txn) (az : Bool) (w : World) (evs : List TEv)
    (hev : (ioRead ex t az w).2.trace = evs ++ w.trace) : transmitted evs = [] :=
  ioRead_noTx ex t az w hev

/-- The buffering law of `_filesync_send`: what went out in WRTEs on this stream during the call,
    followed by what is buffered afterwards, is what was buffered before followed by the new record.
    Buffering loses, duplicates and reorders nothing. -/
theorem C07_flush_conservation (id : SyncId) (t : Txn) (fi fi' : FsInfo) (data : Bytes) (size : Option Nat)
    (w w' : World) (evs : List TEv)
    (h : fsSend id t fi data size w = (.ok fi', w')) (hev : w'.trace = evs ++ w.trace) :
    (wrtePayloads (t.localId.getD 0) (t.remoteId.getD 0) evs).flatten ++ fi'.sendBuf
      = fi.sendBuf ++ syncRec id (size.getD data.length) data :=
  fsSend_conservation h hev

/-- `_filesync_flush`: exactly one WRTE of this stream goes out and it carries the whole buffer; the
    buffer is empty afterwards; the receive buffer grows by exactly the payloads of the device's
    WRTE packets that arrived before the OKAY, in order; the callback is not called. -/
theorem C07_flush_conservation_flush (t : Txn) (fi fi' : FsInfo) (w w' : World) (evs : List TEv)
    (h : fsFlush t fi w = (.ok fi', w')) (hev : w'.trace = evs ++ w.trace) :
    wrtePayloads (t.localId.getD 0) (t.remoteId.getD 0) evs = [fi.sendBuf] ∧ fi'.sendBuf = [] ∧
    fi'.recvBuf = fi.recvBuf ++ deliveredWrteData evs ∧ progressCalls evs = [] ∧
    fi'.fmt = fi.fmt ∧ fi'.maxdata = fi.maxdata := by
  obtain ⟨-, hp, hpc, hsb, hf, hm⟩ := fsFlush_ok h hev
  exact ⟨hp, hsb, fsFlush_recv h hev, hpc, hf, hm⟩

/-- If the record fits an empty buffer (`fmt.size + len(data) < maxdata`) and the buffer is below
    maxdata, every WRTE sent by `_filesync_send` is non-empty and shorter than maxdata, and the
    buffer stays non-empty and below maxdata. -/
theorem C07_wrte_bound (id : SyncId) (t : Txn) (fi fi' : FsInfo) (data : Bytes) (size : Option Nat)
    (w w' : World) (evs : List TEv)
    (h : fsSend id t fi data size w = (.ok fi', w')) (hev : w'.trace = evs ++ w.trace)
    (hfit : fi.fmt.size + data.length < fi.maxdata)
    (hinv : 0 < fi.sendBuf.length → fi.sendBuf.length < fi.maxdata) :
    (∀ p ∈ wrtePayloads (t.localId.getD 0) (t.remoteId.getD 0) evs, 0 < p.length ∧ p.length < fi.maxdata) ∧
    0 < fi'.sendBuf.length ∧ fi'.sendBuf.length < fi.maxdata :=
  fsSend_bound h hev hfit hinv

/-- For a whole `_push`: if the SEND record and a full DATA record fit an empty buffer, no WRTE
    payload of the stream is empty or reaches maxdata.  (`17 ≤ maxdata` suffices for the DATA
    records of a push stream: `C07_chunk_fits`.) -/
theorem C07_wrte_bound_push (content devPath : Bytes) (mode mtime : Nat) (cb : CbMode) (t : Txn) (fi₀ : FsInfo)
    (w w' : World) (evs : List TEv)
    (h : pushOne content devPath mode mtime cb t fi₀ w = (.ok (), w')) (hev : w'.trace = evs ++ w.trace)
    (hbuf : fi₀.sendBuf = []) (hmd : fi₀.maxdata = w.maxdata)
    (hsend : fi₀.fmt.size + (devPath ++ [44] ++ decimal mode).length < w.maxdata)
    (hdata : fi₀.fmt.size + maxChunkSize w.maxdata < w.maxdata) :
    ∀ p ∈ wrtePayloads (t.localId.getD 0) (t.remoteId.getD 0) evs, 0 < p.length ∧ p.length < w.maxdata := by
  rw [← hmd] at hsend ⊢
  exact pushOne_bound h hev (by simp [hbuf]) hsend (by rw [hmd]; exact hdata)

/-- a DATA record of the push format fits an empty buffer as soon as maxdata ≥ 17 -/
theorem C07_chunk_fits (maxdata : Nat) (h : 17 ≤ maxdata) :
    SyncFmt.push.size + maxChunkSize maxdata < maxdata := maxChunk_fits h

/-- The data loop of `_push`: the WRTE payloads sent during the loop followed by the final buffer are
    the initial buffer followed by one DATA record per chunk; the chunks concatenate to the source
    content; every chunk is non-empty and at most `chunk` bytes. -/
theorem C07_data_exact (devPath : Bytes) (cb : CbMode) (total chunk : Nat) (t : Txn) (fuel : Nat) (content : Bytes)
    (fi fi' : FsInfo) (w w' : World) (evs : List TEv) (hchunk : 0 < chunk)
    (h : pushDataLoop devPath cb total chunk t fuel content fi w = (.ok fi', w')) (hev : w'.trace = evs ++ w.trace) :
    (wrtePayloads (t.localId.getD 0) (t.remoteId.getD 0) evs).flatten ++ fi'.sendBuf
        = fi.sendBuf ++ ((chunksOf chunk content).map fun c => syncRec .DATA c.length c).flatten ∧
    (chunksOf chunk content).flatten = content ∧
    (∀ c ∈ chunksOf chunk content, 0 < c.length ∧ c.length ≤ chunk) :=
  ⟨(pushDataLoop_ok h hev).1, chunksOf_flatten chunk hchunk content, chunksOf_bound chunk content⟩

/-- The progress callback, when present, is called once per chunk with `(device_path, len(chunk),
    total)`, in order; the byte counts sum to the content length; without a callback nothing is recorded. -/
theorem C07_progress_sum (devPath : Bytes) (cb : CbMode) (total chunk : Nat) (t : Txn) (fuel : Nat) (content : Bytes)
    (fi fi' : FsInfo) (w w' : World) (evs : List TEv) (hchunk : 0 < chunk)
    (h : pushDataLoop devPath cb total chunk t fuel content fi w = (.ok fi', w')) (hev : w'.trace = evs ++ w.trace) :
    (cb ≠ CbMode.none → progressCalls evs = (chunksOf chunk content).map fun c => (devPath, c.length, total)) ∧
    (cb ≠ CbMode.none → ((progressCalls evs).map fun c => c.2.1).sum = content.length) ∧
    (cb = CbMode.none → progressCalls evs = []) := by
  have hp := (pushDataLoop_ok h hev).2.1
  refine ⟨fun hne => by rw [hp, if_neg hne], fun hne => ?_, fun he => by rw [hp, if_pos he]⟩
  rw [hp, if_neg hne, List.map_map]
  exact chunksOf_lengths_sum chunk hchunk content

/-- The callback never fails and touches nothing but the trace: a raising callback is swallowed. -/
theorem C07_callback_never_fails (cb : CbMode) (p : Bytes) (n tot : Nat) (w : World) :
    callProgress cb p n tot w =
      (.ok (), { w with trace := (if cb = CbMode.none then [] else [TEv.cbProgress p n tot]) ++ w.trace }) :=
  callProgress_run cb p n tot w

/-- Callback irrelevance for the data loop: with any two callback modes (absent, counting, raising)
    the loop has the same outcome, transmits the same messages, and ends in worlds that are equal
    except for the trace (so the peer received the same bytes, the store and the clock agree); the
    traces agree once progress records are removed. -/
theorem C07_callback_irrelevant (devPath : Bytes) (cb₁ cb₂ : CbMode) (total chunk : Nat) (t : Txn) (fuel : Nat)
    (content : Bytes) (fi : FsInfo) (w : World) :
    ∃ evs₁ evs₂ r w₁' w₂',
      pushDataLoop devPath cb₁ total chunk t fuel content fi w = (r, w₁') ∧
      pushDataLoop devPath cb₂ total chunk t fuel content fi w = (r, w₂') ∧
      w₁'.trace = evs₁ ++ w.trace ∧ w₂'.trace = evs₂ ++ w.trace ∧
      transmitted evs₁ = transmitted evs₂ ∧ evs₁.filter notProg = evs₂.filter notProg ∧
      w₂' = { w₁' with trace := w₂'.trace } ∧
      w₁'.cur = w₂'.cur ∧ w₁'.store = w₂'.store ∧ w₁'.now = w₂'.now :=
  (Rel_pushDataLoop devPath cb₁ cb₂ total chunk t fuel content fi).outcomes w

/-- Callback irrelevance for a whole `_push`. -/
theorem C07_callback_irrelevant_push (content devPath : Bytes) (mode mtime : Nat) (cb₁ cb₂ : CbMode) (t : Txn)
    (fi : FsInfo) (w : World) :
    ∃ evs₁ evs₂ r w₁' w₂',
      pushOne content devPath mode mtime cb₁ t fi w = (r, w₁') ∧
      pushOne content devPath mode mtime cb₂ t fi w = (r, w₂') ∧
      w₁'.trace = evs₁ ++ w.trace ∧ w₂'.trace = evs₂ ++ w.trace ∧
      transmitted evs₁ = transmitted evs₂ ∧ evs₁.filter notProg = evs₂.filter notProg ∧
      w₂' = { w₁' with trace := w₂'.trace } ∧
      w₁'.cur = w₂'.cur ∧ w₁'.store = w₂'.store ∧ w₁'.now = w₂'.now :=
  (Rel_pushOne content devPath mode mtime cb₁ cb₂ t fi).outcomes w

/-- The sync stream of one `_push` that returns normally, started with empty buffers: the WRTE
    payloads of the stream concatenate to SEND('<device_path>,<mode>'), one DATA record per chunk of
    `max_chunk_size` bytes (whose concatenation is the content, `C07_data_exact`), and DONE(mtime'),
    where mtime' is the given mtime unless that is 0, in which case it is the clock (in seconds) of
    the world `w₂` in which the data loop ended.  Nothing else, nothing twice. -/
theorem C07_sync_shape (content devPath : Bytes) (mode mtime : Nat) (cb : CbMode) (t : Txn) (fi₀ : FsInfo)
    (w w' : World) (evs : List TEv)
    (h : pushOne content devPath mode mtime cb t fi₀ w = (.ok (), w')) (hev : w'.trace = evs ++ w.trace)
    (hs : fi₀.sendBuf = []) (_hr : fi₀.recvBuf = []) (_hm : fi₀.maxdata = w.maxdata) :
    ∃ mtime', (mtime ≠ 0 → mtime' = mtime) ∧
      (mtime = 0 → ∃ fi₁ w₁ fi₂ w₂,
        fsSend .SEND t fi₀ (devPath ++ [44] ++ decimal mode) none w = (.ok fi₁, w₁) ∧
        pushDataLoop devPath cb content.length (maxChunkSize w.maxdata) t w₁.fuel content fi₁ w₁ = (.ok fi₂, w₂) ∧
        mtime' = (w₂.now / 1024).toNat) ∧
      (wrtePayloads (t.localId.getD 0) (t.remoteId.getD 0) evs).flatten =
        syncRec .SEND (devPath ++ [44] ++ decimal mode).length (devPath ++ [44] ++ decimal mode) ++
        ((chunksOf (maxChunkSize w.maxdata) content).map fun c => syncRec .DATA c.length c).flatten ++
        syncRec .DONE mtime' [] ∧
      ((chunksOf (maxChunkSize w.maxdata) content).flatten = content) ∧
      (∀ c ∈ chunksOf (maxChunkSize w.maxdata) content, 0 < c.length ∧ c.length ≤ 65536) ∧
      progressCalls evs = (if cb = CbMode.none then []
        else (chunksOf (maxChunkSize w.maxdata) content).map fun c => (devPath, c.length, content.length)) := by
  obtain ⟨fi1, fi2, fi3, w1, w2, w3, mtime', h1, h3, hmt, -, -, hshape, hprog⟩ := pushOne_ok h hev
  have hmc := maxChunkSize_spec w.maxdata
  refine ⟨mtime', ?_, ?_, ?_, chunksOf_flatten _ hmc.1 content, ?_, hprog⟩
  · intro hne; rw [hmt, if_neg hne]
  · intro h0; exact ⟨fi1, w1, fi2, w2, h1, h3, by rw [hmt, if_pos h0]⟩
  · rw [hshape, hs]; simp
  · intro c hc
    have := chunksOf_bound _ content c hc
    exact ⟨this.1, by omega⟩

/-- `_push` returns normally only through the device's sync OKAY: the status read
    (`_filesync_read([OKAY, FAIL])`) returned a record with id OKAY. -/
theorem C07_ok_only_after_status (t : Txn) (fi : FsInfo) (w w' : World)
    (h : pushStatus t fi w = (.ok (), w')) :
    ∃ r fi₂, fsRead [.OKAY, .FAIL] t fi w = (.ok (r, fi₂), w') ∧ r.id = SyncId.OKAY :=
  pushStatus_ok h

/-- …and a status record that is not OKAY (i.e. FAIL) makes `_push` raise `PushFailedError(data)`. -/
theorem C07_fail_status_raises (t : Txn) (fi fi₂ : FsInfo) (w w₁ : World) (r : SyncRec)
    (h : fsRead [.OKAY, .FAIL] t fi w = (.ok (r, fi₂), w₁)) (hne : r.id ≠ SyncId.OKAY) :
    pushStatus t fi w = (.error (.pushFailed (r.data.getD [])), w₁) := by
  unfold pushStatus
  rw [bind_run_ok h]
  simp [hne]

/-- For the whole `_push`: a normal return means that, AFTER everything was buffered (the buffer
    then is non-empty, so the status read begins by flushing it), the status read returned OKAY;
    and the final world is the world of that read — nothing happens afterwards. -/
theorem C07_ok_only_after_status_push (content devPath : Bytes) (mode mtime : Nat) (cb : CbMode) (t : Txn) (fi₀ : FsInfo)
    (w w' : World) (h : pushOne content devPath mode mtime cb t fi₀ w = (.ok (), w')) :
    ∃ fi₃ w₃ r fi₄, fi₃.sendBuf ≠ [] ∧ fsRead [.OKAY, .FAIL] t fi₃ w₃ = (.ok (r, fi₄), w') ∧ r.id = SyncId.OKAY := by
  obtain ⟨e, he⟩ := Fr.evs (Fr_pushOne _ _ _ _ _ _ _) h
  obtain ⟨fi1, fi2, fi3, w1, w2, w3, e1, e2, e3, e4, -, -, h5, h6, -⟩ := pushOne_inv h he
  obtain ⟨r, fi4, h7, hid⟩ := pushStatus_ok h6
  exact ⟨fi3, w3, r, fi4, fsSend_sendBuf_ne_nil h5, h7, hid⟩

/-- Directory push, the walk: each entry `(name, file)` of the directory is pushed to
    '<device_path>/<name>', in listing order. -/
theorem C07_dir_targets (devPath : Bytes) (mode mtime : Nat) (cb : CbMode) (tt rt : Timeout)
    (name : Bytes) (fid : Nat) (rest : List (Bytes × Nat)) :
    pushFiles devPath mode mtime cb tt rt ((name, fid) :: rest) =
      (pushFile fid (devPath ++ [47] ++ name) mode mtime cb tt rt >>= fun _ =>
        pushFiles devPath mode mtime cb tt rt rest) ∧
    pushFiles devPath mode mtime cb tt rt [] = pure () :=
  ⟨rfl, rfl⟩

/-- Directory push: once the guards pass, `shell("mkdir <device_path>")` runs first, then the files
    of the directory's listing are pushed. -/
theorem C07_dir_mkdir_first (id : Nat) (devPath : Bytes) (mode mtime : Nat) (cb : CbMode) (tt rt : Timeout) (w : World)
    (i : Nat) (entries : List (Bytes × Nat))
    (hg : (runGuards (guardsFor "push") (some devPath) w).1 = .ok ())
    (hd : w.dirs.find? (·.1 == id) = some (i, entries)) :
    devPush (.dir id) devPath mode mtime cb tt rt w =
      (devShellLike "shell" (ascii "shell") (ascii "mkdir " ++ devPath) tt rt none true >>= fun _ =>
        pushFiles devPath mode mtime cb tt rt entries >>= fun _ => pure Val.none) w :=
  devPush_dir hg hd

/-- A regular file or BytesIO is pushed as one file to the device path itself. -/
theorem C07_file_target (src : LocalRef) (id : Nat) (hs : src = .file id ∨ src = .bytesio id)
    (devPath : Bytes) (mode mtime : Nat) (cb : CbMode) (tt rt : Timeout) (w : World)
    (hg : (runGuards (guardsFor "push") (some devPath) w).1 = .ok ()) :
    devPush src devPath mode mtime cb tt rt w =
      (pushFile id devPath mode mtime cb tt rt >>= fun _ => pure Val.none) w :=
  devPush_file hs hg

/-- One file end to end (`_open`, `_push`, `_clse`): the content is the local file's, and over the
    WHOLE call the WRTE payloads of the file's sync stream concatenate to SEND, DATA…, DONE — opening
    and closing the stream add no WRTE; the callback sees one call per chunk. -/
theorem C07_file_stream (fid : Nat) (devPath : Bytes) (mode mtime : Nat) (cb : CbMode) (tt rt : Timeout) (w w' : World)
    (evs : List TEv)
    (h : pushFile fid devPath mode mtime cb tt rt w = (.ok (), w')) (hev : w'.trace = evs ++ w.trace) :
    ∃ (i : Nat) (content : Bytes) (t : Txn) (mtime' : Nat),
      w.files.find? (·.1 == fid) = some (i, content) ∧ (mtime ≠ 0 → mtime' = mtime) ∧
      (wrtePayloads (t.localId.getD 0) (t.remoteId.getD 0) evs).flatten =
        syncRec .SEND (devPath ++ [44] ++ decimal mode).length (devPath ++ [44] ++ decimal mode) ++
        ((chunksOf (maxChunkSize w.maxdata) content).map fun c => syncRec .DATA c.length c).flatten ++
        syncRec .DONE mtime' [] ∧
      progressCalls evs = (if cb = CbMode.none then []
        else (chunksOf (maxChunkSize w.maxdata) content).map fun c => (devPath, c.length, content.length)) :=
  pushFile_stream h hev

/-! ### non-vacuity -/

example : (chunksOf 2048 (List.replicate 4097 0)).map List.length = [2048, 2048, 1] := by
  rw [chunksOf_unfold, chunksOf_unfold, chunksOf_unfold, chunksOf_unfold]
  simp only [List.take_replicate, List.drop_replicate, List.isEmpty_replicate, Nat.reduceSub, Nat.min_def,
    Nat.reduceLeDiff, Nat.reduceEqDiff, ↓reduceIte, decide_false, Bool.false_eq_true, List.map_cons,
    List.length_replicate, decide_true, List.map_nil]
example : chunksOf 3 [1, 2, 3, 4, 5, 6, 7] = [[1, 2, 3], [4, 5, 6], [7]] := by decide
example : maxChunkSize 4096 = 2048 := by decide
example : maxChunkSize 0 = Generated.MAX_PUSH_DATA := by decide
example : maxChunkSize 1048576 = 65536 := by decide

/-- `_filesync_send` that has to flush (16 bytes buffered, 24 more do not fit 32): hypotheses of
    `C07_flush_conservation` and `C07_wrte_bound` hold in a concrete world. -/
example : ∃ fi' w', fsSend .DATA exT { exFi 32 with sendBuf := List.replicate 16 1 } (List.replicate 16 9) none w32
      = (.ok fi', w') ∧
    (exFi 32).fmt.size + (List.replicate 16 (9 : UInt8)).length < (exFi 32).maxdata ∧
    (List.replicate 16 (1 : UInt8)).length < (exFi 32).maxdata := by
  obtain ⟨a, w', h⟩ := ok_of_isOk (x := fsSend .DATA exT { exFi 32 with sendBuf := List.replicate 16 1 }
    (List.replicate 16 9) none) (w := w32) (by decide +kernel)
  exact ⟨a, w', h, by decide, by decide⟩

/-- a flush during which a device WRTE overtakes the OKAY: it lands in the receive buffer -/
example : (∃ fi' w', fsFlush exT { exFi 4096 with sendBuf := [1, 2, 3] } wOvertake = (.ok fi', w')) ∧
    deliveredWrteData (fsFlush exT { exFi 4096 with sendBuf := [1, 2, 3] } wOvertake).2.trace
      = [70, 65, 73, 76, 1, 0, 0, 0, 1] := by
  suffices h : isOk (fsFlush exT { exFi 4096 with sendBuf := [1, 2, 3] } wOvertake).1 = true ∧ _ from
    ⟨ok_of_isOk h.1, h.2⟩
  decide +kernel

/-- the data loop on 7 bytes in chunks of 3 with a counting callback (no I/O needed) -/
example : ∃ fi' w', pushDataLoop [47, 120] .count 7 3 exT 10 [1, 2, 3, 4, 5, 6, 7] (exFi 4096) wFile = (.ok fi', w') :=
  ok_of_isOk (by decide +kernel)

/-- a whole `_push` of 20 bytes with maxdata 32 and a RAISING callback returns normally; the
    hypotheses of `C07_sync_shape` and `C07_wrte_bound_push` hold; four WRTEs go out -/
example : (∃ w', pushOne (List.replicate 20 9) [47, 120] 33188 0 .raise exT (exFi 32) w32 = (.ok (), w')) ∧
    (exFi 32).sendBuf = [] ∧ (exFi 32).recvBuf = [] ∧ (exFi 32).maxdata = w32.maxdata ∧
    (exFi 32).fmt.size + ([47, 120] ++ [44] ++ decimal 33188).length < w32.maxdata ∧
    (exFi 32).fmt.size + maxChunkSize w32.maxdata < w32.maxdata ∧
    (wrtePayloads 1 7 (pushOne (List.replicate 20 9) [47, 120] 33188 0 .raise exT (exFi 32) w32).2.trace).map List.length
      = [16, 24, 20] ∧
    (progressCalls (pushOne (List.replicate 20 9) [47, 120] 33188 0 .raise exT (exFi 32) w32).2.trace)
      = [([47, 120], 16, 20), ([47, 120], 4, 20)] := by
  -- one evaluation of the run serves all conjuncts
  suffices h : isOk (pushOne (List.replicate 20 9) [47, 120] 33188 0 .raise exT (exFi 32) w32).1 = true ∧ _ from
    ⟨ok_of_isOk_unit h.1, h.2⟩
  decide +kernel

/-- the status read returning OKAY / FAIL -/
example : ∃ w', pushStatus exT { exFi 4096 with sendBuf := [1] } wStatus = (.ok (), w') :=
  ok_of_isOk_unit (by decide +kernel)
example : ∃ r fi₂ w₁, fsRead [.OKAY, .FAIL] exT { exFi 4096 with sendBuf := [1] } wFail = (.ok (r, fi₂), w₁) ∧
    r.id ≠ SyncId.OKAY :=
  fail_of_statusIsFail (by decide +kernel)

/-- one file end to end, and the hypotheses of the directory theorems -/
example : ∃ w', pushFile 5 [47, 120] 33188 0 .count (some 10) (some 10) wFile = (.ok (), w') :=
  ok_of_isOk_unit (by decide +kernel)
example : (runGuards (guardsFor "push") (some [47, 120]) wFile).1 = .ok () ∧
    wFile.dirs.find? (·.1 == 3) = some (3, [([97], 5), ([98], 5)]) := by
  refine ⟨?_, by decide +kernel⟩
  obtain ⟨w', h⟩ := ok_of_isOk_unit (x := runGuards (guardsFor "push") (some [47, 120])) (w := wFile) (by decide +kernel)
  rw [h]

end Adb
