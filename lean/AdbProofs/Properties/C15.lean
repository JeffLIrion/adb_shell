import AdbProofs.Lemmas.WireLemmas
/-
  C15 — whatever number of bytes the transport accepts per write call (it reports the count), the peer
  receives every byte of every message the library sends, in order and without gaps, or the call
  raises; a message is never silently truncated.
  Only property theorems and non-vacuity examples live here; helper lemmas are in
  AdbProofs/Lemmas/WireLemmas.lean.
-/
namespace Adb

/-- One `bulk_write(data)` call, any acceptance script, fault script and timing: it touches nothing but the
    connection, the clock and the peer's received bytes; a reported count `k` means exactly the first
    `k ≤ len(data)` bytes were appended to what the peer has, `None` means all of `data` was appended,
    an exception means nothing was appended.  The device→host stream and the trace are untouched. -/
theorem C15_bulkWrite_spec (data : Bytes) (tt : Timeout) (w : World) (r : Except Err (Option Nat)) (w' : World)
    (h : bulkWrite data tt w = (r, w')) :
    SameDevice w w' ∧ w'.inboundRest = w.inboundRest ∧ w'.trace = w.trace ∧
    (∀ k, r = .ok (some k) → k ≤ data.length ∧ w'.peerGot = w.peerGot ++ data.take k) ∧
    (r = .ok none → w'.peerGot = w.peerGot ++ data) ∧
    (∀ e, r = .error e → w'.peerGot = w.peerGot) :=
  bulkWrite_spec data tt w r w' h

/-- Progress of one call: when the running state is sane (`OfragOk`: no write fragment "in progress" with
    0 bytes left — `bulkWrite` itself never produces such a state and a freshly scripted connection has
    `ofragLeft = none`), every successful counted write of non-empty data accepts at least one byte, and the
    state stays sane.  (Without `OfragOk` the claim is false: see the `example` below.) -/
theorem C15_bulkWrite_progress (data : Bytes) (tt : Timeout) (w : World) (r : Except Err (Option Nat)) (w' : World)
    (h : bulkWrite data tt w = (r, w')) (hok : w.OfragOk) :
    w'.OfragOk ∧ (∀ k, r = .ok (some k) → data ≠ [] → 1 ≤ k) :=
  bulkWrite_progress data tt w r w' h hok

/-- why `OfragOk` is needed: a hand-made running state with an exhausted fragment accepts 0 bytes -/
example : (bulkWrite [1, 2] none { cur := some { ofragLeft := some 0 } }).1 = .ok (some 0) := by rfl

/-- `_write_all(data)` returning normally means the peer received exactly `data` after what it already had —
    whatever the acceptance script (any counts, `None`), timing and fuel. -/
theorem C15_writeAll_complete (data : Bytes) (t : Txn) (w w' : World)
    (h : writeAll data t w = (.ok (), w')) : w'.peerGot = w.peerGot ++ data :=
  (writeAll_spec data t w _ w' h).2.2.2.2 rfl

/-- For any outcome of `_write_all(data)` (normal, transport error, timeout, hang) the peer has received a
    clean prefix of `data`: in order, no gaps, no duplication, nothing beyond `data`; nothing else in the
    world changed (device object, device→host stream, trace). -/
theorem C15_writeAll_prefix (data : Bytes) (t : Txn) (w : World) (r : Except Err Unit) (w' : World)
    (h : writeAll data t w = (r, w')) :
    (∃ k, k ≤ data.length ∧ w'.peerGot = w.peerGot ++ data.take k) ∧
    SameDevice w w' ∧ w'.inboundRest = w.inboundRest ∧ w'.trace = w.trace := by
  obtain ⟨sd, hin, htr, hk, -⟩ := writeAll_spec data t w r w' h
  exact ⟨hk, sd, hin, htr⟩

/-- `_send(msg)`: a normal return means the message was packable and the peer received the whole encoding
    (24-byte header then payload) right after what it had; for any outcome the peer received a prefix of the
    encoding (never bytes out of order, never a gap); exactly one trace event, `tx msg`, is recorded; nothing
    else changes. -/
theorem C15_send_complete (m : Msg) (t : Txn) (w : World) (r : Except Err Unit) (w' : World)
    (h : sendRaw m t w = (r, w')) :
    (r = .ok () → m.Packable ∧ w'.peerGot = w.peerGot ++ m.encode) ∧
    (∃ k, k ≤ m.encode.length ∧ w'.peerGot = w.peerGot ++ m.encode.take k) ∧
    w'.trace = .tx m :: w.trace ∧ SameDevice w w' ∧ w'.inboundRest = w.inboundRest := by
  obtain ⟨sd, hin, htr, hk, hok⟩ := sendRaw_spec m t w r w' h
  exact ⟨hok, hk, htr, sd, hin⟩

/-- an unpackable message (a field ≥ 2^32) is refused before any byte reaches the transport -/
theorem C15_send_unpackable (m : Msg) (t : Txn) (w : World) (hp : ¬ m.Packable) :
    sendRaw m t w = (.error .pyStructError, { w with trace := .tx m :: w.trace }) := by
  simp [sendRaw, bind_run, Msg.pack?, hp]

/-- Progress: on an open connection that is not reset, has no scripted faults left and a sane write-fragment
    state (`WriteHealthy`), `_write_all(data)` never hangs as long as the loop budget exceeds `len(data)` —
    every `bulk_write` accepts at least one byte, so the loop ends (normally, or with the read-timeout /
    `None`-comparison exception), for every acceptance script, every `dt` and every timeout setting. -/
theorem C15_writeAll_progress (data : Bytes) (t : Txn) (w : World) (r : Except Err Unit) (w' : World)
    (h : writeAll data t w = (r, w')) (hh : w.WriteHealthy) (hf : data.length < w.fuel) :
    r ≠ .error .hang := by
  simp only [writeAll, bind_run, now_run, M.get_run] at h
  exact writeAllLoop_no_hang _ _ _ _ _ _ _ h hh hf

/-- Non-vacuity of `WriteHealthy`: a freshly scripted connection with acceptance counts and default budget. -/
example : ({ cur := some { ofrags := [1, 0, 30], dt := 3 } } : World).WriteHealthy
    ∧ (26 : Nat) < ({ cur := some { ofrags := [1, 0, 30], dt := 3 } } : World).fuel :=
  ⟨⟨_, rfl, rfl, rfl, by decide⟩, by decide⟩

/-- Non-vacuity: a transport that accepts 1, then 5, then up to 30 bytes per call; the 24-byte header and the
    2-byte payload arrive complete and the call returns normally. -/
example :
    let w : World := { cur := some { ofrags := [1, 5, 30] } }
    let m : Msg := ⟨.WRTE, 7, 9, [0xff, 0x01]⟩
    let t : Txn := ⟨some 9, some 7, some 10, some 10, none⟩
    (sendRaw m t w).1 = .ok () ∧ (sendRaw m t w).2.peerGot = m.encode :=
  ⟨ok_of_toOption (by decide +kernel), by decide +kernel⟩

/-- Non-vacuity of the failure side: the connection resets after 3 bytes; the call raises and the peer holds
    exactly the first 3 bytes of the encoding. -/
example :
    let w : World := { cur := some { faults := [⟨false, 3, .reset⟩] } }
    let m : Msg := ⟨.WRTE, 7, 9, [0xff, 0x01]⟩
    let t : Txn := ⟨some 9, some 7, some 10, some 10, none⟩
    (sendRaw m t w).1 = .error .transportError ∧ (sendRaw m t w).2.peerGot = m.encode.take 3 := by
  exact ⟨rfl, rfl⟩

end Adb
