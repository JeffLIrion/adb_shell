import AdbProofs.Lemmas.SrcStore
/-
  C19 (source tie): the GENERATED translation of `hidden_helpers._AdbPacketStore` (`Adb.Src.AdbPacketStore_*` in
  `AdbModel/Generated/Src.lean`, produced from the current Python source over the Python-subset semantics `AdbModel/Py.lean`)
  equals the hand-written model `Adb.Store` (`AdbModel/Store.lean`) on every store, for all arguments, with no
  well-formedness hypothesis. Stores are related by the encoding `encStore` (`AdbProofs/Lemmas/SrcStore.lean`):
  `_dict = {arg1: {arg0: Queue[(cmd, data)]}}` with the model's association-list order as dict insertion order.
  The proofs unfold the generated definitions by name only (no temporaries' names, no copied bodies).
-/
namespace Adb
open Py
set_option linter.unusedSimpArgs false

/-- `_AdbPacketStore.__init__` on a fresh object creates exactly the empty store. -/
theorem C19_src_init (cls : String) :
    Src.AdbPacketStore_init (.obj cls []) = .ok (.none, encStore cls Store.empty) := by
  simp [Src.AdbPacketStore_init, dict_nil_enc, Store.empty, bind, Except.bind, pure, Except.pure]

/-- `_AdbPacketStore.clear_all` never fails and leaves the model's `clearAll` (the empty store). -/
theorem C19_src_clear_all (cls : String) (s : Store) :
    Src.AdbPacketStore_clear_all (encStore cls s) = .ok (.none, encStore cls (Store.clearAll s)) := by
  simp [Src.AdbPacketStore_clear_all, dict_nil_enc, Store.clearAll, bind, Except.bind, pure, Except.pure]

/-- `_AdbPacketStore.clear(arg0, arg1)` never fails and changes the store exactly as the model's `Store.clear`
    (including the removal of an inner dict that became empty), for every store. -/
theorem C19_src_clear (cls : String) (s : Store) (a0 a1 : Nat) :
    Src.AdbPacketStore_clear (encStore cls s) (.int a0) (.int a1) = .ok (.none, encStore cls (Store.clear s a0 a1)) := by
  simp only [Src.AdbPacketStore_clear, Store.clear]
  cases h1 : alookup a1 s with
  | none => simp [Py.inV, Py.andV, h1, bind, Except.bind, pure, Except.pure]
  | some inner =>
    cases h0 : alookup a0 inner with
    | none => simp [Py.inV, Py.andV, h1, h0, bind, Except.bind, pure, Except.pure]
    | some q =>
      simp [Py.inV, Py.andV, Py.not_, h1, h0, bind, Except.bind, pure, Except.pure]
      split <;> simp [adel_aset_self]

/-- `_AdbPacketStore.find(arg0, arg1)` (each argument an id or `None`) never fails and returns exactly the model's
    `Store.find`: `None` or the `(arg0, arg1)` tuple of the first matching non-empty queue in dict order. -/
theorem C19_src_find (cls : String) (s : Store) (a0 a1 : Option Nat) :
    Src.AdbPacketStore_find (encStore cls s) (encOptNat a0) (encOptNat a1) = .ok (encOptKey (Store.find s a0 a1)) := by
  simp only [Src.AdbPacketStore_find, Store.find]
  by_cases hs : s.isEmpty = true
  · simp [hs, Py.not_, bind, Except.bind, pure, Except.pure, encOptKey]
  · cases a1 with
    | none =>
      cases a0 with
      | none =>
        simp [hs, Py.not_, Py.isV, encOptNat, bind, Except.bind, pure, Except.pure]
        rw [firstM_outer (fun _ => true) (fun (k0 k1 : Nat) => .tuple [.int k0, .int k1])]
        · simp only [Py.optD, encOptKey_map]
        · intro k1 i
          conv => lhs; simp [Py.unpackN, Py.nth, bind, Except.bind, pure, Except.pure]
          rw [firstM_inner (fun _ => true) (fun (k0 : Nat) => .tuple [.int k0, .int k1])]
          intro k0 q
          simp [Py.unpackN, Py.nth, Py.not_, bind, Except.bind, pure, Except.pure]
          split <;> rfl
      | some x =>
        simp [hs, Py.not_, Py.isV, encOptNat, bind, Except.bind, pure, Except.pure]
        rw [firstM_outer (fun k0 => k0 == x) (fun (k0 k1 : Nat) => .tuple [.int k0, .int k1])]
        · simp only [Py.optD, encOptKey_map]
        · intro k1 i
          conv => lhs; simp [Py.unpackN, Py.nth, bind, Except.bind, pure, Except.pure]
          rw [firstM_inner (fun k0 => k0 == x) (fun (k0 : Nat) => .tuple [.int k0, .int k1])]
          intro k0 q
          simp [Py.unpackN, Py.nth, Py.not_, Py.eqV, Py.eq, Py.andV, bind, Except.bind, pure, Except.pure]
          by_cases hk : k0 = x
          · by_cases hq : q = [] <;> simp [hk, hq]
          · have hc : ¬ ((k0 : Int) = (x : Int)) := by omega
            simp [hk, hc]
    | some y =>
      cases hy : alookup y s with
      | none => simp [hs, hy, Py.not_, Py.isV, Py.notInV, encOptNat, encOptKey, bind, Except.bind, pure, Except.pure]
      | some inner =>
        cases a0 with
        | none =>
          simp [hs, hy, Py.not_, Py.isV, Py.notInV, encOptNat, bind, Except.bind, pure, Except.pure]
          rw [firstM_inner (fun _ => true) (fun (k0 : Nat) => .tuple [.int k0, .int y])]
          · cases Store.firstNonEmptyInner (fun _ => true) inner <;> simp [Py.optD, encOptKey]
          · intro k0 q
            simp [Py.unpackN, Py.nth, Py.not_, bind, Except.bind, pure, Except.pure]
            split <;> rfl
        | some x =>
          cases hx : alookup x inner with
          | none =>
            simp [hs, hy, hx, Py.not_, Py.isV, Py.notInV, Py.inV, Py.andV, encOptNat, encOptKey,
              bind, Except.bind, pure, Except.pure]
          | some q =>
            simp [hs, hy, hx, Py.not_, Py.isV, Py.notInV, Py.inV, Py.andV, encOptNat, encOptKey,
              bind, Except.bind, pure, Except.pure]
            by_cases hq : q = [] <;> simp [hq]

/-- `_AdbPacketStore.find_allow_zeros(arg0, arg1)` never fails and returns exactly the model's `Store.findAllowZeros`
    (the four `find` attempts `(arg0, arg1)`, `(arg0, 0)`, `(0, arg1)`, `(0, 0)` in that order). -/
theorem C19_src_find_allow_zeros (cls : String) (s : Store) (a0 a1 : Option Nat) :
    Src.AdbPacketStore_find_allow_zeros (encStore cls s) (encOptNat a0) (encOptNat a1)
      = .ok (encOptKey (Store.findAllowZeros s a0 a1)) := by
  have z : Py.Val.int 0 = encOptNat (some 0) := rfl
  simp only [Src.AdbPacketStore_find_allow_zeros, Store.findAllowZeros, z]
  simp only [Py.unpackN, Py.nth, List.length_cons, List.length_nil, if_true, bind, Except.bind, pure, Except.pure,
    List.getD_cons_zero, List.getD_cons_succ, C19_src_find, truthy_encOptKey]
  cases Store.find s a0 a1 <;> cases Store.find s a0 (some 0) <;> cases Store.find s (some 0) a1 <;>
    cases Store.find s (some 0) (some 0) <;> simp [encOptKey]

/-- `(arg0, arg1) in store` (`__contains__`) never fails and is the model's `Store.contains`. -/
theorem C19_src_contains (cls : String) (s : Store) (a0 a1 : Option Nat) :
    Src.AdbPacketStore_contains (encStore cls s) (.tuple [encOptNat a0, encOptNat a1])
      = .ok (.bool (Store.contains s a0 a1)) := by
  simp [Src.AdbPacketStore_contains, Py.getItem_pair0, Py.getItem_pair1, pysimp, C19_src_find, Py.boolV, Store.contains]

/-- `len(store)` (`__len__`) never fails and is the model's `Store.len` (the number of non-empty queues). -/
theorem C19_src_len (cls : String) (s : Store) :
    Src.AdbPacketStore_len (encStore cls s) = .ok (.int (Store.len s)) := by
  simp only [Src.AdbPacketStore_len, getAttr_encStore, values_encDict, bind, Except.bind]
  rw [flatMapM_valuesAL encInner s _ (fun i => i.flatMap fun kq => [Py.Val.bool (!kq.2.isEmpty)])]
  · simp [Py.sum_, sumInts_len, bind, Except.bind, pure, Except.pure]
  · intro i
    simp only [values_encInner, bind, Except.bind]
    rw [flatMapM_valuesAL encQueue i _ (fun q => [Py.Val.bool (!q.isEmpty)])]
    intro q
    simp [Py.not_, bind, Except.bind, pure, Except.pure]

/-- `_AdbPacketStore.put(arg0, arg1, cmd, data)` never fails and changes the store exactly as the model's `Store.put`
    (a `CLSE` for a queue that does not exist is dropped; otherwise the packet is appended, creating the queue). -/
theorem C19_src_put (cls : String) (s : Store) (a0 a1 : Nat) (cmd : Cmd) (data : Bytes) :
    Src.AdbPacketStore_put (encStore cls s) (.int a0) (.int a1) (.bytes cmd.bytes) (.bytes data)
      = .ok (.none, encStore cls (Store.put s a0 a1 cmd data)) := by
  simp only [Src.AdbPacketStore_put, Store.put, Src.const_CLSE]
  cases h1 : alookup a1 s with
  | none =>
    by_cases hc : cmd = .CLSE
    · simp [h1, hc, Py.inV, Py.eqV, Py.eq, Cmd.bytes_beq_CLSE, bind, Except.bind, pure, Except.pure]
    · simp [h1, hc, Py.inV, Py.eqV, Py.eq, Cmd.bytes_beq_CLSE, queue_nil_enc, alookup, aset, aset_aset_self,
        bind, Except.bind, pure, Except.pure]
  | some inner =>
    cases h0 : alookup a0 inner with
    | none =>
      by_cases hc : cmd = .CLSE
      · simp [h1, h0, hc, Py.inV, Py.notInV, Py.eqV, Py.eq, Cmd.bytes_beq_CLSE, bind, Except.bind, pure, Except.pure]
      · simp [h1, h0, hc, Py.inV, Py.notInV, Py.eqV, Py.eq, Cmd.bytes_beq_CLSE, queue_nil_enc, aset_aset_self,
          bind, Except.bind, pure, Except.pure]
    | some q =>
      simp [h1, h0, Py.inV, Py.notInV, Py.eqV, Py.eq, Cmd.bytes_beq_CLSE, queue_nil_enc, aset_aset_self,
        bind, Except.bind, pure, Except.pure]

/-- `get` with both ids given: the first packet of that queue, removed; a `CLSE` also clears the stream. -/
theorem C19_src_get_key (cls : String) (s : Store) (x y : Nat) :
    Src.AdbPacketStore_get (encStore cls s) (.int x) (.int y)
      = match Store.get s (some x) (some y) with
        | .ok ((cmd, x, y, data), s') => .ok (.tuple [.bytes cmd.bytes, .int x, .int y, .bytes data], encStore cls s')
        | .error .typeError => .error .typeError
        | .error .keyError => .error .keyError
        | .error .queueEmpty => .error .queueEmpty := by
  simp only [Src.AdbPacketStore_get, Store.get, Src.const_CLSE, pysimp, getPath2_encStore]
  cases h1 : alookup y s with
  | none => simp only [pysimp]
  | some inner =>
    cases h0 : alookup x inner with
    | none => simp only [h0, pysimp]
    | some q =>
      cases q with
      | nil => simp only [h0, queueGet_enc_nil, pysimp]
      | cons it q =>
        obtain ⟨cmd, data⟩ := it
        by_cases hc : cmd = .CLSE <;>
          simp only [h1, h0, hc, queueGet_enc_cons, Cmd.bytes_beq_CLSE, C19_src_clear, pysimp, setPath2_encStore]

/-- `_AdbPacketStore.get(arg0, arg1)` (each argument an id or `None`) behaves exactly as the model's `Store.get`:
    same returned packet `(cmd, arg0, arg1, data)` and same store afterwards (including the `clear` after a `CLSE`),
    and it raises `TypeError` / `KeyError` / `queue.Empty` in exactly the cases the model reports them. -/
theorem C19_src_get (cls : String) (s : Store) (a0 a1 : Option Nat) :
    Src.AdbPacketStore_get (encStore cls s) (encOptNat a0) (encOptNat a1)
      = match Store.get s a0 a1 with
        | .ok ((cmd, x, y, data), s') => .ok (.tuple [.bytes cmd.bytes, .int x, .int y, .bytes data], encStore cls s')
        | .error .typeError => .error .typeError
        | .error .keyError => .error .keyError
        | .error .queueEmpty => .error .queueEmpty := by
  have key := C19_src_get_key cls s
  cases a0 <;> cases a1
  case some.some x y => exact key x y
  -- with an id missing, the key is looked up first; what follows is `get` on that key
  simp only [Src.AdbPacketStore_get, Store.get, pysimp] at key
  all_goals
    simp only [Src.AdbPacketStore_get, Store.get, Option.isNone_none, Option.isNone_some, pysimp, C19_src_find]
    cases Store.find s _ _ with
    | none => simp only [encOptKey, pysimp]
    | some k => simp only [encOptKey, pysimp]; exact key k.1 k.2

/-! ### non-vacuity: the theorems have no hypotheses; the examples show that the encoded stores are non-trivial Python
    values and that every outcome of `get` (a packet, a packet followed by the `CLSE` clean-up, and each of the three
    exceptions) occurs on concrete stores, on the generated side as well as on the model side. -/

/-- a store with two streams: `(arg0, arg1) = (7, 1)` holds `WRTE b"\x01"` then `CLSE`, `(8, 2)` holds an empty queue -/
example : encStore "_AdbPacketStore" [(1, [(7, [(.WRTE, [1]), (.CLSE, [])])]), (2, [(8, [])])]
    = .obj "_AdbPacketStore" [("_dict", .dict [
        (.int 1, .dict [(.int 7, .queue [.tuple [.bytes [87, 82, 84, 69], .bytes [1]], .tuple [.bytes [67, 76, 83, 69], .bytes []]])]),
        (.int 2, .dict [(.int 8, .queue [])])])] := by
  have h1 : Cmd.WRTE.bytes = [87, 82, 84, 69] := by decide
  have h2 : Cmd.CLSE.bytes = [67, 76, 83, 69] := by decide
  simp [encStore, encDict, encInner, encQueue, encQItem, encAL, h1, h2]

example : Src.AdbPacketStore_find (encStore "S" [(2, [(8, [])]), (1, [(7, [(.WRTE, [1])])])]) .none .none
    = .ok (.tuple [.int 7, .int 1]) :=
  C19_src_find "S" _ none none

example : Src.AdbPacketStore_get (encStore "S" [(1, [(7, [(.WRTE, [1]), (.CLSE, [])])])]) .none (.int 1)
    = .ok (.tuple [.bytes [87, 82, 84, 69], .int 7, .int 1, .bytes [1]], encStore "S" [(1, [(7, [(.CLSE, [])])])]) :=
  C19_src_get "S" _ none (some 1)

/-- reading the `CLSE` removes the stream and, with it, the emptied inner dict -/
example : Src.AdbPacketStore_get (encStore "S" [(1, [(7, [(.CLSE, [])])])]) (.int 7) (.int 1)
    = .ok (.tuple [.bytes [67, 76, 83, 69], .int 7, .int 1, .bytes []], encStore "S" []) :=
  C19_src_get "S" _ (some 7) (some 1)

example : Src.AdbPacketStore_get (encStore "S" [(2, [(8, [])])]) .none .none = .error .typeError :=
  C19_src_get "S" _ none none
example : Src.AdbPacketStore_get (encStore "S" [(2, [(8, [])])]) (.int 8) (.int 3) = .error .keyError :=
  C19_src_get "S" _ (some 8) (some 3)
example : Src.AdbPacketStore_get (encStore "S" [(2, [(8, [])])]) (.int 8) (.int 2) = .error .queueEmpty :=
  C19_src_get "S" _ (some 8) (some 2)

example : Src.AdbPacketStore_len (encStore "S" [(1, [(7, [(.WRTE, [1])]), (9, [])]), (2, [(8, [(.OKAY, [])])])]) = .ok (.int 2) :=
  C19_src_len "S" _

end Adb
