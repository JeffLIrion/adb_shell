import AdbProofs.Lemmas.DeviceRuns
/-
  C13 — nothing is sent unless connected; availability tracks the connection truthfully.
  The guard prefix of each public operation is GENERATED from the source AST (Generated.guardsSync /
  guardsAsync); `C13_guards_complete` fails to build when a guard is removed or reordered in either twin.
-/
namespace Adb

/-- The guard table extracted from the current source: every public operation checks availability,
    every operation taking a device path checks the path FIRST, and both twins agree. -/
theorem C13_guards_complete :
    Generated.guardsSync = Generated.guardsAsync
      ∧ Generated.guardsSync.map (·.1) = Generated.publicOps
      ∧ (∀ e ∈ Generated.guardsSync, e.2.2 = (if e.2.1 then ["path", "avail"] else ["avail"]))
      ∧ (Generated.guardsSync.filter (·.2.1)).map (·.1) = ["list", "pull", "push", "stat"] := by
  decide

/-- On a device that is not connected every stream operation raises AdbConnectionError and the
    world is UNCHANGED: no byte reaches the transport, no transport call is made (the connection
    state, clock and scripts are those of `w`), no local file is created (`sink`), no event is
    recorded, no id is consumed. -/
theorem C13_guard_no_io (op : ApiOp) (w : World) (hs : op.isStreamOp = true) (ha : w.available = false)
    (hp : op.devicePath ≠ some []) : op.run w = (.error .adbConnection, w) := by
  obtain ⟨rest, e⟩ := streamOp_guards op hs
  rw [e]
  cases hd : op.devicePath with
  | none => exact bind_run_err (runGuards_avail_false w ha)
  | some p => exact bind_run_err (runGuards_path_avail_false w p (fun h => hp (hd.trans (congrArg some h))) ha)

/-- An empty device path raises DevicePathInvalidError with the world unchanged — connected or not. -/
theorem C13_empty_path (op : ApiOp) (w : World) (hp : op.devicePath = some []) :
    op.run w = (.error .devicePathInvalid, w) := by
  have hs : op.isStreamOp = true := by cases op <;> first | rfl | cases hp
  obtain ⟨rest, e⟩ := streamOp_guards op hs
  rw [e, hp]
  exact bind_run_err (runGuards_path_empty w)

/-- Stream operations never change `available`: only connect/close do. -/
theorem C13_stream_ops_keep_available (op : ApiOp) (w : World) (hs : op.isStreamOp = true) :
    (op.run w).2.available = w.available :=
  (streamOp_frame op hs w).available

/-- `close()` clears availability whatever happens. -/
theorem C13_close_unavailable (w : World) : (devClose w).2.available = false :=
  (devClose_frame w).available

/-- `connect()` (called with a usable read timeout, i.e. the transaction info can be built): the
    device is available afterwards iff `connect()` returned normally; when it raises, the device
    is unavailable. -/
theorem C13_connect_available (keys : List Nat) (tt authT rt : Timeout) (cb : Bool) (w : World) (t : Txn)
    (hm : Txn.make none none (if tt.isSome = true then tt else w.defaultTT) rt none = .ok t) :
    (∀ v w', devConnect keys tt authT rt cb w = (.ok v, w') → w'.available = true ∧ v = .bool true) ∧
    (∀ e w', devConnect keys tt authT rt cb w = (.error e, w') → w'.available = false) := by
  obtain ⟨md, v, -, e⟩ | ⟨e', v, hf, e⟩ := devConnect_cases keys tt authT rt cb w t hm
  · rw [e]
    exact ⟨fun _ _ h => by cases h; exact ⟨rfl, rfl⟩, fun _ _ h => nomatch h⟩
  · rw [e]
    exact ⟨(fun _ _ h => nomatch h), fun _ _ h => by cases h; exact hf.available⟩

/-- `available` over any history equals the specification "true exactly from a successful connect()
    until the next close() or connect() attempt" (connects called with a usable read timeout). -/
theorem C13_available_history (ops : List ApiOp) (w : World)
    (hrt : ∀ op ∈ ops, ∀ keys tt authT rt cb, op = .connect keys tt authT rt cb → rt ≠ none) :
    (runHistory ops w).2.available = specAvailable w.available (ops.zip (runHistory ops w).1) := by
  induction ops generalizing w with
  | nil => rfl
  | cons op ops ih =>
    simp only [runHistory, List.zip_cons_cons]
    rw [ih (op.run w).2 fun o ho => hrt o (List.mem_cons_of_mem _ ho), specAvailable_cons,
      available_step op w (hrt op List.mem_cons_self)]

/-- Non-vacuity: an unconnected world with a scripted connection ready; `shell` changes nothing. -/
example : ∃ w : World, w.available = false ∧ w.conns ≠ [] ∧
    (ApiOp.shell [108, 115] none (some 10240) none true).run w = (.error .adbConnection, w) :=
  ⟨{ conns := [{}] }, rfl, by simp, C13_guard_no_io _ _ rfl rfl (by simp [ApiOp.devicePath])⟩

end Adb
