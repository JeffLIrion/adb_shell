import AdbProofs.Lemmas.TxnLemmas
import AdbProofs.Lemmas.SrcLoops
import AdbProofs.Properties.C02Src
import AdbProofs.Properties.C11Src
/-
  C04 (tie to the source, by proof) — the stream primitives of the device class: `_okay`, `_clse`, `_read_until` and the loop of `_read_until_close`, in both twins.
  harness/pytrans.py turns the CURRENT source of each into pure functions by making the results of the calls it performs (`self._io_manager.send`, `self._io_manager.read`,
  `self._read_until`, `self._okay`, `yield`) parameters and cutting the method at each call ("the request it makes when it gets that far"). The theorems state, about
  those translations, the clauses of C04 that concern what the HOST sends on a stream:
    * every OKAY and every CLSE the host builds carries (the stream's local id, the remote id the device announced) and no payload;
    * `_read_until` reads with `allow_zeros=True` and acknowledges with exactly one `_okay` exactly when what it was handed is a WRTE — no OKAY otherwise;
    * `_clse` sends one CLSE and then waits for the device's CLSE; `_read_until_close` answers a device CLSE with one CLSE and leaves the loop, and otherwise yields
      the payload it was handed (nothing else) and checks the whole-command limit.
-/
set_option linter.unusedSimpArgs false
namespace Adb
open Py

/-- the (command, arg0, arg1, data) tuple `_AdbIOManager.read` returns -/
def encRead (c : Cmd) (a0 a1 : Nat) (d : Bytes) : Py.Val := .tuple [.bytes c.idBytes, .int a0, .int a1, .bytes d]

theorem const_ids : Src.const_OKAY = .bytes Cmd.OKAY.idBytes ∧ Src.const_CLSE = .bytes Cmd.CLSE.idBytes ∧ Src.const_WRTE = .bytes Cmd.WRTE.idBytes
    ∧ Src.const_OPEN = .bytes Cmd.OPEN.idBytes := ⟨rfl, rfl, rfl, rfl⟩

theorem idBytes_eq_iff (c d : Cmd) : (c.idBytes == d.idBytes) = (c == d) := by cases c <;> cases d <;> decide


/-- `_okay` (sync): the one message it sends is OKAY(local id, remote id) without payload, on this transaction; then it is done. -/
theorem C04_src_okay_sync (cls : String) (fs : List (String × Py.Val)) (l r : Nat) (eff0 : Py.Val)
    (hl : alookupS "local_id" fs = some (.int l)) (hr : alookupS "remote_id" fs = some (.int r)) :
    Src.AdbDevice_okay_eff0_args (.obj cls fs) = .ok (.tuple [.str "request", .str "_io_manager.send", encMsg "AdbMessage" ⟨.OKAY, l, r, []⟩, .obj cls fs])
      ∧ Src.AdbDevice_okay_fn (.obj cls fs) eff0 = .ok .none := by
  constructor <;>
    simp [Src.AdbDevice_okay_eff0_args, Src.AdbDevice_okay_fn, pysimp, hl, hr, const_ids.1, Py.newObj, C02_src_msg_init]

/-- `_clse` (sync): first it sends CLSE(local id, remote id) without payload; then it waits for the device's CLSE through `_read_until([CLSE])`; then it is done. -/
theorem C04_src_clse_sync (cls : String) (fs : List (String × Py.Val)) (l r : Nat) (eff0 eff1 : Py.Val)
    (hl : alookupS "local_id" fs = some (.int l)) (hr : alookupS "remote_id" fs = some (.int r)) :
    Src.AdbDevice_clse_eff0_args (.obj cls fs) = .ok (.tuple [.str "request", .str "_io_manager.send", encMsg "AdbMessage" ⟨.CLSE, l, r, []⟩, .obj cls fs])
      ∧ Src.AdbDevice_clse_eff1_args (.obj cls fs) eff0 = .ok (.tuple [.str "request", .str "_read_until", .list [.bytes Cmd.CLSE.idBytes], .obj cls fs])
      ∧ Src.AdbDevice_clse_fn (.obj cls fs) eff0 eff1 = .ok .none := by
  refine ⟨?_, ?_, ?_⟩ <;>
    simp [Src.AdbDevice_clse_eff0_args, Src.AdbDevice_clse_eff1_args, Src.AdbDevice_clse_fn, pysimp, hl, hr, const_ids.2.1, Py.newObj, C02_src_msg_init]

/-- `_read_until` (sync): it reads with `allow_zeros=True`; handed the packet `(c, a0, a1, d)` it requests exactly one `_okay` iff `c` is WRTE (and nothing
    otherwise), and returns `(c, d)` — the payload it was handed, unchanged. -/
theorem C04_src_read_until_sync (expected info eff1 : Py.Val) (c : Cmd) (a0 a1 : Nat) (d : Bytes) :
    Src.AdbDevice_read_until_eff0_args expected info
        = .ok (.tuple [.str "request", .str "_io_manager.read", expected, info, .tuple [.str "allow_zeros", .bool true]])
      ∧ Src.AdbDevice_read_until_eff1_args expected info (encRead c a0 a1 d)
        = (if c = .WRTE then .ok (.tuple [.str "request", .str "_okay", info]) else .ok (.tuple [.bytes c.idBytes, .bytes d]))
      ∧ Src.AdbDevice_read_until_fn expected info (encRead c a0 a1 d) eff1 = .ok (.tuple [.bytes c.idBytes, .bytes d]) := by
  refine ⟨?_, ?_, ?_⟩
  · simp [Src.AdbDevice_read_until_eff0_args, pysimp]
  · simp only [Src.AdbDevice_read_until_eff1_args, pysimp, encRead, const_ids.2.2.1, idBytes_eq_iff]
    by_cases h : c = .WRTE <;> simp [h]
  · simp only [Src.AdbDevice_read_until_fn, pysimp, encRead, const_ids.2.2.1, idBytes_eq_iff]
    by_cases h : c = .WRTE <;> simp [h]

/-- One iteration of `_read_until_close` (sync), handed `(c, d)` by `_read_until([CLSE, WRTE])`: for a device CLSE it requests exactly one send of
    CLSE(local id, remote id) and leaves the loop (nothing is yielded); for anything else it yields exactly `d`. -/
theorem C04_src_read_until_close_requests_sync (cls : String) (fs : List (String × Py.Val)) (l r : Nat) (cmd0 data0 msg0 start now eff1 : Py.Val) (c : Cmd) (d : Bytes)
    (hl : alookupS "local_id" fs = some (.int l)) (hr : alookupS "remote_id" fs = some (.int r)) :
    Src.AdbDevice_read_until_close_eff0_args (.obj cls fs) cmd0 data0 msg0 start now
        = .ok (.tuple [.str "request", .str "_read_until", .list [.bytes Cmd.CLSE.idBytes, .bytes Cmd.WRTE.idBytes], .obj cls fs])
      ∧ (c = .CLSE → Src.AdbDevice_read_until_close_eff1_args (.obj cls fs) cmd0 data0 msg0 start (.tuple [.bytes c.idBytes, .bytes d]) now
            = .ok (.tuple [.str "request", .str "_io_manager.send", encMsg "AdbMessage" ⟨.CLSE, l, r, []⟩, .obj cls fs]))
      ∧ (c = .CLSE → ∃ m, Src.AdbDevice_read_until_close_eff2_args (.obj cls fs) cmd0 data0 msg0 start (.tuple [.bytes c.idBytes, .bytes d]) eff1 now
            = .ok (.tuple [.str "break", .bytes c.idBytes, .bytes d, m]))
      ∧ (c ≠ .CLSE → Src.AdbDevice_read_until_close_eff2_args (.obj cls fs) cmd0 data0 msg0 start (.tuple [.bytes c.idBytes, .bytes d]) eff1 now
            = .ok (.tuple [.str "request", .str "yield", .bytes d])) := by
  refine ⟨?_, ?_, ?_, ?_⟩
  · simp [Src.AdbDevice_read_until_close_eff0_args, pysimp, const_ids.2.1, const_ids.2.2.1]
  · intro h
    simp [Src.AdbDevice_read_until_close_eff1_args, pysimp, const_ids.2.1, idBytes_eq_iff, h, hl, hr, Py.newObj, C02_src_msg_init]
  · intro h
    refine ⟨encMsg "AdbMessage" ⟨.CLSE, l, r, []⟩, ?_⟩
    simp [Src.AdbDevice_read_until_close_eff2_args, pysimp, const_ids.2.1, idBytes_eq_iff, h, hl, hr, Py.newObj, C02_src_msg_init]
  · intro h
    simp [Src.AdbDevice_read_until_close_eff2_args, pysimp, const_ids.2.1, idBytes_eq_iff, h]

theorem src_get_transport_timeout_s (o : Py.Val) (tt dtt : Timeout) (hd : Py.getAttr o "_default_transport_timeout_s" = .ok (encTimeout dtt)) :
    Src.AdbDevice_get_transport_timeout_s o (encTimeout tt) = .ok (encTimeout (if tt.isSome then tt else dtt)) := by
  cases tt <;> simp [Src.AdbDevice_get_transport_timeout_s, encTimeout, pysimp, hd]

/-- `_open` (sync), up to its first request; the transport timeout is normalised as in C11, and when that raises `TypeError` nothing is sent. -/
theorem C04_src_open_request_sync (cls : String) (fs : List (String × Py.Val)) (c : Nat) (dest : Bytes) (tt rt total dtt : Timeout)
    (hid : alookupS "_local_id" fs = some (.int c)) (hd : alookupS "_default_transport_timeout_s" fs = some (encTimeout dtt)) :
    match Txn.make (some (nextId c)) none (if tt.isSome then tt else dtt) rt total with
    | .ok t => ∃ ifs, Src.AdbDevice_open_eff0_args (.obj cls fs) (.bytes dest) (encTimeout tt) (encTimeout rt) (encTimeout total)
          = .ok (.tuple [.str "request", .str "_io_manager.send", encMsg "AdbMessage" ⟨.OPEN, nextId c, 0, dest ++ [0]⟩, .obj "_AdbTransactionInfo" ifs])
        ∧ alookupS "local_id" ifs = some (.int (nextId c)) ∧ alookupS "remote_id" ifs = some .none
        ∧ alookupS "transport_timeout_s" ifs = some (encTimeout t.tt) ∧ alookupS "read_timeout_s" ifs = some (encTimeout t.rt)
        ∧ alookupS "timeout_s" ifs = some (encTimeout t.total)
    | .error _ => Src.AdbDevice_open_eff0_args (.obj cls fs) (.bytes dest) (encTimeout tt) (encTimeout rt) (encTimeout total) = .error .typeError := by
  have hopen : Src.const_OPEN = .bytes Cmd.OPEN.idBytes := rfl
  have hinit := C11_src_txn_init "_AdbTransactionInfo" (some (nextId c)) none (if tt.isSome then tt else dtt) rt total
  have m := C02_src_msg_init "AdbMessage" Cmd.OPEN (nextId c) 0 (dest ++ [0])
  -- `nextId c` as the source computes it
  have hn : ((nextId c : Nat) : Int) = if (c : Int) + 1 = 4294967296 then 1 else (c : Int) + 1 := by
    unfold nextId; split <;> split <;> omega
  simp only [Int.natCast_zero, hn] at m
  cases hm : Txn.make (some (nextId c)) none (if tt.isSome then tt else dtt) rt total with
  | error e =>
    rw [hm] at hinit
    simp only [encOptNat, hn] at hinit
    by_cases hw : (c : Int) + 1 = 4294967296 <;> simp only [hw, if_true, if_false] at hinit <;>
      simp only [Src.AdbDevice_open_eff0_args, pysimp, hid, hd, hw, beq_self_eq_true, beq_iff_eq, src_get_transport_timeout_s _ tt dtt, Py.newObj, hinit]
  | ok t =>
    rw [hm] at hinit
    obtain ⟨ifs, h0, hl, hr, h3, h4, h5⟩ := hinit
    rw [(Txn.make_ids hm).1] at hl
    rw [(Txn.make_ids hm).2.1] at hr
    refine ⟨ifs, ?_, hl, hr, h5, h4, h3⟩
    simp only [encOptNat, hn] at h0 hl
    by_cases hw : (c : Int) + 1 = 4294967296 <;> simp only [hw, if_true, if_false] at h0 hl m <;>
      simp only [Src.AdbDevice_open_eff0_args, pysimp, hid, hd, hw, beq_self_eq_true, beq_iff_eq, src_get_transport_timeout_s _ tt dtt, Py.newObj, h0, hl, hopen, m]

/-! ### The async twin
  The translation of each method of `AdbDeviceAsync` is, piece by piece, the translation of the same method of `AdbDevice` (their callees are twins in turn), so what is
  proved of one holds of the other; an edit of one twin only breaks these equations. -/

theorem Src.okay_twin : Src.AdbDeviceAsync_okay_eff0_args = Src.AdbDevice_okay_eff0_args ∧ Src.AdbDeviceAsync_okay_fn = Src.AdbDevice_okay_fn := ⟨rfl, rfl⟩

theorem Src.clse_twin : Src.AdbDeviceAsync_clse_eff0_args = Src.AdbDevice_clse_eff0_args ∧ Src.AdbDeviceAsync_clse_eff1_args = Src.AdbDevice_clse_eff1_args
    ∧ Src.AdbDeviceAsync_clse_fn = Src.AdbDevice_clse_fn := ⟨rfl, rfl, rfl⟩

theorem Src.read_until_twin : Src.AdbDeviceAsync_read_until_eff0_args = Src.AdbDevice_read_until_eff0_args
    ∧ Src.AdbDeviceAsync_read_until_eff1_args = Src.AdbDevice_read_until_eff1_args ∧ Src.AdbDeviceAsync_read_until_fn = Src.AdbDevice_read_until_fn := ⟨rfl, rfl, rfl⟩

theorem Src.read_until_close_twin : Src.AdbDeviceAsync_read_until_close_eff0_args = Src.AdbDevice_read_until_close_eff0_args
    ∧ Src.AdbDeviceAsync_read_until_close_eff1_args = Src.AdbDevice_read_until_close_eff1_args
    ∧ Src.AdbDeviceAsync_read_until_close_eff2_args = Src.AdbDevice_read_until_close_eff2_args := ⟨rfl, rfl, rfl⟩

theorem Src.open_twin : Src.AdbDeviceAsync_open_eff0_args = Src.AdbDevice_open_eff0_args := rfl

/-- `_okay` (async twin): the one message it sends is OKAY(local id, remote id) without payload, on this transaction; then it is done. -/
theorem C04_src_okay_async (cls : String) (fs : List (String × Py.Val)) (l r : Nat) (eff0 : Py.Val)
    (hl : alookupS "local_id" fs = some (.int l)) (hr : alookupS "remote_id" fs = some (.int r)) :
    Src.AdbDeviceAsync_okay_eff0_args (.obj cls fs) = .ok (.tuple [.str "request", .str "_io_manager.send", encMsg "AdbMessage" ⟨.OKAY, l, r, []⟩, .obj cls fs])
      ∧ Src.AdbDeviceAsync_okay_fn (.obj cls fs) eff0 = .ok .none := by
  simp only [Src.okay_twin]
  exact C04_src_okay_sync cls fs l r eff0 hl hr

/-- `_clse` (async twin): first it sends CLSE(local id, remote id) without payload; then it waits for the device's CLSE through `_read_until([CLSE])`; then it is done. -/
theorem C04_src_clse_async (cls : String) (fs : List (String × Py.Val)) (l r : Nat) (eff0 eff1 : Py.Val)
    (hl : alookupS "local_id" fs = some (.int l)) (hr : alookupS "remote_id" fs = some (.int r)) :
    Src.AdbDeviceAsync_clse_eff0_args (.obj cls fs) = .ok (.tuple [.str "request", .str "_io_manager.send", encMsg "AdbMessage" ⟨.CLSE, l, r, []⟩, .obj cls fs])
      ∧ Src.AdbDeviceAsync_clse_eff1_args (.obj cls fs) eff0 = .ok (.tuple [.str "request", .str "_read_until", .list [.bytes Cmd.CLSE.idBytes], .obj cls fs])
      ∧ Src.AdbDeviceAsync_clse_fn (.obj cls fs) eff0 eff1 = .ok .none := by
  simp only [Src.clse_twin]
  exact C04_src_clse_sync cls fs l r eff0 eff1 hl hr

/-- `_read_until` (async twin): it reads with `allow_zeros=True`; handed the packet `(c, a0, a1, d)` it requests exactly one `_okay` iff `c` is WRTE (and nothing
    otherwise), and returns `(c, d)` — the payload it was handed, unchanged. -/
theorem C04_src_read_until_async (expected info eff1 : Py.Val) (c : Cmd) (a0 a1 : Nat) (d : Bytes) :
    Src.AdbDeviceAsync_read_until_eff0_args expected info
        = .ok (.tuple [.str "request", .str "_io_manager.read", expected, info, .tuple [.str "allow_zeros", .bool true]])
      ∧ Src.AdbDeviceAsync_read_until_eff1_args expected info (encRead c a0 a1 d)
        = (if c = .WRTE then .ok (.tuple [.str "request", .str "_okay", info]) else .ok (.tuple [.bytes c.idBytes, .bytes d]))
      ∧ Src.AdbDeviceAsync_read_until_fn expected info (encRead c a0 a1 d) eff1 = .ok (.tuple [.bytes c.idBytes, .bytes d]) := by
  simp only [Src.read_until_twin]
  exact C04_src_read_until_sync expected info eff1 c a0 a1 d

/-- One iteration of `_read_until_close` (async twin), handed `(c, d)` by `_read_until([CLSE, WRTE])`: for a device CLSE it requests exactly one send of
    CLSE(local id, remote id) and leaves the loop (nothing is yielded); for anything else it yields exactly `d`. -/
theorem C04_src_read_until_close_requests_async (cls : String) (fs : List (String × Py.Val)) (l r : Nat) (cmd0 data0 msg0 start now eff1 : Py.Val) (c : Cmd) (d : Bytes)
    (hl : alookupS "local_id" fs = some (.int l)) (hr : alookupS "remote_id" fs = some (.int r)) :
    Src.AdbDeviceAsync_read_until_close_eff0_args (.obj cls fs) cmd0 data0 msg0 start now
        = .ok (.tuple [.str "request", .str "_read_until", .list [.bytes Cmd.CLSE.idBytes, .bytes Cmd.WRTE.idBytes], .obj cls fs])
      ∧ (c = .CLSE → Src.AdbDeviceAsync_read_until_close_eff1_args (.obj cls fs) cmd0 data0 msg0 start (.tuple [.bytes c.idBytes, .bytes d]) now
            = .ok (.tuple [.str "request", .str "_io_manager.send", encMsg "AdbMessage" ⟨.CLSE, l, r, []⟩, .obj cls fs]))
      ∧ (c = .CLSE → ∃ m, Src.AdbDeviceAsync_read_until_close_eff2_args (.obj cls fs) cmd0 data0 msg0 start (.tuple [.bytes c.idBytes, .bytes d]) eff1 now
            = .ok (.tuple [.str "break", .bytes c.idBytes, .bytes d, m]))
      ∧ (c ≠ .CLSE → Src.AdbDeviceAsync_read_until_close_eff2_args (.obj cls fs) cmd0 data0 msg0 start (.tuple [.bytes c.idBytes, .bytes d]) eff1 now
            = .ok (.tuple [.str "request", .str "yield", .bytes d])) := by
  simp only [Src.read_until_close_twin]
  exact C04_src_read_until_close_requests_sync cls fs l r cmd0 data0 msg0 start now eff1 c d hl hr

/-- `_open` (async twin), up to its first request: with the counter at `c`, the source allocates `nextId c` (increment-and-wrap), builds the transaction info through the
    translated `_AdbTransactionInfo.__init__` (local id = the new id, remote id `None`, transport timeout = the argument or the object's default, normalised as in C11)
    and asks the I/O manager to send exactly OPEN(new id, 0, destination + NUL) on that transaction; when the timeout normalisation raises `TypeError`, nothing is sent. -/
theorem C04_src_open_request_async (cls : String) (fs : List (String × Py.Val)) (c : Nat) (dest : Bytes) (tt rt total dtt : Timeout)
    (hid : alookupS "_local_id" fs = some (.int c)) (hd : alookupS "_default_transport_timeout_s" fs = some (encTimeout dtt)) :
    match Txn.make (some (nextId c)) none (if tt.isSome then tt else dtt) rt total with
    | .ok t => ∃ ifs, Src.AdbDeviceAsync_open_eff0_args (.obj cls fs) (.bytes dest) (encTimeout tt) (encTimeout rt) (encTimeout total)
          = .ok (.tuple [.str "request", .str "_io_manager.send", encMsg "AdbMessage" ⟨.OPEN, nextId c, 0, dest ++ [0]⟩, .obj "_AdbTransactionInfo" ifs])
        ∧ alookupS "local_id" ifs = some (.int (nextId c)) ∧ alookupS "remote_id" ifs = some .none
        ∧ alookupS "transport_timeout_s" ifs = some (encTimeout t.tt) ∧ alookupS "read_timeout_s" ifs = some (encTimeout t.rt)
        ∧ alookupS "timeout_s" ifs = some (encTimeout t.total)
    | .error _ => Src.AdbDeviceAsync_open_eff0_args (.obj cls fs) (.bytes dest) (encTimeout tt) (encTimeout rt) (encTimeout total) = .error .typeError := by
  simp only [Src.open_twin]
  exact C04_src_open_request_sync cls fs c dest tt rt total dtt hid hd

end Adb
