import AdbProofs.Lemmas.Deliver
/-
  C04 — on every stream the host's packets obey the ADB stream protocol.
  Stated on the trace: `transmitted evs` are the messages handed to `_send` by the events a call
  adds, `delivered evs` the packets returned to the stream layer, `exchanged evs` both, interleaved
  in the order they happened.  All theorems hold in every world (any device behaviour, any fault).
-/
namespace Adb

/-- `_open` on an idle device: exactly one message is sent, an OPEN whose arg0 is the next local id
    from the allocator (non-zero, different from the previous one), arg1 = 0 and whose payload is
    the destination followed by a NUL; then exactly one packet is delivered, an OKAY addressed to
    that local id; the transaction returned carries that local id and, as remote id, the arg0 the
    device announced in this OKAY. -/
theorem C04_open_shape (dest : Bytes) (tt rt total : Timeout) (w w' : World) (t' : Txn)
    (hl : w.locks = []) (h : openStream dest tt rt total w = (.ok t', w')) :
    ∃ (evs : List TEv) (p : Pkt), w'.trace = evs ++ w.trace ∧
      transmitted evs = [⟨.OPEN, nextId w.localId, 0, dest ++ [0]⟩] ∧ delivered evs = [p] ∧
      exchanged evs = [.tx ⟨.OPEN, nextId w.localId, 0, dest ++ [0]⟩, .rx p] ∧
      p.cmd = .OKAY ∧ p.arg1 = nextId w.localId ∧
      t'.localId = some (nextId w.localId) ∧ t'.remoteId = some p.arg0 ∧
      nextId w.localId ≠ 0 ∧ nextId w.localId ≠ w.localId := by
  obtain ⟨p, hA, hc, h1, hr, hlid, _⟩ := openStream_dlv h hl
  obtain ⟨evs, htr, hd, hx, _, hex⟩ := hA.dt
  refine ⟨evs, p, htr, hx, hd, hex, hc, h1, hlid, hr, ?_, ?_⟩ <;> (unfold nextId; split <;> omega)

/-- `_open` that raises: nothing was delivered and at most the one OPEN was sent. -/
theorem C04_open_failed (dest : Bytes) (tt rt total : Timeout) (w w' : World) (e : Err)
    (hl : w.locks = []) (h : openStream dest tt rt total w = (.error e, w')) :
    ∃ evs : List TEv, w'.trace = evs ++ w.trace ∧ delivered evs = [] ∧
      (transmitted evs = [] ∨ transmitted evs = [⟨.OPEN, nextId w.localId, 0, dest ++ [0]⟩]) := by
  rcases openStream_dlv h hl with hA | hA
  · obtain ⟨evs, htr, hd, hx, _⟩ := hA.dt
    exact ⟨evs, htr, hd, Or.inl hx⟩
  · obtain ⟨evs, htr, hd, hx, _⟩ := hA.dt
    exact ⟨evs, htr, hd, Or.inr hx⟩

/-- `_read_until`, every outcome: at most one packet is delivered; if it is a WRTE exactly one OKAY
    carrying (local id, remote id) is sent, AFTER the delivery; otherwise nothing is sent. So each
    delivered device WRITE is acknowledged with exactly one OKAY and no OKAY is sent otherwise.
    On a normal return `(cmd, data)` are those of the delivered packet, an expected command. -/
theorem C04_one_okay_per_delivered_wrte (ex : List Cmd) (t : Txn) (w w' : World) (res : Except Err (Cmd × Bytes))
    (hl : lockTransport ∉ w.locks) (h : readUntil ex t w = (res, w')) :
    ∃ evs : List TEv, w'.trace = evs ++ w.trace ∧ (delivered evs).length ≤ 1 ∧ (∀ p ∈ delivered evs, p.cmd ∈ ex) ∧
      exchanged evs = (delivered evs).flatMap (fun p =>
        .rx p :: if p.cmd = .WRTE then [.tx ⟨.OKAY, t.localId.getD 0, t.remoteId.getD 0, []⟩] else []) ∧
      transmitted evs = ((delivered evs).filter (fun p => p.cmd = .WRTE)).map
        (fun _ => (⟨.OKAY, t.localId.getD 0, t.remoteId.getD 0, []⟩ : Msg)) ∧
      (∀ cmd data, res = .ok (cmd, data) → ∃ p, delivered evs = [p] ∧ p.cmd = cmd ∧ p.data = data ∧ cmd ∈ ex ∧
        transmitted evs = if cmd = .WRTE then [⟨.OKAY, t.localId.getD 0, t.remoteId.getD 0, []⟩] else []) := by
  have hres : ∀ cmd data, res = .ok (cmd, data) → ∃ p, Adds w w' (.rx p :: ackOf t p) [] ∧ p.cmd = cmd ∧ p.data = data ∧ cmd ∈ ex := by
    intro cmd data hr
    subst hr
    obtain ⟨p, hA, hc, hd, hex, _⟩ := readUntil_dlv h hl
    exact ⟨p, hA, hc, hd, hex⟩
  -- the events between `w` and `w'` are determined, so two descriptions of the exchange agree
  have inj : ∀ {X X' : List Xfer}, Adds w w' X [] → Adds w w' X' [] → X = X' := by
    rintro X X' ⟨evs, htr, rfl, _⟩ ⟨evs', htr', rfl, _⟩
    rw [List.append_cancel_right (htr'.symm.trans htr)]
  rcases readUntil_any h hl with hA | ⟨p, hex, _, hA⟩
  · obtain ⟨evs, htr, hd, hx, _, hxx⟩ := hA.dt
    refine ⟨evs, htr, by simp [hd], by simp [hd], by simp [hd, hxx], by simp [hd, hx], ?_⟩
    intro cmd data hr
    obtain ⟨p, hA', _⟩ := hres cmd data hr
    cases inj hA hA'
  · obtain ⟨evs, htr, hd, hx, _, hxx⟩ := hA.dt
    have hd' : delivered evs = [p] := by rw [hd]; simp [ackOf]; split <;> rfl
    refine ⟨evs, htr, by simp [hd'], by simpa [hd'] using hex, ?_, ?_, ?_⟩
    · rw [hxx, hd']; simp [ackOf, okayMsg]
    · rw [hx, hd']
      by_cases hc : p.cmd = .WRTE <;> simp [ackOf, okayMsg, hc]
    · intro cmd data hr
      obtain ⟨q, hA', hqc, hqd, hcex⟩ := hres cmd data hr
      obtain rfl : q = p := by injection List.head_eq_of_cons_eq (inj hA' hA)
      refine ⟨q, hd', hqc, hqd, hcex, ?_⟩
      rw [hx, ← hqc]
      by_cases hc : q.cmd = .WRTE <;> simp [ackOf, okayMsg, hc]

/-- `_read_until_close` returning normally: the deliveries are WRTE packets followed by exactly one
    CLSE; the host sent one OKAY per delivered WRTE — each right after its WRTE — and then exactly
    one CLSE answering the device's CLSE, which is the LAST thing sent; all with the stream's
    (local id, remote id). The items returned (and yielded, in this order) are the WRTE payloads. -/
theorem C04_close_answered_once (t : Txn) (w w' : World) (items : List Bytes)
    (hl : lockTransport ∉ w.locks) (h : readUntilClose t w = (.ok items, w')) :
    ∃ (evs : List TEv) (wrtes : List Pkt) (c : Pkt), w'.trace = evs ++ w.trace ∧
      delivered evs = wrtes ++ [c] ∧ c.cmd = .CLSE ∧ (∀ p ∈ wrtes, p.cmd = .WRTE) ∧
      items = wrtes.map (·.data) ∧ yieldedBy evs = items ∧
      transmitted evs = wrtes.map (fun _ => (⟨.OKAY, t.localId.getD 0, t.remoteId.getD 0, []⟩ : Msg))
        ++ [⟨.CLSE, t.localId.getD 0, t.remoteId.getD 0, []⟩] ∧
      exchanged evs = wrtes.flatMap (fun p => [Xfer.rx p, .tx ⟨.OKAY, t.localId.getD 0, t.remoteId.getD 0, []⟩])
        ++ [.rx c, .tx ⟨.CLSE, t.localId.getD 0, t.remoteId.getD 0, []⟩] := by
  obtain ⟨wrtes, rest, hw, _, hA, hitems, c, rfl, hcc⟩ := readUntilClose_dlv h hl
  obtain ⟨evs, htr, hd, hx, hy, hex⟩ := hA.dt
  simp only [List.reverse_nil, List.nil_append] at hitems
  refine ⟨evs, wrtes, c, htr, by rw [hd, rxs_served], hcc, hw, hitems, by rw [hy, hitems], ?_, ?_⟩
  · rw [hx, txs_served, List.flatMap_append, replyMsgs_wrtes t hw]
    simp [replyMsgs, hcc, okayMsg, clseMsg]
  · rw [hex, List.flatMap_append, served_wrtes t hw]
    simp [served, replyOf, hcc, okayMsg, clseMsg]

/-- `_read_until_close`, EVERY outcome (also when it raises half-way): everything the host sent is
    the reply to a packet delivered just before — one OKAY per WRTE, one CLSE per CLSE, nothing for
    nothing; the deliveries are WRTEs followed by at most one more packet, so a CLSE is delivered at
    most once and last: nothing is sent on the stream after the CLSE that answers it. -/
theorem C04_replies_only (t : Txn) (w w' : World) (res : Except Err (List Bytes))
    (hl : lockTransport ∉ w.locks) (h : readUntilClose t w = (res, w')) :
    ∃ (evs : List TEv) (wrtes rest : List Pkt), w'.trace = evs ++ w.trace ∧
      delivered evs = wrtes ++ rest ∧ (∀ p ∈ wrtes, p.cmd = .WRTE) ∧ rest.length ≤ 1 ∧
      (∀ p ∈ rest, p.cmd = .WRTE ∨ p.cmd = .CLSE) ∧
      transmitted evs = (delivered evs).flatMap (streamReply (t.localId.getD 0) (t.remoteId.getD 0)) ∧
      exchanged evs = (delivered evs).flatMap
        (fun p => .rx p :: (streamReply (t.localId.getD 0) (t.remoteId.getD 0) p).map .tx) ∧
      yieldedBy evs = wrtes.map (·.data) := by
  obtain ⟨wrtes, rest, hw, _, hA, hres⟩ := readUntilClose_dlv h hl
  obtain ⟨evs, htr, hd, hx, hy, hex⟩ := hA.dt
  have hrest : rest.length ≤ 1 ∧ ∀ p ∈ rest, p.cmd = .WRTE ∨ p.cmd = .CLSE := by
    cases res with
    | ok items =>
      obtain ⟨_, c, rfl, hcc⟩ := hres
      exact ⟨by simp, by simp [hcc]⟩
    | error e =>
      rcases hres with rfl | ⟨p, rfl, hp⟩
      · exact ⟨by simp, by simp⟩
      · exact ⟨by simp, by simpa using hp⟩
  have hrm : replyMsgs t = streamReply (t.localId.getD 0) (t.remoteId.getD 0) := by
    funext p; simp [replyMsgs, streamReply, okayMsg, clseMsg]
  have hd' : delivered evs = wrtes ++ rest := by rw [hd, rxs_served]
  refine ⟨evs, wrtes, rest, htr, hd', hw, hrest.1, hrest.2, ?_, ?_, hy⟩
  · rw [hx, txs_served, hd', hrm]
  · rw [hex, hd', ← hrm]
    simp only [← replyOf_eq]; rfl

/-- `_clse` (host-initiated close), every outcome: exactly one message is sent, a CLSE with the
    stream's (local id, remote id), and it is sent FIRST; on a normal return exactly one packet was
    delivered after it, the device's CLSE; when it raises nothing was delivered. -/
theorem C04_host_close_once (t : Txn) (w w' : World) (res : Except Err Unit)
    (hl : lockTransport ∉ w.locks) (h : clse t w = (res, w')) :
    ∃ evs : List TEv, w'.trace = evs ++ w.trace ∧
      transmitted evs = [⟨.CLSE, t.localId.getD 0, t.remoteId.getD 0, []⟩] ∧
      (res = .ok () → ∃ c, c.cmd = .CLSE ∧ delivered evs = [c] ∧
          exchanged evs = [.tx ⟨.CLSE, t.localId.getD 0, t.remoteId.getD 0, []⟩, .rx c]) ∧
      ((∃ e, res = .error e) → delivered evs = []) := by
  have hs := clse_dlv h hl
  cases res with
  | ok u =>
    obtain ⟨c, hA, hcc, _⟩ := hs
    obtain ⟨evs, htr, hd, hx, _, hex⟩ := hA.dt
    exact ⟨evs, htr, hx, fun _ => ⟨c, hcc, hd, hex⟩, by simp⟩
  | error e =>
    have hA : Adds w w' [.tx (clseMsg t)] [] := hs
    obtain ⟨evs, htr, hd, hx, _⟩ := hA.dt
    exact ⟨evs, htr, hx, by simp, fun _ => hd⟩

/-- Every message sent by `_okay`, `_clse`, `_read_until`, `_read_until_close` and
    `_filesync_flush` — whatever their outcome — carries `(arg0, arg1) = (local id, remote id)` of
    the transaction it was called with. -/
theorem C04_ids (t : Txn) (w w' : World) (hl : lockTransport ∉ w.locks) :
    (∀ res, okay t w = (res, w') →
      ∃ evs : List TEv, w'.trace = evs ++ w.trace ∧ ∀ m ∈ transmitted evs, m.arg0 = t.localId.getD 0 ∧ m.arg1 = t.remoteId.getD 0) ∧
    (∀ res, clse t w = (res, w') →
      ∃ evs : List TEv, w'.trace = evs ++ w.trace ∧ ∀ m ∈ transmitted evs, m.arg0 = t.localId.getD 0 ∧ m.arg1 = t.remoteId.getD 0) ∧
    (∀ ex res, readUntil ex t w = (res, w') →
      ∃ evs : List TEv, w'.trace = evs ++ w.trace ∧ ∀ m ∈ transmitted evs, m.arg0 = t.localId.getD 0 ∧ m.arg1 = t.remoteId.getD 0) ∧
    (∀ res, readUntilClose t w = (res, w') →
      ∃ evs : List TEv, w'.trace = evs ++ w.trace ∧ ∀ m ∈ transmitted evs, m.arg0 = t.localId.getD 0 ∧ m.arg1 = t.remoteId.getD 0) ∧
    (∀ fi res, fsFlush t fi w = (res, w') →
      ∃ evs : List TEv, w'.trace = evs ++ w.trace ∧ ∀ m ∈ transmitted evs, m.arg0 = t.localId.getD 0 ∧ m.arg1 = t.remoteId.getD 0) := by
  -- it is enough to look at the transmissions of the exchange each function adds
  have key : ∀ {X Y}, Adds w w' X Y → (∀ m ∈ txs X, m.arg0 = t.localId.getD 0 ∧ m.arg1 = t.remoteId.getD 0) →
      ∃ evs : List TEv, w'.trace = evs ++ w.trace ∧
        ∀ m ∈ transmitted evs, m.arg0 = t.localId.getD 0 ∧ m.arg1 = t.remoteId.getD 0 := by
    intro X Y hA hX
    obtain ⟨evs, htr, _, hx, _⟩ := hA.dt
    exact ⟨evs, htr, by rwa [hx]⟩
  have hserved : ∀ L : List Pkt, ∀ m ∈ txs (L.flatMap (served t)), m.arg0 = t.localId.getD 0 ∧ m.arg1 = t.remoteId.getD 0 := by
    intro L m hm
    rw [txs_served] at hm
    obtain ⟨p, _, hp⟩ := List.mem_flatMap.1 hm
    exact replyMsgs_ids t p m hp
  refine ⟨fun res h => key (okay_dlv h hl) (by simp [okayMsg]), fun res h => ?_, fun ex res h => ?_, fun res h => ?_,
    fun fi res h => ?_⟩
  · have hs := clse_dlv h hl
    cases res with
    | ok u =>
      obtain ⟨c, hA, _⟩ := hs
      exact key hA (by simp [clseMsg])
    | error e => exact key (X := [.tx (clseMsg t)]) hs (by simp [clseMsg])
  · rcases readUntil_any h hl with hA | ⟨p, _, _, hA⟩
    · exact key hA (by simp)
    · refine key hA ?_
      unfold ackOf
      split <;> simp [okayMsg]
  · obtain ⟨wrtes, rest, _, _, hA, _⟩ := readUntilClose_dlv h hl
    exact key hA (hserved _)
  · obtain ⟨wrtes, rest, _, _, hA, _⟩ := fsFlush_dlv h hl
    refine key hA fun m hm => ?_
    rcases List.mem_cons.1 hm with rfl | hm
    · exact ⟨rfl, rfl⟩
    · exact hserved _ m hm

/-- Stop-and-wait: `_filesync_flush` hands its WRTE (the buffered records, with the stream's ids) to
    `_send` FIRST; what follows are device WRTEs delivered meanwhile, each acknowledged with one
    OKAY and appended to the receive buffer; it returns normally only after an OKAY packet has been
    delivered, which is the LAST event of the exchange. The host therefore cannot send a second WRTE
    before the device has acknowledged the previous one. When it raises, no OKAY was delivered. -/
theorem C04_stop_and_wait (t : Txn) (fi : FsInfo) (w w' : World) (hl : lockTransport ∉ w.locks) :
    (∀ fi', fsFlush t fi w = (.ok fi', w') →
      ∃ (evs : List TEv) (wrtes : List Pkt) (o : Pkt), w'.trace = evs ++ w.trace ∧
        o.cmd = .OKAY ∧ (∀ p ∈ wrtes, p.cmd = .WRTE) ∧ delivered evs = wrtes ++ [o] ∧
        transmitted evs = ⟨.WRTE, t.localId.getD 0, t.remoteId.getD 0, fi.sendBuf⟩ ::
          wrtes.map (fun _ => (⟨.OKAY, t.localId.getD 0, t.remoteId.getD 0, []⟩ : Msg)) ∧
        exchanged evs = .tx ⟨.WRTE, t.localId.getD 0, t.remoteId.getD 0, fi.sendBuf⟩ ::
          wrtes.flatMap (fun p => [Xfer.rx p, .tx ⟨.OKAY, t.localId.getD 0, t.remoteId.getD 0, []⟩]) ++ [.rx o] ∧
        fi'.sendBuf = [] ∧ fi'.recvBuf = fi.recvBuf ++ (wrtes.map (·.data)).flatten) ∧
    (∀ e, fsFlush t fi w = (.error e, w') →
      ∃ evs : List TEv, w'.trace = evs ++ w.trace ∧ ∀ p ∈ delivered evs, p.cmd = .WRTE) := by
  constructor
  · intro fi' h
    obtain ⟨wrtes, rest, hw, _, hA, ⟨o, rfl, hoc⟩, hsb, hrb⟩ := fsFlush_dlv h hl
    obtain ⟨evs, htr, hd, hx, _, hex⟩ := hA.dt
    refine ⟨evs, wrtes, o, htr, hoc, hw, ?_, ?_, ?_, hsb, hrb⟩
    · rw [hd, List.singleton_append, rxs_cons_tx, rxs_served]
    · rw [hx, List.singleton_append, txs_cons_tx, txs_served, List.flatMap_append, replyMsgs_wrtes t hw]
      simp [replyMsgs, hoc, wrteMsg, okayMsg]
    · rw [hex, List.flatMap_append, served_wrtes t hw]
      simp [served, replyOf, hoc, wrteMsg, okayMsg]
  · intro e h
    obtain ⟨wrtes, rest, hw, _, hA, hres⟩ := fsFlush_dlv h hl
    obtain ⟨evs, htr, hd, _⟩ := hA.dt
    refine ⟨evs, htr, ?_⟩
    rw [hd]
    simp only [List.singleton_append, rxs_cons_tx, rxs_served]
    intro p hp
    rcases List.mem_append.1 hp with hp | hp
    · exact hw p hp
    · rcases hres with rfl | ⟨q, rfl, hq⟩
      · simp at hp
      · simp only [List.mem_singleton] at hp; subst hp; exact hq

/-- A whole shell / exec_out / streaming_shell stream (`_streaming_command`) on an idle device,
    EVERY outcome: what the host sends is the OPEN, followed by exactly the replies to the packets
    delivered after the device's OKAY — one OKAY per WRTE, one CLSE for the CLSE — and every one of
    them carries (the local id of the OPEN, the remote id announced in the device's OKAY). -/
theorem C04_stream_conversation (svc cmd : Bytes) (tt rt total : Timeout) (w w' : World) (res : Except Err (List Bytes))
    (hl : w.locks = []) (h : streamingCommand svc cmd tt rt total w = (res, w')) :
    ∃ evs : List TEv, w'.trace = evs ++ w.trace ∧
      ((delivered evs = [] ∧ (transmitted evs = [] ∨ transmitted evs = [⟨.OPEN, nextId w.localId, 0, svc ++ [58] ++ cmd ++ [0]⟩])) ∨
       ∃ (okay : Pkt) (pkts : List Pkt), delivered evs = okay :: pkts ∧ okay.cmd = .OKAY ∧ okay.arg1 = nextId w.localId ∧
          transmitted evs = ⟨.OPEN, nextId w.localId, 0, svc ++ [58] ++ cmd ++ [0]⟩ ::
            pkts.flatMap (streamReply (nextId w.localId) okay.arg0) ∧
          exchanged evs = .tx ⟨.OPEN, nextId w.localId, 0, svc ++ [58] ++ cmd ++ [0]⟩ :: .rx okay ::
            pkts.flatMap (fun p => .rx p :: (streamReply (nextId w.localId) okay.arg0 p).map .tx)) := by
  obtain ⟨evs, htr, hcase⟩ := streamingCommand_any h hl
  refine ⟨evs, htr, ?_⟩
  rcases hcase with ⟨_, hd, _, hx⟩ | ⟨okay, wrtes, rest, hd, hoc, ho1, _, _, _, _, _, _, hx, hex⟩
  · exact Or.inl ⟨hd, hx⟩
  · exact Or.inr ⟨okay, wrtes ++ rest, hd, hoc, ho1, hx, hex⟩

/-! Non-vacuity, evaluated by the kernel.  `demoWorld pkts` is a connected idle device whose peer sends
    `pkts`; `demoShellWorld` (see C01) answers an OPEN; `demoTxn` is the stream (local 1, remote 77). -/

/-- `_open` returns normally on an idle device (hypotheses of `C04_open_shape`) -/
example : demoShellWorld.locks = [] ∧
    (openStream (ascii "shell:ls") none (some 10240) none demoShellWorld).1
      = .ok ⟨some 1, some 77, some 10240, some 10240, none⟩ :=
  ⟨rfl, ok_of_toOption (by decide +kernel)⟩

/-- the conversation of a complete `shell` call -/
example :
    exchanged (service (ascii "shell") [108, 115] none (some 10240) none false demoShellWorld).2.trace =
      [.tx ⟨.OPEN, 1, 0, ascii "shell:ls" ++ [0]⟩, .rx ⟨.OKAY, 77, 1, []⟩,
       .rx ⟨.WRTE, 77, 1, [0xE2, 0x82]⟩, .tx ⟨.OKAY, 1, 77, []⟩,
       .rx ⟨.WRTE, 77, 1, [0xAC, 0x21]⟩, .tx ⟨.OKAY, 1, 77, []⟩,
       .rx ⟨.CLSE, 77, 1, []⟩, .tx ⟨.CLSE, 1, 77, []⟩] := by decide +kernel

/-- `_read_until` delivering a WRTE: acknowledged once, after the delivery -/
example : lockTransport ∉ (demoWorld [⟨.WRTE, 77, 1, [104]⟩]).locks ∧
    (readUntil [.CLSE, .WRTE] demoTxn (demoWorld [⟨.WRTE, 77, 1, [104]⟩])).1 = .ok (.WRTE, [104]) ∧
    exchanged (readUntil [.CLSE, .WRTE] demoTxn (demoWorld [⟨.WRTE, 77, 1, [104]⟩])).2.trace
      = [.rx ⟨.WRTE, 77, 1, [104]⟩, .tx ⟨.OKAY, 1, 77, []⟩] :=
  have h : _ ∧ _ := by decide +kernel
  ⟨by decide, ok_of_toOption h.1, h.2⟩

/-- `_read_until_close`: a WRTE, an unexpected OKAY (dropped, no reply), a WRTE with the legacy zero
    remote id, then the CLSE -/
example :
    (readUntilClose demoTxn (demoWorld [⟨.WRTE, 77, 1, [104]⟩, ⟨.OKAY, 77, 1, []⟩, ⟨.WRTE, 0, 1, [105]⟩, ⟨.CLSE, 77, 1, []⟩])).1
      = .ok [[104], [105]] ∧
    exchanged (readUntilClose demoTxn
        (demoWorld [⟨.WRTE, 77, 1, [104]⟩, ⟨.OKAY, 77, 1, []⟩, ⟨.WRTE, 0, 1, [105]⟩, ⟨.CLSE, 77, 1, []⟩])).2.trace
      = [.rx ⟨.WRTE, 77, 1, [104]⟩, .tx ⟨.OKAY, 1, 77, []⟩, .rx ⟨.WRTE, 0, 1, [105]⟩, .tx ⟨.OKAY, 1, 77, []⟩,
         .rx ⟨.CLSE, 77, 1, []⟩, .tx ⟨.CLSE, 1, 77, []⟩] :=
  have h : _ ∧ _ := by decide +kernel
  ⟨ok_of_toOption h.1, h.2⟩

/-- host-initiated close -/
example :
    (clse demoTxn (demoWorld [⟨.CLSE, 77, 1, []⟩])).1 = .ok () ∧
    exchanged (clse demoTxn (demoWorld [⟨.CLSE, 77, 1, []⟩])).2.trace
      = [.tx ⟨.CLSE, 1, 77, []⟩, .rx ⟨.CLSE, 77, 1, []⟩] :=
  have h : _ ∧ _ := by decide +kernel
  ⟨ok_of_toOption h.1, h.2⟩

/-- `_filesync_flush`: WRTE out, a device WRTE acknowledged and buffered meanwhile, then the OKAY -/
example :
    ((fsFlush demoTxn { fmt := .stat, maxdata := 4096, sendBuf := [1, 2, 3] }
        (demoWorld [⟨.WRTE, 77, 1, [9]⟩, ⟨.OKAY, 77, 1, []⟩])).1.toOption.map (fun fi => (fi.sendBuf, fi.recvBuf)))
      = some ([], [9]) ∧
    exchanged (fsFlush demoTxn { fmt := .stat, maxdata := 4096, sendBuf := [1, 2, 3] }
        (demoWorld [⟨.WRTE, 77, 1, [9]⟩, ⟨.OKAY, 77, 1, []⟩])).2.trace
      = [.tx ⟨.WRTE, 1, 77, [1, 2, 3]⟩, .rx ⟨.WRTE, 77, 1, [9]⟩, .tx ⟨.OKAY, 1, 77, []⟩, .rx ⟨.OKAY, 77, 1, []⟩] := by
  decide +kernel

end Adb
