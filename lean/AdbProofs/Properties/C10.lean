import AdbProofs.Lemmas.SyncDevice
import AdbProofs.Lemmas.SyncExamples
/-
  C10 — sync failures.  If the device answers with a sync FAIL at any point of a transfer, pull
  raises AdbCommandFailureException and push raises PushFailedError, each carrying the device's
  message; a sync status record that is not valid at that point raises InvalidResponseError.  The
  call never returns as if it had succeeded and never substitutes a timeout for a failure the
  device already reported.

  Conventions as in C08: `evs` are the events a call added; `Push.deliveredWrteData evs` is the
  FileSync byte stream handed over by them; `SR.parse` / `SR.parseRec` / `SR.Recs` the reference
  parser.  Exceptions that can pre-empt the parser are spelled out, not hidden:
  * `SR.Aborted t fi w evs e w'` — `e` was raised below the parser: the model's loop budget ran out
    (`.hang` after ≥ `w.fuel` delivered packets), or `_filesync_flush` of the pending request raised
    (sending it, or waiting for its OKAY), or a `_read_until([WRTE])` raised while the bytes handed
    over so far held no complete record;
  * `SR.SendFailed t fi w evs e w'` — what remains of `Aborted` once a COMPLETE record was delivered:
    budget, flush failure (only possible when `fi.sendBuf ≠ []`), or the failure to SEND the OKAY
    acknowledging a delivered WRTE (`_read_until` calls `_okay` before it returns the data — the
    library's behaviour);
  * `SR.PullPreempted` — for `pull` as a whole: exceptions before the transfer (guards, `_open`,
    sending the RECV request) or below the parser during it.  An exception of `_clse` is NOT among
    them: since the repair of the `finally`-masking defect (`pull` now closes the stream in an
    `except BaseException` handler that swallows the close's own exception and re-raises) the close
    still runs on every path but can no longer replace the transfer's exception
    (`C10_pull_close_cannot_mask`, and the last example as a regression test).
  So, once nothing is pending in the send buffer and a complete FAIL record has been delivered,
  neither `_filesync_read` nor `pull` waits for more input before the failure is the one reported:
  no read timeout can take the place of the failure.
-/
namespace Adb
open Adb.SR

/-- Every outcome of `_filesync_read(expected)` classified by the reference parser applied to the
    reassembled stream: a normal return hands back exactly the next record and its id is expected;
    `AdbCommandFailureException(m)` means the next record is a FAIL carrying `m` and FAIL was not
    expected; `InvalidResponseError` means the next record is a known one that is neither expected nor
    FAIL; `KeyError` means a complete header with an unknown id word; every other exception was
    raised below the parser (`Aborted`). -/
theorem C10_fsRead_outcomes (expected : List SyncId) (t : Txn) (fi : FsInfo) (w w' : World)
    (res : Except Err (SyncRec × FsInfo)) (evs : List TEv)
    (h : fsRead expected t fi w = (res, w')) (hev : w'.trace = evs ++ w.trace) :
    match res with
    | .ok (r, fi') => parseRec fi.fmt (fi.recvBuf ++ Push.deliveredWrteData evs) = some (r, fi'.recvBuf) ∧ r.id ∈ expected
    | .error e =>
      (∃ f m rest, e = .adbCommandFailure m ∧ SyncId.FAIL ∉ expected ∧
        parseRec fi.fmt (fi.recvBuf ++ Push.deliveredWrteData evs) = some (⟨.FAIL, f, some m⟩, rest)) ∨
      (∃ r rest, e = .invalidResponse ∧ r.id ∉ expected ∧ r.id ≠ SyncId.FAIL ∧
        parseRec fi.fmt (fi.recvBuf ++ Push.deliveredWrteData evs) = some (r, rest)) ∨
      (∃ word, e = .pyKeyError ∧ parse fi.fmt (fi.recvBuf ++ Push.deliveredWrteData evs) = .badId word) ∨
      Aborted t fi w evs e w' := by
  have hp := fsRead_post h hev
  cases res with
  | ok v =>
    obtain ⟨r, fi'⟩ := v
    simp only [SR.ReadPost] at hp
    exact ⟨parseRec_eq_some.2 hp.1, hp.2.1⟩
  | error e =>
    simp only [SR.ReadPost] at hp
    rcases hp with ⟨f, m, rest, h1, h2, h3⟩ | ⟨r, rest, h1, h2, h3, h4⟩ | h3 | h4
    · exact Or.inl ⟨f, m, rest, h1, h2, parseRec_eq_some.2 h3⟩
    · exact Or.inr (Or.inl ⟨r, rest, h1, h2, h3, parseRec_eq_some.2 h4⟩)
    · exact Or.inr (Or.inr (Or.inl h3))
    · exact Or.inr (Or.inr (Or.inr h4))

/-- A FAIL surfaces: if the next record of the reassembled stream is a FAIL with message `m`, fully
    delivered, and FAIL is not among the expected ids, `_filesync_read` raises
    `AdbCommandFailureException(m)` — it does not return normally and raises nothing else, except when
    the loop budget ran out, flushing a pending request raised, or SENDING the OKAY for a delivered
    WRTE failed (`SendFailed`). -/
theorem C10_fail_surfaces (expected : List SyncId) (t : Txn) (fi : FsInfo) (w w' : World)
    (res : Except Err (SyncRec × FsInfo)) (evs : List TEv) (f : List Nat) (m rest : Bytes)
    (h : fsRead expected t fi w = (res, w')) (hev : w'.trace = evs ++ w.trace)
    (hp : parseRec fi.fmt (fi.recvBuf ++ Push.deliveredWrteData evs) = some (⟨.FAIL, f, some m⟩, rest))
    (hne : SyncId.FAIL ∉ expected) :
    res = .error (.adbCommandFailure m) ∨ ∃ e, res = .error e ∧ SendFailed t fi w evs e w' := by
  have hpost := fsRead_post h hev
  have hp' := parseRec_eq_some.1 hp
  have hag := ReadPost.against hpost [] (by simpa using hp')
  rcases res with e | ⟨r, fi'⟩
  · rcases hag with ⟨f', m', rfl, hr, -⟩ | ⟨-, -, hnf⟩ | hab
    · cases hr; exact Or.inl rfl
    · exact absurd rfl hnf
    · exact Or.inr ⟨e, rfl, hab.refine hev (by rw [hp']; simp)⟩
  · exact absurd hag.2.2 hne

/-- An invalid status record: a fully delivered known record whose id is neither expected nor FAIL
    makes `_filesync_read` raise `InvalidResponseError` (same exceptions as above apart). -/
theorem C10_invalid_record (expected : List SyncId) (t : Txn) (fi : FsInfo) (w w' : World)
    (res : Except Err (SyncRec × FsInfo)) (evs : List TEv) (r : SyncRec) (rest : Bytes)
    (h : fsRead expected t fi w = (res, w')) (hev : w'.trace = evs ++ w.trace)
    (hp : parseRec fi.fmt (fi.recvBuf ++ Push.deliveredWrteData evs) = some (r, rest))
    (hne : r.id ∉ expected) (hnf : r.id ≠ SyncId.FAIL) :
    res = .error .invalidResponse ∨ ∃ e, res = .error e ∧ SendFailed t fi w evs e w' := by
  have hpost := fsRead_post h hev
  have hp' := parseRec_eq_some.1 hp
  have hag := ReadPost.against hpost [] (by simpa using hp')
  rcases res with e | ⟨r', fi'⟩
  · rcases hag with ⟨f', m', -, hr, -⟩ | ⟨rfl, -, -⟩ | hab
    · rw [hr] at hnf; exact absurd rfl hnf
    · exact Or.inl rfl
    · exact Or.inr ⟨e, rfl, hab.refine hev (by rw [hp']; simp)⟩
  · exact absurd hag.2.2 hne

/-- An unknown id word in a fully delivered header makes `_filesync_read` raise `KeyError`
    (`constants.FILESYNC_WIRE_TO_ID[header[0]]`), same exceptions apart. -/
theorem C10_unknown_id (expected : List SyncId) (t : Txn) (fi : FsInfo) (w w' : World)
    (res : Except Err (SyncRec × FsInfo)) (evs : List TEv) (word : Nat)
    (h : fsRead expected t fi w = (res, w')) (hev : w'.trace = evs ++ w.trace)
    (hp : parse fi.fmt (fi.recvBuf ++ Push.deliveredWrteData evs) = .badId word) :
    res = .error .pyKeyError ∨ ∃ e, res = .error e ∧ SendFailed t fi w evs e w' := by
  have hpost := fsRead_post h hev
  rcases res with e | ⟨r', fi'⟩
  · rcases hpost with ⟨f, m, rest, -, -, h3⟩ | ⟨r, rest, -, -, -, h4⟩ | ⟨wd, rfl, -⟩ | hab
    · rw [hp] at h3; cases h3
    · rw [hp] at h4; cases h4
    · exact Or.inl rfl
    · exact Or.inr ⟨e, rfl, hab.refine hev (by rw [hp]; simp)⟩
  · have h1 := hpost.1
    rw [hp] at h1
    cases h1

/-- The status read of `_push`, every outcome: it returns normally ONLY if the next record of the
    reassembled stream is an OKAY; a FAIL record raises `PushFailedError` carrying exactly the record's
    data; any other known id raises `InvalidResponseError`, an unknown id `KeyError`; every other
    exception was raised below the parser. -/
theorem C10_push_status (t : Txn) (fi : FsInfo) (w w' : World) (res : Except Err Unit) (evs : List TEv)
    (h : pushStatus t fi w = (res, w')) (hev : w'.trace = evs ++ w.trace) :
    (res = .ok () ∧ ∃ r rest, parseRec fi.fmt (fi.recvBuf ++ Push.deliveredWrteData evs) = some (r, rest) ∧ r.id = SyncId.OKAY) ∨
    (∃ r rest, res = .error (.pushFailed (r.data.getD [])) ∧
      parseRec fi.fmt (fi.recvBuf ++ Push.deliveredWrteData evs) = some (r, rest) ∧ r.id = SyncId.FAIL) ∨
    (∃ r rest, res = .error .invalidResponse ∧
      parseRec fi.fmt (fi.recvBuf ++ Push.deliveredWrteData evs) = some (r, rest) ∧ r.id ≠ SyncId.OKAY ∧ r.id ≠ SyncId.FAIL) ∨
    (∃ word, res = .error .pyKeyError ∧ parse fi.fmt (fi.recvBuf ++ Push.deliveredWrteData evs) = .badId word) ∨
    (∃ e, res = .error e ∧ Aborted t fi w evs e w') := by
  obtain ⟨x, hx, hres⟩ := pushStatus_any h
  have hcl := C10_fsRead_outcomes _ _ _ _ _ _ _ hx hev
  cases x with
  | ok v =>
    obtain ⟨r, fi'⟩ := v
    simp only at hres hcl
    rcases hres with ⟨hid, rfl⟩ | ⟨hid, rfl⟩
    · exact Or.inl ⟨rfl, r, _, hcl.1, hid⟩
    · exact Or.inr (Or.inl ⟨r, _, rfl, hcl.1, hid⟩)
  | error e =>
    simp only at hres hcl
    subst hres
    rcases hcl with ⟨f, m, rest, -, hne, -⟩ | ⟨r, rest, rfl, hne, -, hp⟩ | ⟨word, rfl, hp⟩ | hab
    · exact absurd (by simp) hne
    · refine Or.inr (Or.inr (Or.inl ⟨r, rest, rfl, hp, ?_, ?_⟩))
      · intro h; exact hne (by simp [h])
      · intro h; exact hne (by simp [h])
    · exact Or.inr (Or.inr (Or.inr (Or.inl ⟨word, rfl, hp⟩)))
    · exact Or.inr (Or.inr (Or.inr (Or.inr ⟨e, rfl, hab⟩)))

/-- push raises `PushFailedError` with the device's message: if the next record of the reassembled
    stream is a FAIL carrying `m`, fully delivered, the status read raises `PushFailedError(m)` —
    never returns normally — budget and send failures apart. -/
theorem C10_push_fail (t : Txn) (fi : FsInfo) (w w' : World) (res : Except Err Unit) (evs : List TEv)
    (f : List Nat) (m rest : Bytes)
    (h : pushStatus t fi w = (res, w')) (hev : w'.trace = evs ++ w.trace)
    (hp : parseRec fi.fmt (fi.recvBuf ++ Push.deliveredWrteData evs) = some (⟨.FAIL, f, some m⟩, rest)) :
    res = .error (.pushFailed m) ∨ ∃ e, res = .error e ∧ SendFailed t fi w evs e w' := by
  rcases C10_push_status t fi w w' res evs h hev with ⟨-, r, rest', hp', hid⟩ | ⟨r, rest', rfl, hp', -⟩ |
      ⟨r, rest', -, hp', -, hnf⟩ | ⟨word, -, hp'⟩ | ⟨e, rfl, hab⟩
  · rw [hp] at hp'; cases hp'; cases hid
  · rw [hp] at hp'; cases hp'; exact Or.inl rfl
  · rw [hp] at hp'; cases hp'; exact absurd rfl hnf
  · rw [parseRec_eq_some.1 hp] at hp'; cases hp'
  · exact Or.inr ⟨e, rfl, hab.refine hev (by rw [parseRec_eq_some.1 hp]; simp)⟩

/-- FAIL at any point of a pull transfer: if the reassembled stream of the loop of `_pull` is any
    number of DATA records followed by a FAIL record carrying `m`, the loop raises
    `AdbCommandFailureException(m)`; it never returns normally; any other exception was raised below
    the parser in one of the `_filesync_read` calls (or is the model's loop-budget verdict). -/
theorem C10_pull_fail_at_any_point (devPath : Bytes) (cb : CbMode) (total : Nat) (t : Txn) (fuel : Nat) (fi : FsInfo)
    (w w' : World) (evs : List TEv) (res : Except Err Unit) (datas : List Bytes) (mid rest : Bytes) (f : List Nat) (m : Bytes)
    (h : pullLoop devPath cb total t fuel fi w = (res, w')) (hev : w'.trace = evs ++ w.trace) (hfmt : fi.fmt = .pull)
    (hrecs : Recs .pull (fi.recvBuf ++ Push.deliveredWrteData evs) (datas.map dataRec) mid)
    (hfail : parseRec .pull mid = some (⟨.FAIL, f, some m⟩, rest)) :
    res = .error (.adbCommandFailure m) ∨ ∃ e, res = .error e ∧ LoopAborted t e w' :=
  pullLoop_fail h hev hfmt hrecs (parseRec_eq_some.1 hfail)

/-- … and of a list transfer: DENT records followed by a FAIL record. -/
theorem C10_list_fail_at_any_point (t : Txn) (fuel : Nat) (fi : FsInfo) (acc : List (Bytes × Nat × Nat × Nat))
    (w w' : World) (evs : List TEv) (res : Except Err (List (Bytes × Nat × Nat × Nat))) (dents : List SyncRec)
    (mid rest : Bytes) (f : List Nat) (m : Bytes)
    (h : listLoop t fuel fi acc w = (res, w')) (hev : w'.trace = evs ++ w.trace) (hfmt : fi.fmt = .list)
    (hrecs : Recs .list (fi.recvBuf ++ Push.deliveredWrteData evs) dents mid) (hdents : ∀ r ∈ dents, r.id = SyncId.DENT)
    (hfail : parseRec .list mid = some (⟨.FAIL, f, some m⟩, rest)) :
    res = .error (.adbCommandFailure m) ∨ ∃ e, res = .error e ∧ LoopAborted t e w' :=
  listLoop_fail h hev hfmt hrecs hdents (parseRec_eq_some.1 hfail)

/-- `pull` as a whole (no callback, idle device), every outcome, when the WRTE payloads delivered
    during the call are DATA records followed by a FAIL record carrying `m`: the call raises
    `AdbCommandFailureException(m)`, whatever the close handshake does afterwards (the device may
    never send its CLSE, `_clse` may time out: the failure is still the one reported) — unless an
    exception pre-empted the parser: a guard or `_open` raised, the RECV request could not be sent,
    the acknowledgement of a delivered WRTE could not be sent, or the model's loop budget ran out
    (`PullPreempted`). -/
theorem C10_pull_fail (devPath : Bytes) (tt rt : Timeout) (w w' : World) (res : Except Err Val) (evs : List TEv)
    (chunks : List Bytes) (mid rest : Bytes) (f : List Nat) (m : Bytes)
    (h : devPull devPath .none tt rt w = (res, w')) (hev : w'.trace = evs ++ w.trace) (hl : w.locks = [])
    (hrecs : Recs .pull (Push.deliveredWrteData evs) (chunks.map dataRec) mid)
    (hfail : parseRec .pull mid = some (⟨.FAIL, f, some m⟩, rest)) :
    res = .error (.adbCommandFailure m) ∨ ∃ e, res = .error e ∧ PullPreempted devPath tt rt w e w' := by
  replace hfail := parseRec_eq_some.1 hfail
  rcases devPull_inv h with ⟨e, he, hg⟩ | ⟨e, w0, he, -, ho⟩ | ⟨w0, t, w1, r1, w2, r2, h0, h1, hin, hcl, hres⟩
  · exact Or.inr ⟨e, he, Or.inl hg⟩
  · exact Or.inr ⟨e, he, Or.inr (Or.inl ⟨_, ho⟩)⟩
  · obtain ⟨ePre, e2, eCl, hevs, he2, -, hdw, hpre, -⟩ := devPull_events h0 h1 hin hcl hev (locks_nil_transport hl)
    rw [dwd_split hevs hdw (hpre hl)] at hrecs
    rcases pullInner_none_any hin with ⟨e, hr1, hs⟩ | ⟨fi1, wb, hs, hloop⟩
    · subst hr1
      exact Or.inr ⟨e, hres, Or.inr (Or.inr (Or.inl ⟨t, _, _, _, hs⟩))⟩
    · obtain ⟨es, hes⟩ := Push.Fr.evs (Fr_fsSend _ _ _ _ _) hs
      obtain ⟨el, hel⟩ := Push.Fr.evs (Fr_pullLoop _ _ _ _ _ _) hloop
      have he2' : e2 = el ++ es := Push.evs_split hes hel he2
      have hrb := fsSend_recv hs hes
      obtain ⟨-, -, hfmt, -, -⟩ := Push.fsSend_ok hs hes
      rw [he2', Push.deliveredWrteData_append] at hrecs
      have hrecs' : Recs .pull (fi1.recvBuf ++ Push.deliveredWrteData el) (chunks.map dataRec) mid := by
        rw [hrb]; exact hrecs
      rcases pullLoop_fail hloop hel hfmt hrecs' hfail with hr1 | ⟨e, hr1, hab⟩
      · subst hr1
        exact Or.inl hres
      · subst hr1
        exact Or.inr ⟨e, hres, Or.inr (Or.inr (Or.inr ⟨t, w2, hab⟩))⟩

/-- The close cannot mask the transfer's exception: in a `pull` that got past the guards and `_open`,
    if `_pull` raised `e` then `pull` raises exactly `e` — and `_clse` still ran, with whatever
    outcome `r2`. -/
theorem C10_pull_close_cannot_mask (devPath : Bytes) (cb : CbMode) (tt rt : Timeout) (w w' w0 w1 w2 : World)
    (res : Except Err Val) (t : Txn) (e : Err)
    (h : devPull devPath cb tt rt w = (res, w'))
    (h0 : runGuards (guardsFor "pull") (some devPath) w = (.ok (), w0))
    (h1 : openStream (ascii "sync:") tt rt none { w0 with sink := some [] } = (.ok t, w1))
    (hin : pullInner devPath cb t { fmt := .pull, maxdata := w1.maxdata } w1 = (.error e, w2)) :
    res = .error e ∧ ∃ r2, clse t w2 = (r2, w') := by
  rcases devPull_inv h with ⟨e', -, hg⟩ | ⟨e', w0', -, hg, ho⟩ | ⟨w0', t', w1', r1, w2', r2, h0', h1', hin', hcl, hres⟩
  · rw [h0] at hg; cases hg
  · rw [h0] at hg; cases hg
    rw [h1] at ho; cases ho
  · rw [h0] at h0'; cases h0'
    rw [h1] at h1'; cases h1'
    rw [hin] at hin'; cases hin'
    exact ⟨hres, r2, hcl⟩

/-- Never as if it had succeeded: `_pull`'s loop, `list`'s loop and `stat` return normally only if
    every record consumed had an expected id — DATA…DONE, DENT…DONE, STAT respectively; in particular
    a stream read as non-DONE records followed by a FAIL record excludes a normal return. -/
theorem C10_never_ok_on_fail :
    (∀ (devPath : Bytes) (cb : CbMode) (total : Nat) (t : Txn) (fuel : Nat) (fi : FsInfo) (w w' : World) (evs : List TEv)
        (b : List SyncRec) (mid rest : Bytes) (fl : SyncRec),
      pullLoop devPath cb total t fuel fi w = (.ok (), w') → w'.trace = evs ++ w.trace → fi.fmt = .pull →
      Recs .pull (fi.recvBuf ++ Push.deliveredWrteData evs) b mid → (∀ y ∈ b, y.id ≠ SyncId.DONE) →
      parseRec .pull mid = some (fl, rest) → fl.id ≠ SyncId.FAIL) ∧
    (∀ (t : Txn) (fuel : Nat) (fi : FsInfo) (files : List (Bytes × Nat × Nat × Nat)) (w w' : World) (evs : List TEv)
        (b : List SyncRec) (mid rest : Bytes) (fl : SyncRec),
      listLoop t fuel fi [] w = (.ok files, w') → w'.trace = evs ++ w.trace → fi.fmt = .list →
      Recs .list (fi.recvBuf ++ Push.deliveredWrteData evs) b mid → (∀ y ∈ b, y.id ≠ SyncId.DONE) →
      parseRec .list mid = some (fl, rest) → fl.id ≠ SyncId.FAIL) ∧
    (∀ (devPath : Bytes) (tt rt : Timeout) (w w' : World) (v : Val) (evs : List TEv) (fl : SyncRec) (rest : Bytes),
      devStat devPath tt rt w = (.ok v, w') → w'.trace = evs ++ w.trace → w.locks = [] →
      parseRec .stat (Push.deliveredWrteData evs) = some (fl, rest) → fl.id = SyncId.STAT) := by
  refine ⟨?_, ?_, ?_⟩
  · intro devPath cb total t fuel fi w w' evs b mid rest fl h hev hfmt hb hnd hp hfl
    obtain ⟨datas, done, rest', hrecs, hdone, -, -⟩ := pullLoop_ok h hev hfmt
    exact Recs.no_fail hrecs (fun x hx => by rw [id_of_mem_dataRecs hx]; decide)
      hdone hb hnd (parseRec_eq_some.1 hp) hfl
  · intro t fuel fi files w w' evs b mid rest fl h hev hfmt hb hnd hp hfl
    obtain ⟨dents, done, rest', hrecs, hdone, hall, -⟩ := listLoop_ok h hev hfmt
    exact Recs.no_fail hrecs (by intro x hx; rw [(hall x hx).1]; decide) hdone hb hnd (parseRec_eq_some.1 hp) hfl
  · intro devPath tt rt w w' v evs fl rest h hev hl hp
    obtain ⟨t, w0, w1, ePre, eX, eCl, c, mode, size, mtime, rest', hph, hp', -, -, hpre⟩ :=
      devStat_exact h hev (locks_nil_transport hl)
    rw [← hph.dwd (hpre hl), parseRec_eq_some.1 hp] at hp'
    cases hp'
    rfl

/-! ### non-vacuity -/

/-- the reference parser on a FAIL record, on an unknown id, on an incomplete record -/
example : parseRec .pull (Push.syncRec .FAIL 2 [110, 111] ++ [5]) = some (⟨.FAIL, [], some [110, 111]⟩, [5]) ∧
    parse .pull (le32 7 ++ le32 0) = .badId 7 ∧ parse .pull ((Push.syncRec .FAIL 2 [110, 111]).take 9) = .more := by
  decide +kernel

/-- `_filesync_read([DATA, DONE])` on a FAIL record cut inside its data raises the failure with the message;
    the hypotheses of `C10_fail_surfaces` hold -/
example : errOf (fsRead [.DATA, .DONE] sxT { fmt := .pull, maxdata := 4096 } (wRec (Push.syncRec .FAIL 2 [110, 111]) 9)).1
      = some (.adbCommandFailure [110, 111]) ∧
    parseRec .pull ([] ++ Push.deliveredWrteData
      (fsRead [.DATA, .DONE] sxT { fmt := .pull, maxdata := 4096 } (wRec (Push.syncRec .FAIL 2 [110, 111]) 9)).2.trace)
      = some (⟨.FAIL, [], some [110, 111]⟩, []) := by
  decide +kernel

/-- an OKAY record where DATA/DONE is expected raises InvalidResponseError; an unknown id raises KeyError -/
example : errOf (fsRead [.DATA, .DONE] sxT { fmt := .pull, maxdata := 4096 } (wRec (Push.syncRec .OKAY 0 []) 3)).1
      = some .invalidResponse ∧
    errOf (fsRead [.DATA, .DONE] sxT { fmt := .pull, maxdata := 4096 } (wRec (le32 7 ++ le32 0) 3)).1 = some .pyKeyError := by
  decide +kernel

/-- the status read of a push answered by FAIL "no" raises PushFailedError "no"; answered by OKAY it returns -/
example : errOf (pushStatus sxT { fmt := .push, maxdata := 4096 } (wRec (Push.syncRec .FAIL 2 [110, 111]) 4)).1
      = some (.pushFailed [110, 111]) ∧
    (pushStatus sxT { fmt := .push, maxdata := 4096 } (wRec (Push.syncRec .OKAY 0 []) 4)).1.toOption = some () := by
  decide +kernel

/-- a whole pull answered by DATA [1,2,3] then FAIL "no": AdbCommandFailureException "no"; the hypotheses of
    `C10_pull_fail` hold (idle device; the delivered stream is one DATA record followed by the FAIL record) -/
example : errOf (devPull sxPath .none (some 10) (some 10) wPullFail).1 = some (.adbCommandFailure [110, 111]) ∧
    wPullFail.locks = [] ∧
    Push.deliveredWrteData (devPull sxPath .none (some 10) (some 10) wPullFail).2.trace
      = Push.syncRec .DATA 3 [1, 2, 3] ++ Push.syncRec .FAIL 2 [110, 111] ∧
    parseRec .pull (Push.syncRec .DATA 3 [1, 2, 3] ++ Push.syncRec .FAIL 2 [110, 111])
      = some (dataRec [1, 2, 3], Push.syncRec .FAIL 2 [110, 111]) ∧
    parseRec .pull (Push.syncRec .FAIL 2 [110, 111]) = some (⟨.FAIL, [], some [110, 111]⟩, []) :=
  ⟨run_wPullFail.1, rfl, run_wPullFail.2.2, by decide +kernel, by decide +kernel⟩

/-- a `list` answered by one DENT and then FAIL "no": AdbCommandFailureException "no" -/
example : errOf (devList sxPath (some 10) (some 10) wListFail).1 = some (.adbCommandFailure [110, 111]) := by
  decide +kernel

/-- The `SendFailed` exception is not an artefact of the proof: here the device's complete FAIL "no" was
    delivered, but sending the OKAY that acknowledges its WRTE meets a write timeout — `_filesync_read`
    raises the transport's timeout error, not AdbCommandFailureException. -/
example : errOf (fsRead [.DATA, .DONE] sxT { fmt := .pull, maxdata := 4096 } wAckFail).1 = some .transportTimeout ∧
    parseRec .pull (Push.deliveredWrteData (fsRead [.DATA, .DONE] sxT { fmt := .pull, maxdata := 4096 } wAckFail).2.trace)
      = some (⟨.FAIL, [], some [110, 111]⟩, []) := by
  decide +kernel

/-- Regression example for the repaired `finally`-masking defect: the device reported FAIL "no" (fully
    delivered) and then never sent its CLSE, so `_clse`'s wait times out — `pull` nevertheless raises
    AdbCommandFailureException "no" (before the repair this evaluated to the transport's timeout
    error), and the CLSE was still sent last. -/
example : errOf (devPull sxPath .none (some 10) (some 10) wPullFailNoClse).1 = some (.adbCommandFailure [110, 111]) ∧
    Push.deliveredWrteData (devPull sxPath .none (some 10) (some 10) wPullFailNoClse).2.trace
      = Push.syncRec .DATA 3 [1, 2, 3] ++ Push.syncRec .FAIL 2 [110, 111] ∧
    (transmitted (devPull sxPath .none (some 10) (some 10) wPullFailNoClse).2.trace).getLast? = some ⟨.CLSE, 1, 7, []⟩ := by
  decide +kernel

/-- the hypotheses of `C10_pull_close_cannot_mask` are satisfiable: in that world the guards pass, `_open`
    returns the stream (1, 7) and `_pull` raises AdbCommandFailureException "no" -/
example : ∃ w2 e,
    runGuards (guardsFor "pull") (some sxPath) wPullFailNoClse = (.ok (), wNoClse0) ∧
    openStream (ascii "sync:") (some 10) (some 10) none { wNoClse0 with sink := some [] } = (.ok sxT, wNoClse1) ∧
    pullInner sxPath .none sxT { fmt := .pull, maxdata := wNoClse1.maxdata } wNoClse1 = (.error e, w2) := by
  have h0 : (runGuards (guardsFor "pull") (some sxPath) wPullFailNoClse).1.toOption = some () := by decide +kernel
  have h1 : (openStream (ascii "sync:") (some 10) (some 10) none { wNoClse0 with sink := some [] }).1.toOption
      = some sxT := by decide +kernel
  have h2 : errOf (pullInner sxPath .none sxT { fmt := .pull, maxdata := wNoClse1.maxdata } wNoClse1).1
      = some (.adbCommandFailure [110, 111]) := by decide +kernel
  exact ⟨_, _, run_ok_of h0, run_ok_of h1, run_error_of h2⟩

end Adb
