import AdbProofs.Properties.C19Src
import AdbProofs.Properties.C19SrcMatch
import AdbProofs.Properties.C05Src
/-
  C06 (tie to the source, by proof; also what C01 / C19 rest on) — what `_AdbIOManager.read` / `_AdbIOManagerAsync.read` does with a packet it has just read from the device, extracted from the CURRENT
  source by harness/pytrans.py (`read_route_snippet`: the `if not adb_info.args_match(...)` statement and what follows it in its block, with the locks stripped, as a function of the
  packet that also returns `self`, whose store it changes) and proved equal to the routing step of the model's `readIter` (Wire.lean):
    * a packet whose ids do not match this transaction (`Txn.argsMatch`, with `allow_zeros`) is PARKED: the store becomes `Store.put` and nothing is returned to this reader;
    * a matching CLSE clears this stream's queue (`Store.clear`); any other matching packet leaves the store untouched;
    * a matching packet is returned iff its command is expected, as exactly `(cmd, arg0, arg1, data)`; an unexpected matching packet is dropped (returned to nobody, parked nowhere).
    * the two store-draining loops of `read` (`read_drain_snippets`: `x = F; while x: <body>; x = F`, checked syntactically, as ONE iteration): the key looked up is the transaction's
      `(remote_id, local_id)` through `find` / `find_allow_zeros`; nothing parked ⇒ "empty", `self` untouched; otherwise the FIRST parked packet of that key is removed and returned iff
      expected, else the loop looks again — the model's `drainLoop` step (`drainStep`), for every store (`C06_src_read_drain0/1_sync/async`).
    * model side: `routeStep` / `drainStep` are not transcriptions to be trusted — `C06_model_readIter_shape`, `C06_model_route_step` and `C06_model_drainLoop_step` prove that the model's
      `readIter` is "drain, else read one packet and route it", that its routing leaves exactly `routeStep`'s store and result (touching only the observation trace besides), and that one
      unfolding of `drainLoop` is `drainStep`.
  Built from `C19_src_args_match`, `C19_src_put`, `C19_src_clear` — so the per-stream isolation theorems of C01 / C06 / C19, which are about `Store.put` / `Txn.argsMatch`, are about the
  routing the source performs now.  Only property theorems and non-vacuity examples live here.
-/
set_option linter.unusedSimpArgs false
namespace Adb
open Py

/-- the model's routing step (the part of `readIter` after `readPacket`): the new store and what is handed to the reader -/
def routeStep (expected : List Cmd) (t : Txn) (az : Bool) (s : Store) (cmd : Cmd) (a0 a1 : Nat) (data : Bytes) : Store × Option (Cmd × Nat × Nat × Bytes) :=
  if !t.argsMatch a0 a1 az then (s.put a0 a1 cmd data, none)
  else ((if cmd = .CLSE then s.clear a0 a1 else s), (if expected.contains cmd then some (cmd, a0, a1, data) else none))

def encRet : Option (Cmd × Nat × Nat × Bytes) → Py.Val
  | none => .none
  | some (c, a0, a1, d) => .tuple [.bytes c.idBytes, .int a0, .int a1, .bytes d]

theorem Py.getPath_attr (cls : String) (fs : List (String × Py.Val)) (k : String) (v : Py.Val) (h : alookupS k fs = some v) :
    Py.getPath (.obj cls fs) [Py.Acc.attr k] = .ok v := by
  simp [Py.getPath, Py.getAcc, pysimp, h]

/-- Routing of a packet just read from the device (sync class): for every store, transaction (ids possibly `None`), expected-command list, packet and `allow_zeros`, the source returns
    exactly what the model's `routeStep` hands to the reader and leaves exactly the model's new store in `self._packet_store` (the object is untouched when a matching non-CLSE
    packet arrives). -/
theorem C06_src_read_route_sync (mcls scls icls : String) (mfs ifs : List (String × Py.Val)) (s : Store) (t : Txn) (expected : List Cmd) (cmd : Cmd) (a0 a1 : Nat) (az : Bool)
    (data : Bytes) (hs : alookupS "_packet_store" mfs = some (encStore scls s))
    (hl : alookupS "local_id" ifs = some (encOptNat t.localId)) (hr : alookupS "remote_id" ifs = some (encOptNat t.remoteId)) :
    Src.AdbDevice_io_read_route (.obj mcls mfs) (encCmds expected) (.obj icls ifs) (.bool az) (.bytes cmd.idBytes) (.int a0) (.int a1) (.bytes data)
      = .ok (.tuple [encRet (routeStep expected t az s cmd a0 a1 data).2,
                     if t.argsMatch a0 a1 az ∧ cmd ≠ .CLSE then .obj mcls mfs
                     else .obj mcls (asetS "_packet_store" (encStore scls (routeStep expected t az s cmd a0 a1 data).1) mfs)]) := by
  have hb : cmd.idBytes = cmd.bytes := rfl
  have hc : Src.const_CLSE = .bytes Cmd.CLSE.idBytes := rfl
  have hput := C19_src_put scls s a0 a1 cmd data
  rw [← hb] at hput
  simp only [Src.AdbDevice_io_read_route, pysimp, C19_src_args_match icls ifs t a0 a1 az hl hr, hc, idBytes_eq_iff, Py.getPath_attr _ _ _ _ hs, hput,
    C19_src_clear, inV_encCmds, routeStep]
  by_cases hm : t.argsMatch a0 a1 az = true
  · by_cases hcl : cmd = .CLSE
    · subst hcl
      by_cases he : Cmd.CLSE ∈ expected <;> simp [hm, he, encRet]
    · by_cases he : cmd ∈ expected <;> simp [hm, hcl, he, encRet]
  · simp [hm, encRet]

/-- The translation of the three pieces of `read` of the async class is, piece by piece, that of the sync class; an edit of one twin only breaks these equations. -/
theorem Src.io_read_twin : Src.AdbDeviceAsync_io_read_route = Src.AdbDevice_io_read_route
    ∧ Src.AdbDeviceAsync_io_read_drain0 = Src.AdbDevice_io_read_drain0 ∧ Src.AdbDeviceAsync_io_read_drain1 = Src.AdbDevice_io_read_drain1 := ⟨rfl, rfl, rfl⟩

/-- Routing of a packet just read from the device (async twin): the same statement. -/
theorem C06_src_read_route_async (mcls scls icls : String) (mfs ifs : List (String × Py.Val)) (s : Store) (t : Txn) (expected : List Cmd) (cmd : Cmd) (a0 a1 : Nat) (az : Bool)
    (data : Bytes) (hs : alookupS "_packet_store" mfs = some (encStore scls s))
    (hl : alookupS "local_id" ifs = some (encOptNat t.localId)) (hr : alookupS "remote_id" ifs = some (encOptNat t.remoteId)) :
    Src.AdbDeviceAsync_io_read_route (.obj mcls mfs) (encCmds expected) (.obj icls ifs) (.bool az) (.bytes cmd.idBytes) (.int a0) (.int a1) (.bytes data)
      = .ok (.tuple [encRet (routeStep expected t az s cmd a0 a1 data).2,
                     if t.argsMatch a0 a1 az ∧ cmd ≠ .CLSE then .obj mcls mfs
                     else .obj mcls (asetS "_packet_store" (encStore scls (routeStep expected t az s cmd a0 a1 data).1) mfs)]) := by
  simp only [Src.io_read_twin]
  exact C06_src_read_route_sync mcls scls icls mfs ifs s t expected cmd a0 a1 az data hs hl hr

/-! ### Non-vacuity: a packet for another stream is parked; a matching expected WRTE is returned and the store is untouched -/
example : routeStep [.WRTE, .CLSE] ⟨some 1, some 7, none, none, none⟩ false [] .WRTE 9 2 [1] = (Store.put [] 9 2 .WRTE [1], none) := rfl
example : routeStep [.WRTE, .CLSE] ⟨some 1, some 7, none, none, none⟩ false [] .WRTE 7 1 [1] = ([], some (.WRTE, 7, 1, [1])) := rfl
example : routeStep [.OKAY] ⟨some 1, some 7, none, none, none⟩ false [] .WRTE 7 1 [1] = ([], none) := rfl
example : Src.AdbDevice_io_read_route (.obj "_AdbIOManager" [("_packet_store", encStore "_AdbPacketStore" [])]) (encCmds [.WRTE, .CLSE])
    (.obj "_AdbTransactionInfo" [("local_id", .int 1), ("remote_id", .int 7)]) (.bool false) (.bytes Cmd.WRTE.idBytes) (.int 9) (.int 2) (.bytes [1])
    = .ok (.tuple [.none, .obj "_AdbIOManager" (asetS "_packet_store" (encStore "_AdbPacketStore" (Store.put [] 9 2 .WRTE [1])) [("_packet_store", encStore "_AdbPacketStore" [])])]) := by
  have h := C06_src_read_route_sync "_AdbIOManager" "_AdbPacketStore" "_AdbTransactionInfo" [("_packet_store", encStore "_AdbPacketStore" [])] [("local_id", .int 1), ("remote_id", .int 7)]
    [] ⟨some 1, some 7, none, none, none⟩ [.WRTE, .CLSE] .WRTE 9 2 false [1] rfl rfl rfl
  exact h.trans rfl

/-- outcome of one iteration of the store-draining loop -/
inductive Drain where
  | empty                                                       -- nothing parked for this transaction: the loop ends
  | ret (p : Cmd × Nat × Nat × Bytes) (s' : Store)              -- a parked packet that is expected: removed and returned
  | again (p : Cmd × Nat × Nat × Bytes) (s' : Store)            -- a parked packet that is not expected: removed, look again

/-- one iteration of the model's `drainLoop` (Wire.lean), as a pure function of the store (`C06_model_drainLoop_step` below); `Store.get`'s error otherwise -/
def drainStep (expected : List Cmd) (t : Txn) (az : Bool) (s : Store) : Except StoreErr Drain :=
  match (if az then s.findAllowZeros t.remoteId t.localId else s.find t.remoteId t.localId) with
  | none => .ok .empty
  | some k =>
    match s.get (some k.1) (some k.2) with
    | .error e => .error e
    | .ok (p, s') => if expected.contains p.1 then .ok (.ret p s') else .ok (.again p s')

/-- what the extracted iteration returns: `((tag, value), self')` -/
def encDrain (mcls scls : String) (mfs : List (String × Py.Val)) : Except StoreErr Drain → Py.M Py.Val
  | .ok .empty => .ok (.tuple [.tuple [.str "empty", .none], .obj mcls mfs])
  | .ok (.ret p s') => .ok (.tuple [.tuple [.str "return", encRet (some p)], .obj mcls (asetS "_packet_store" (encStore scls s') mfs)])
  | .ok (.again _ s') => .ok (.tuple [.tuple [.str "again", .none], .obj mcls (asetS "_packet_store" (encStore scls s') mfs)])
  | .error .typeError => .error .typeError
  | .error .keyError => .error .keyError
  | .error .queueEmpty => .error .queueEmpty

theorem Py.truthy_encOptKey (k : Option (Nat × Nat)) : Py.truthy (encOptKey k) = .ok k.isSome := by
  cases k with
  | none => rfl
  | some p => obtain ⟨a, b⟩ := p; rfl

/-- One iteration of the first store-draining loop of `read` (sync class; the loop before the timer starts): for every store, transaction, expected list and `allow_zeros` it looks the
    transaction's key up (`find` / `find_allow_zeros` on `(remote_id, local_id)`), and — exactly like the model's `drainLoop` step — reports "empty" with `self` untouched, or removes the
    first parked packet of that key and returns it iff it is expected ("return"), else looks again ("again"); `Store.get`'s errors are raised as they are. -/
theorem C06_src_read_drain0_sync (mcls scls icls : String) (mfs ifs : List (String × Py.Val)) (s : Store) (t : Txn) (expected : List Cmd) (az : Bool)
    (hs : alookupS "_packet_store" mfs = some (encStore scls s))
    (hl : alookupS "local_id" ifs = some (encOptNat t.localId)) (hr : alookupS "remote_id" ifs = some (encOptNat t.remoteId)) :
    Src.AdbDevice_io_read_drain0 (.obj mcls mfs) (encCmds expected) (.obj icls ifs) (.bool az) = encDrain mcls scls mfs (drainStep expected t az s) := by
  cases az <;>
    simp only [Src.AdbDevice_io_read_drain0, pysimp, hs, hl, hr, C19_src_find, C19_src_find_allow_zeros, drainStep, Py.truthy_encOptKey, Bool.false_eq_true,
      Py.getPath_attr _ _ _ _ hs]
  case' false => generalize s.find t.remoteId t.localId = k
  case' true => generalize s.findAllowZeros t.remoteId t.localId = k
  -- from here on both cases are the same
  all_goals
    cases k with
    | none => simp only [Option.isSome_none, Bool.false_eq_true, pysimp, encDrain]
    | some k =>
      obtain ⟨k0, k1⟩ := k
      simp only [Option.isSome_some, encOptKey, pysimp, Py.getItem_pair0, Py.getItem_pair1, C19_src_get_key]
      cases s.get (some k0) (some k1) with
      | error e => cases e <;> simp only [pysimp, encDrain]
      | ok r =>
        obtain ⟨⟨c, x, y, d⟩, s'⟩ := r
        have hb : c.bytes = c.idBytes := rfl
        by_cases he : expected.contains c = true <;> simp only [pysimp, hb, inV_encCmds, he, encDrain, encRet]

/-- The second store-draining loop of `read` (sync class; the one repeated under the transport lock before every device read): the same statement. -/
theorem C06_src_read_drain1_sync (mcls scls icls : String) (mfs ifs : List (String × Py.Val)) (s : Store) (t : Txn) (expected : List Cmd) (az : Bool)
    (hs : alookupS "_packet_store" mfs = some (encStore scls s))
    (hl : alookupS "local_id" ifs = some (encOptNat t.localId)) (hr : alookupS "remote_id" ifs = some (encOptNat t.remoteId)) :
    Src.AdbDevice_io_read_drain1 (.obj mcls mfs) (encCmds expected) (.obj icls ifs) (.bool az) = encDrain mcls scls mfs (drainStep expected t az s) := by
  cases az <;>
    simp only [Src.AdbDevice_io_read_drain1, pysimp, hs, hl, hr, C19_src_find, C19_src_find_allow_zeros, drainStep, Py.truthy_encOptKey, Bool.false_eq_true,
      Py.getPath_attr _ _ _ _ hs]
  case' false => generalize s.find t.remoteId t.localId = k
  case' true => generalize s.findAllowZeros t.remoteId t.localId = k
  -- from here on both cases are the same
  all_goals
    cases k with
    | none => simp only [Option.isSome_none, Bool.false_eq_true, pysimp, encDrain]
    | some k =>
      obtain ⟨k0, k1⟩ := k
      simp only [Option.isSome_some, encOptKey, pysimp, Py.getItem_pair0, Py.getItem_pair1, C19_src_get_key]
      cases s.get (some k0) (some k1) with
      | error e => cases e <;> simp only [pysimp, encDrain]
      | ok r =>
        obtain ⟨⟨c, x, y, d⟩, s'⟩ := r
        have hb : c.bytes = c.idBytes := rfl
        by_cases he : expected.contains c = true <;> simp only [pysimp, hb, inV_encCmds, he, encDrain, encRet]

/-- First store-draining loop, async twin: the same statement. -/
theorem C06_src_read_drain0_async (mcls scls icls : String) (mfs ifs : List (String × Py.Val)) (s : Store) (t : Txn) (expected : List Cmd) (az : Bool)
    (hs : alookupS "_packet_store" mfs = some (encStore scls s))
    (hl : alookupS "local_id" ifs = some (encOptNat t.localId)) (hr : alookupS "remote_id" ifs = some (encOptNat t.remoteId)) :
    Src.AdbDeviceAsync_io_read_drain0 (.obj mcls mfs) (encCmds expected) (.obj icls ifs) (.bool az) = encDrain mcls scls mfs (drainStep expected t az s) := by
  simp only [Src.io_read_twin]
  exact C06_src_read_drain0_sync mcls scls icls mfs ifs s t expected az hs hl hr

/-- Second store-draining loop, async twin: the same statement. -/
theorem C06_src_read_drain1_async (mcls scls icls : String) (mfs ifs : List (String × Py.Val)) (s : Store) (t : Txn) (expected : List Cmd) (az : Bool)
    (hs : alookupS "_packet_store" mfs = some (encStore scls s))
    (hl : alookupS "local_id" ifs = some (encOptNat t.localId)) (hr : alookupS "remote_id" ifs = some (encOptNat t.remoteId)) :
    Src.AdbDeviceAsync_io_read_drain1 (.obj mcls mfs) (encCmds expected) (.obj icls ifs) (.bool az) = encDrain mcls scls mfs (drainStep expected t az s) := by
  simp only [Src.io_read_twin]
  exact C06_src_read_drain1_sync mcls scls icls mfs ifs s t expected az hs hl hr

/-- The model side: one unfolding of the model's `drainLoop` is `drainStep` on the world's store — "empty" ends the loop with the world untouched, an expected parked packet is
    delivered (store updated, `deliver` recorded), an unexpected one is removed (`unstore` recorded) and the loop goes on, a `Store.get` error is raised with the world untouched. -/
theorem C06_model_drainLoop_step (expected : List Cmd) (t : Txn) (az : Bool) (fuel : Nat) (w : World) :
    drainLoop expected t az (fuel + 1) w
      = match drainStep expected t az w.store with
        | .ok .empty => (.ok none, w)
        | .ok (.ret (c, a0, a1, d) s') => (.ok (some ⟨c, a0, a1, d⟩), { w with store := s', trace := .deliver ⟨c, a0, a1, d⟩ :: w.trace })
        | .ok (.again (c, a0, a1, d) s') => drainLoop expected t az fuel { w with store := s', trace := .unstore ⟨c, a0, a1, d⟩ :: w.trace }
        | .error e => (.error (storeErr e), w) := by
  simp only [drainLoop, drainStep, storeFind, storeGet, bind, M.bind, pure, M.pure, emit, M.modify]
  cases az <;> simp only [Bool.false_eq_true, if_false, ite_false, if_true, ite_true]
  · cases hk : w.store.find t.remoteId t.localId with
    | none => rfl
    | some k =>
      simp only []
      cases hg : w.store.get (some k.1) (some k.2) with
      | error e => simp [M.bind, storeGet, hg]
      | ok r =>
        obtain ⟨⟨c, a0, a1, d⟩, s'⟩ := r
        by_cases he : c ∈ expected <;> simp [M.bind, storeGet, hg, he, M.modify, M.pure]
  · cases hk : w.store.findAllowZeros t.remoteId t.localId with
    | none => rfl
    | some k =>
      simp only []
      cases hg : w.store.get (some k.1) (some k.2) with
      | error e => simp [M.bind, storeGet, hg]
      | ok r =>
        obtain ⟨⟨c, a0, a1, d⟩, s'⟩ := r
        by_cases he : c ∈ expected <;> simp [M.bind, storeGet, hg, he, M.modify, M.pure]

/-- the tail of the model's `readIter` after `readPacket` (verbatim) -/
def routeM (expected : List Cmd) (t : Txn) (allowZeros : Bool) (p : Pkt) : M (Option Pkt) :=
  if !t.argsMatch p.arg0 p.arg1 allowZeros then do
    withLock lockStore (storePut p)
    pure none
  else do
    if p.cmd = Cmd.CLSE then withLock lockStore (storeClear p.arg0 p.arg1)
    if expected.contains p.cmd then do emit (.deliver p); pure (some p)
    else do emit (.drop p); pure none

/-- `readIter` is: under the transport lock, drain the store; if nothing was returned, read one packet and route it with `routeM`. -/
theorem C06_model_readIter_shape (expected : List Cmd) (t : Txn) (az : Bool) :
    readIter expected t az = withLock lockTransport (do
      let w ← M.get
      match (← withLock lockStore (drainLoop expected t az w.fuel)) with
      | some p => pure (some p)
      | none => do
        let p ← readPacket t
        routeM expected t az p) := rfl

/-- The model side of the routing step: whenever the store lock is free, `routeM` never fails, leaves exactly `routeStep`'s store, hands the reader exactly `routeStep`'s packet,
    and changes nothing else in the world but the observation trace. -/
theorem C06_model_route_step (expected : List Cmd) (t : Txn) (az : Bool) (p : Pkt) (w : World) (hfree : lockStore ∉ w.locks) :
    routeM expected t az p w
      = (.ok ((routeStep expected t az w.store p.cmd p.arg0 p.arg1 p.data).2.map fun q => ⟨q.1, q.2.1, q.2.2.1, q.2.2.2⟩),
         { w with store := (routeStep expected t az w.store p.cmd p.arg0 p.arg1 p.data).1,
                  trace := (if t.argsMatch p.arg0 p.arg1 az then (if expected.contains p.cmd then TEv.deliver p else TEv.drop p)
                            else (if p.cmd = Cmd.CLSE ∧ w.store.queue p.arg0 p.arg1 = none then TEv.lost p else TEv.park p)) :: w.trace }) := by
  obtain ⟨c, a0, a1, d⟩ := p
  by_cases hm : t.argsMatch a0 a1 az = true
  · by_cases hc : c = .CLSE
    · subst hc
      by_cases he : Cmd.CLSE ∈ expected <;>
        simp [routeM, routeStep, hm, he, withLock, hfree, storeClear, M.modify, emit, bind, M.bind, pure, M.pure, List.erase_cons_head]
    · by_cases he : c ∈ expected <;>
        simp [routeM, routeStep, hm, hc, he, withLock, hfree, storeClear, M.modify, emit, bind, M.bind, pure, M.pure, List.erase_cons_head]
  · simp [routeM, routeStep, hm, withLock, hfree, storePut, bind, M.bind, pure, M.pure, List.erase_cons_head]

/-! ### Non-vacuity: with WRTE [1] then CLSE parked for (7, 1) and the reader expecting CLSE only, the first step removes the WRTE and looks again, the second returns the CLSE -/
example : ∃ s', drainStep [.CLSE] ⟨some 1, some 7, none, none, none⟩ false (Store.put (Store.put [] 7 1 .WRTE [1]) 7 1 .CLSE []) = .ok (.again (.WRTE, 7, 1, [1]) s')
    ∧ drainStep [.CLSE] ⟨some 1, some 7, none, none, none⟩ false s' = .ok (.ret (.CLSE, 7, 1, []) []) := ⟨_, rfl, rfl⟩
example : drainStep [.CLSE] ⟨some 1, some 7, none, none, none⟩ false [] = .ok .empty := rfl

end Adb
