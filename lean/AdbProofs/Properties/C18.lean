import AdbProofs.Lemmas.Tcp
/-
  C18 — TCP transports honour the transport contract on real sockets.

  Two halves.
  (a) The transport methods (`Tcp.close/connect/bulkRead/bulkWrite`, one definition for the sync and the async
      class, distinguished by the flag `async`) are wrappers over an abstract socket `S : Sock σ`.  Everything
      we assume about Linux sockets / asyncio streams is the HYPOTHESIS `hS : SockSem S` (satisfiable:
      `simSock_sem`).  Under it the wrappers keep the contract.
  (b) `Tcp.accepts` is the contract as an executable check of a trace OBSERVED on a real loopback connection
      (harness/units/c18.py sends every recorded trace to it).  `C18_acceptor_sound` says what acceptance means,
      in terms of plain list functions over the trace.
-/
namespace Adb
open Tcp

variable {σ : Type}

/-- An accepted trace satisfies the contract, clause by clause.  `pre` ranges over the moments of the trace;
    `sinceConnect pre` is the part of `pre` that belongs to the current connection.
    (1) no read returns more than requested;
    (2) at every moment, what reads have returned so far is a prefix of what the peer had begun to write so far
        (in order, nothing lost in the middle, nothing duplicated, nothing invented);
    (3) a read times out only if every byte whose write the peer had COMPLETED before the read STARTED had
        already been returned by earlier reads;
    (4) every read result/timeout closes a read that was started with the same size, with only peer activity
        in between (so (3) speaks about every timeout in the trace);
    (5) `b''` for a non-zero request only after the peer began closing its side (a timeout is never swallowed);
    (6) reads and writes happen only while connected (after `connect`, not after `close`);
    (7) a write count never exceeds the data length and is non-zero for non-empty data. -/
theorem C18_acceptor_sound (tr : List Ev) (h : accepts tr = true) :
    (∀ n bs, Ev.read n bs ∈ tr → bs.length ≤ n) ∧
    (∀ pre post, tr = pre ++ post → readBytes (sinceConnect pre) <+: writtenBytes (sinceConnect pre)) ∧
    (∀ pre n mid post, tr = pre ++ Ev.readStart n :: (mid ++ Ev.readTimeout n :: post) →
        (∀ e ∈ mid, e.isPeer = true) →
        completedLen (sinceConnect pre) ≤ (readBytes (sinceConnect pre)).length) ∧
    (∀ pre e post n, tr = pre ++ e :: post → ((∃ bs, e = Ev.read n bs) ∨ e = Ev.readTimeout n) →
        ∃ p1 mid, pre = p1 ++ Ev.readStart n :: mid ∧ ∀ x ∈ mid, x.isPeer = true) ∧
    (∀ pre n post, tr = pre ++ Ev.read n [] :: post → n = 0 ∨ Ev.peerEof ∈ sinceConnect pre) ∧
    (∀ pre e post, tr = pre ++ e :: post → e.isIO = true → connectedAfter pre = true) ∧
    (∀ len k, Ev.write len k ∈ tr → k ≤ len ∧ (len ≠ 0 → k ≠ 0)) := by
  refine ⟨?_, ?_, ?_, ?_, ?_, ?_, ?_⟩
  · intro n bs hmem
    obtain ⟨pre, post, hsplit⟩ := List.append_of_mem hmem
    obtain ⟨s, s', _, hstep⟩ := accepted_at h hsplit
    exact (step_read_ok hstep).2.2.1
  · intro pre post hsplit
    obtain ⟨s, hI⟩ := accepted_prefix h hsplit
    rw [hI.stream]
    exact List.prefix_append _ _
  · intro pre n mid post hsplit hmid
    have hsplit' : tr = (pre ++ Ev.readStart n :: mid) ++ Ev.readTimeout n :: post := by
      rw [hsplit]; simp
    obtain ⟨s, s', hI, hstep⟩ := accepted_at h hsplit'
    obtain ⟨_, ⟨d0, hp, hd⟩, _⟩ := step_readTimeout_ok hstep
    obtain ⟨p1, mid', hpre, hmid', hd0, hgot⟩ := hI.pend n d0 hp
    -- the start found by the invariant is the one named in the statement: both are followed by peer events only
    have hsame : p1 = pre ∧ mid' = mid :=
      split_unique p1 pre mid' mid (Ev.readStart n) (Ev.readStart n) rfl rfl hmid' hmid hpre.symm
    obtain ⟨rfl, rfl⟩ := hsame
    rw [← hgot, ← hd0]
    exact hd
  · intro pre e post n hsplit he
    obtain ⟨s, s', hI, hstep⟩ := accepted_at h hsplit
    have ⟨d0, hp⟩ : ∃ d0, s.pending = some (n, d0) := by
      rcases he with ⟨bs, rfl⟩ | rfl
      · exact (step_read_ok hstep).2.1
      · obtain ⟨_, ⟨d0, hp, _⟩, _⟩ := step_readTimeout_ok hstep
        exact ⟨d0, hp⟩
    obtain ⟨p1, mid, h1, h2, _⟩ := hI.pend n d0 hp
    exact ⟨p1, mid, h1, h2⟩
  · intro pre n post hsplit
    obtain ⟨s, s', hI, hstep⟩ := accepted_at h hsplit
    rcases (step_read_ok hstep).2.2.2.2.1 rfl with h0 | hc
    · exact Or.inl h0
    · exact Or.inr (hI.eofb.mp hc)
  · intro pre e post hsplit hio
    obtain ⟨s, s', hI, hstep⟩ := accepted_at h hsplit
    rw [← hI.open_eq]
    cases e with
    | readStart n => exact (step_readStart_ok hstep).1
    | read n bs => exact (step_read_ok hstep).1
    | readTimeout n => exact (step_readTimeout_ok hstep).1
    | write len k => exact (step_write_ok hstep).1
    | _ => cases hio
  · intro len k hmem
    obtain ⟨pre, post, hsplit⟩ := List.append_of_mem hmem
    obtain ⟨s, s', _, hstep⟩ := accepted_at h hsplit
    obtain ⟨_, _, hk, hk0, _⟩ := step_write_ok hstep
    exact ⟨hk, hk0⟩

/-- `close(); close()` is always acceptable: whenever a trace ending in `close` is accepted, so is the trace
    with a second `close` appended. -/
theorem C18_acceptor_close_twice (tr : List Ev) (h : accepts (tr ++ [Ev.close]) = true) :
    accepts (tr ++ [Ev.close, Ev.close]) = true := by
  obtain ⟨sf, hsf⟩ := (accepts_iff _).mp h
  obtain ⟨s1, s2, h1, h2, h3⟩ := run_split hsf
  obtain ⟨hp, rfl⟩ := step_close_ok h2
  apply (accepts_iff _).mpr
  refine ⟨{ s1 with isOpen := false }, ?_⟩
  rw [run_append, h1]
  simp [run, step, hp]

/-- Under the socket assumptions, a `bulk_read` (sync or async) never returns more than `numbytes` bytes. -/
theorem C18_read_le_requested (S : Sock σ) (hS : SockSem S) (async : Bool) (w w' : σ) (s : TState)
    (n : Nat) (t : Timeout) (bs : Bytes) (h : bulkRead S async w s n t = (w', .data bs)) :
    bs.length ≤ n :=
  (readContract hS async).le_requested w s n t w' bs h

/-- Under the socket assumptions, for ANY sequence of `bulk_read` calls (any sizes, any timeouts, any
    interleaving of results and timeouts, however the socket fragments): the bytes returned, in call order,
    followed by what is still buffered afterwards, are exactly what was buffered at the beginning followed by
    what the peer wrote meanwhile.  So the results are a prefix of the peer's stream (in order, no duplication)
    and the rest of it is still there (no loss). -/
theorem C18_in_order_no_loss (S : Sock σ) (hS : SockSem S) (async : Bool) (s : TState) (c : SockId)
    (hc : s.conn = some c) (calls : List (Nat × Timeout)) (w wf : σ) (outs : List RdRes)
    (h : runReads S async s w calls = (wf, outs)) :
    ∃ peerLater : Bytes,
      dataOf outs ++ S.buffered wf c = S.buffered w c ++ peerLater ∧
      dataOf outs <+: S.buffered w c ++ peerLater := by
  obtain ⟨later, hl⟩ := runReads_sem hS async s c hc calls w wf outs h
  exact ⟨later, hl, ⟨S.buffered wf c, hl⟩⟩

/-- A `TcpTimeoutException` from `bulk_read` happens only when nothing was buffered, -/
theorem C18_timeout_only_when_nothing (S : Sock σ) (hS : SockSem S) (async : Bool) (w w' : σ) (s : TState)
    (c : SockId) (hc : s.conn = some c) (n : Nat) (t : Timeout)
    (h : bulkRead S async w s n t = (w', .timeout)) :
    S.buffered w c = [] ∧ ∃ d, t = some d ∧ S.now w' = S.now w + d := by
  obtain ⟨h1, _, h3⟩ := bulkRead_timeout_sem hS hc h
  exact ⟨h1, h3⟩

/-- … it leaves the buffered stream unchanged (it consumes nothing), so later data is not lost: by
    `C18_in_order_no_loss` the following reads continue exactly where the stream stood. -/
theorem C18_timeout_keeps_data (S : Sock σ) (hS : SockSem S) (async : Bool) (w w' : σ) (s : TState)
    (c : SockId) (hc : s.conn = some c) (n : Nat) (t : Timeout)
    (h : bulkRead S async w s n t = (w', .timeout)) :
    S.buffered w' c = S.buffered w c := by
  obtain ⟨h1, h2, _⟩ := bulkRead_timeout_sem hS hc h
  rw [h1, h2]

/-- `close` is idempotent: closing a closed transport changes neither the transport nor the world. -/
theorem C18_close_idempotent (S : Sock σ) (w : σ) (s : TState) :
    close S (close S w s).1 (close S w s).2 = close S w s ∧ (close S w s).2.conn = none := by
  unfold close
  cases hc : s.conn with
  | none => simp [hc]
  | some c => simp

/-- A closed transport can connect again: if the socket layer delivers a connection, the object holds it, is in
    non-blocking mode iff a (non-zero) timeout was given, and reads and writes are possible again (they end in data /
    a count / a timeout, never in the "no connection" failure).  If connecting fails the object stays closed. -/
theorem C18_reconnect (S : Sock σ) (async : Bool) (w : σ) (s : TState) (t : Timeout) :
    let w1 := (close S w s).1
    let s1 := (close S w s).2
    let r := connect S w1 s1 t
    (∀ c, (S.openConn w1 t).2 = some c →
        r.2.2 = true ∧ r.2.1 = { conn := some c, nonblocking := t.truthy } ∧
        (∀ w2 n t2, (bulkRead S async w2 r.2.1 n t2).2 ≠ .notConnected) ∧
        (∀ w2 data t2, (bulkWrite S async w2 r.2.1 data t2).2 ≠ .notConnected)) ∧
    ((S.openConn w1 t).2 = none → r.2.2 = false ∧ r.2.1.conn = none) := by
  intro w1 s1 r
  refine ⟨fun c hopen => ?_, fun hopen => ?_⟩
  · rw [show r = _ from connect_eq S w1 s1 t, hopen]
    exact ⟨rfl, rfl, fun _ _ _ => bulkRead_connected rfl, fun _ _ _ => bulkWrite_connected rfl⟩
  · rw [show r = _ from connect_eq S w1 s1 t, hopen]
    exact ⟨rfl, (C18_close_idempotent S w s).2⟩

/-- What a `bulk_write` count means: exactly the first `k` bytes of `data` were handed to the socket, `k ≤ len`,
    and `k ≥ 1` for non-empty data.  The sync transport may report `k < len` (truthfully); the async transport
    always reports `len`, and has queued all of `data` even when it raises the timeout. -/
theorem C18_write_count_truthful (S : Sock σ) (hS : SockSem S) (async : Bool) (w w' : σ) (s : TState)
    (c : SockId) (hc : s.conn = some c) (data : Bytes) (t : Timeout) :
    (∀ k, bulkWrite S async w s data t = (w', .count k) →
        k ≤ data.length ∧ (data ≠ [] → 1 ≤ k) ∧ S.sent w' c = S.sent w c ++ data.take k ∧
        (async = true → k = data.length)) ∧
    (bulkWrite S async w s data t = (w', .timeout) →
        S.sent w' c = S.sent w c ++ (if async then data else [])) := by
  rcases bulkWrite_cases S async w hc data t with ⟨rfl, w1, r, hsend, e⟩ | ⟨rfl, w1, ⟨hwait, e⟩ | ⟨hwait, e⟩⟩
  · have hsent := hS.sendall_sent _ _ _ _ _ _ hsend
    rw [e]
    cases r with
    | true =>
      refine ⟨fun k hk => ?_, nofun⟩
      cases hk
      exact ⟨Nat.le_refl _, List.length_pos_iff.mpr, by rw [hsent, List.take_length], fun _ => rfl⟩
    | false =>
      refine ⟨nofun, fun hk => ?_⟩
      cases hk
      exact hsent
  · rw [e]
    refine ⟨nofun, fun hk => ?_⟩
    cases hk
    rw [hS.waitw_sent _ _ _ _ _ hwait]; exact (List.append_nil _).symm
  · rw [e]
    obtain ⟨h1, h2, h3⟩ := hS.send_count _ _ _ _ _ (rfl : S.send w1 c data = _)
    refine ⟨fun k hk => ?_, nofun⟩
    cases hk
    exact ⟨h1, h2, by rw [h3, hS.waitw_sent _ _ _ _ _ hwait], nofun⟩

/-- Both transports satisfy the same read contract.  They are modelled by ONE function `bulkRead S async` with a
    flag; `close`, `connect` do not depend on the flag at all; the two `bulk_read`s are literally equal except for
    a zero-length request (where `StreamReader.read(0)` returns `b''` without waiting), and both instances
    satisfy `ReadContract` (≤ requested; removes exactly the returned prefix; a timeout only on an empty buffer,
    after the full timeout, consuming nothing; never "not connected" while connected). -/
theorem C18_sync_async_same_contract (S : Sock σ) (hS : SockSem S) :
    ReadContract S (bulkRead S false) ∧ ReadContract S (bulkRead S true) ∧
    (∀ w s n t, n ≠ 0 → bulkRead S true w s n t = bulkRead S false w s n t) := by
  refine ⟨readContract hS false, readContract hS true, ?_⟩
  intro w s n t hn
  unfold bulkRead
  have : (n == 0) = false := by simp [hn]
  simp [this]

/-! ### Non-vacuity -/

/-- the socket assumptions are satisfiable (by a socket that fragments and times out) -/
example : SockSem simSock := simSock_sem

/-- an accepted trace with fragmentation (a 3-byte and a 2-byte peer write are returned as 1 + 2 + 2 bytes, the first
    read overlapping the write), a timeout on an idle connection, data after the timeout, EOF, and close twice -/
example : accepts [.connect, .write 4 4, .readStart 1, .peerWrite [1, 2, 3], .read 1 [1], .peerDone,
    .peerWrite [4, 5], .peerDone, .readStart 2, .read 2 [2, 3], .readStart 4096, .read 4096 [4, 5],
    .readStart 24, .readTimeout 24, .peerWrite [6], .peerDone, .readStart 24, .read 24 [6],
    .peerEof, .readStart 24, .read 24 [], .close, .close, .connect, .readStart 1, .readTimeout 1, .close] = true := by decide +kernel

/-- rejected: a duplicated byte -/
example : accepts [.connect, .peerWrite [1, 2], .peerDone, .readStart 1, .read 1 [1], .readStart 1, .read 1 [1]] = false := by decide +kernel

/-- rejected: a lost byte; an over-long result; a timeout although a completed write was undelivered; a swallowed
    timeout (`b''` without EOF); a read after close; a zero write count -/
example : accepts [.connect, .peerWrite [1, 2, 3], .readStart 1, .read 1 [1], .readStart 1, .read 1 [3]] = false := by decide +kernel
example : accepts [.connect, .peerWrite [1, 2, 3], .readStart 2, .read 2 [1, 2, 3]] = false := by decide +kernel
example : accepts [.connect, .peerWrite [1], .peerDone, .readStart 2, .readTimeout 2] = false := by decide +kernel
example : accepts [.connect, .readStart 2, .read 2 []] = false := by decide +kernel
example : accepts [.connect, .close, .readStart 2] = false := by decide +kernel
example : accepts [.connect, .write 3 0] = false := by decide +kernel

/-- … but a timeout is fine when the write had only begun (not completed) before the read started -/
example : accepts [.connect, .peerWrite [1], .readStart 2, .readTimeout 2, .peerDone, .readStart 2, .read 2 [1]] = true := by decide +kernel

/-- the model wrappers on the concrete socket: the peer writes `[1,2,3]`, stays idle for one timeout, writes `[4]`;
    the socket moves at most 2 bytes at a time.  Reads: 2 bytes, 1 byte, a timeout that costs its full 50 ticks,
    then the later byte. -/
example : runReads simSock false { conn := some 0 } { script := [[1, 2, 3], [], [4]], cap := 1 }
      [(4096, some 50), (4096, some 50), (1, some 50), (24, some 50)]
    = ({ now := 50, cap := 1 }, [.data [1, 2], .data [3], .timeout, .data [4]]) := by decide +kernel

/-- reconnect on the concrete socket: close, close, connect gives a transport that reads -/
example : (connect simSock (close simSock (close simSock ({} : SimWorld) { conn := some 0 }).1 {}).1 {} (some 10)).2
    = ({ conn := some 0, nonblocking := true }, true) := by decide +kernel

end Adb
