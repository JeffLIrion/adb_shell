import AdbProofs.Lemmas.SrcEnc
import AdbModel.Generated.Src
/-
  C14 (tie to the source, by proof) — `Src.AdbDevice_open_alloc_id` / `Src.AdbDeviceAsync_open_alloc_id` are the translations of the statements
  of `_open`'s `with self._local_id_lock:` block that update the counter (extracted from the CURRENT source on every run by
  harness/pytrans.py: the leading statements of the block that mention only `self`; the translator also checks that nothing after them in the
  block assigns the counter). They compute exactly the model's `nextId`, so the closed form / range / window-distinctness theorems of C14.lean
  are statements about the increment-and-wrap the source contains now. (That the block runs under the lock, and that the id it leaves in the
  counter is the one the OPEN carries, is the generated lock facts + correspondence part of C14, not this file.)
  Only property theorems and non-vacuity examples live here.
-/
set_option linter.unusedSimpArgs false
namespace Adb
open Py

/-- Sync class: on an object whose `_local_id` is the natural number `c`, the source's id-allocation statements leave `_local_id = nextId c`
    and change no other attribute. -/
theorem C14_src_alloc_sync (cls : String) (fs : List (String × Py.Val)) (c : Nat) (h : alookupS "_local_id" fs = some (.int c)) :
    ∃ fs', Src.AdbDevice_open_alloc_id (.obj cls fs) = .ok (Py.Val.none, .obj cls fs')
      ∧ alookupS "_local_id" fs' = some (.int (nextId c)) ∧ ∀ k, k ≠ "_local_id" → alookupS k fs' = alookupS k fs := by
  by_cases hw : c + 1 = 4294967296
  · have e1 : (c : Int) + 1 = 4294967296 := by omega
    have e2 : (c : Int) = 4294967295 := by omega
    simp [Src.AdbDevice_open_alloc_id, pysimp, h, nextId, hw, e1, e2]
    intro k hk; simp [hk]
  · have e1 : ¬ (c : Int) + 1 = 4294967296 := by omega
    have e2 : ¬ (c : Int) = 4294967295 := by omega
    simp [Src.AdbDevice_open_alloc_id, pysimp, h, nextId, hw, e1, e2]
    intro k hk; simp [hk]

/-- The translation of the id allocation statements of `_open` of the async class is, piece by piece, that of the sync class; an edit of one twin only breaks this equation. -/
theorem Src.open_alloc_id_twin : Src.AdbDeviceAsync_open_alloc_id = Src.AdbDevice_open_alloc_id := rfl

/-- Async class: the same statement for `AdbDeviceAsync._open`. -/
theorem C14_src_alloc_async (cls : String) (fs : List (String × Py.Val)) (c : Nat) (h : alookupS "_local_id" fs = some (.int c)) :
    ∃ fs', Src.AdbDeviceAsync_open_alloc_id (.obj cls fs) = .ok (Py.Val.none, .obj cls fs')
      ∧ alookupS "_local_id" fs' = some (.int (nextId c)) ∧ ∀ k, k ≠ "_local_id" → alookupS k fs' = alookupS k fs := by
  simp only [Src.open_alloc_id_twin]
  exact C14_src_alloc_sync cls fs c h

/-! ### Non-vacuity: wrap-around and the ordinary step on concrete objects -/
example : ∃ fs', Src.AdbDevice_open_alloc_id (.obj "AdbDevice" [("_local_id", .int 4294967295), ("_maxdata", .int 4096)]) = .ok (Py.Val.none, .obj "AdbDevice" fs')
    ∧ alookupS "_local_id" fs' = some (.int 1) ∧ alookupS "_maxdata" fs' = some (.int 4096) := by
  obtain ⟨fs', h1, h2, h3⟩ := C14_src_alloc_sync "AdbDevice" [("_local_id", .int 4294967295), ("_maxdata", .int 4096)] 4294967295 rfl
  exact ⟨fs', h1, h2, by rw [h3 "_maxdata" (by decide)]; rfl⟩
example : ∃ fs', Src.AdbDeviceAsync_open_alloc_id (.obj "AdbDeviceAsync" [("_local_id", .int 41)]) = .ok (Py.Val.none, .obj "AdbDeviceAsync" fs')
    ∧ alookupS "_local_id" fs' = some (.int 42) := by
  obtain ⟨fs', h1, h2, _⟩ := C14_src_alloc_async "AdbDeviceAsync" [("_local_id", .int 41)] 41 rfl
  exact ⟨fs', h1, h2⟩

end Adb
