import AdbProofs.Lemmas.KeysLemmas
import AdbProofs.Lemmas.KeysExample
/-
  C17 — key material is what adbd expects: signatures verify, the public key blob is correct.

  Model: `AdbModel/Keys.lean` (`Adb.Keys`).  `sign` is what all three shipped signer classes
  compute (checked byte-for-byte by harness/units/c17.py on freshly generated keys), `verify` is
  adbd's `RSA_verify(NID_sha1, token, sig)`, `blob`/`pubFile` is what `keygen` writes.
  `ValidKey n e d p q` (AdbProofs/Lemmas/KeysLemmas.lean) says: `p`, `q` distinct primes,
  `n = p*q` has exactly 2048 bits, `e*d ≡ 1` modulo `p-1` and modulo `q-1`.
  Trusted, not proved: that the key generator returns primes, and SHA-1/DER constants of RFC 8017.
-/
namespace Adb
open Keys

/-- Square-and-multiply computes the modular power: `powMod b e m = b^e mod m`, for every modulus
    (for `m = 1` both sides are `0`; even `m = 0`, where Python raises, agrees with Lean's `%`). -/
theorem C17_powMod_eq (b e m : Nat) : powMod b e m = b ^ e % m := powMod_eq b e m

/-- RSA round trip (Fermat + CRT): for distinct primes `p`, `q` and exponents with
    `e*d ≡ 1 (mod p-1)` and `(mod q-1)`, raising to `d` then `e` — or `e` then `d` — is the identity
    modulo `p*q`, for EVERY `x` (also those sharing a factor with the modulus). -/
theorem C17_rsa_roundtrip {p q e d : Nat} (hp : p.Prime) (hq : q.Prime) (hpq : p ≠ q)
    (hd : ∃ kp kq, e * d = 1 + kp * (p - 1) ∧ e * d = 1 + kq * (q - 1)) (x : Nat) :
    (x ^ d) ^ e % (p * q) = x % (p * q) ∧ (x ^ e) ^ d % (p * q) = x % (p * q) := by
  constructor
  · rw [← pow_mul, Nat.mul_comm d e]; exact rsa_exp hp hq hpq hd x
  · rw [← pow_mul]; exact rsa_exp hp hq hpq hd x

/-- Big-endian and little-endian integer/byte-string conversions are mutually inverse on their
    domains (`n < 256^len`, resp. byte strings of length `len`). -/
theorem C17_os2ip_i2osp {len n : Nat} (h : n < 256 ^ len) :
    os2ip (i2osp len n) = n ∧ leNat (leBytes len n) = n
      ∧ (i2osp len n).length = len ∧ (leBytes len n).length = len :=
  ⟨os2ip_i2osp h, leNat_leBytes h, i2osp_length len n, leBytes_length len n⟩

/-- Converse direction: a byte string of length `len` is recovered from its integer value, which
    is below `256^len`. -/
theorem C17_i2osp_os2ip {len : Nat} {bs : Bytes} (h : bs.length = len) :
    i2osp len (os2ip bs) = bs ∧ leBytes len (leNat bs) = bs
      ∧ os2ip bs < 256 ^ len ∧ leNat bs < 256 ^ len := by
  subst h
  exact ⟨i2osp_os2ip rfl, leBytes_leNat bs, os2ip_lt bs, leNat_lt bs⟩

/-- The encoded message for a 20-byte token is exactly 256 bytes laid out as
    `00 01 | FF × 218 | 00 | 30 21 30 09 06 05 2b 0e 03 02 1a 05 00 04 14 | token`
    (the DigestInfo of a SHA-1 digest), and as an integer it is below `2^2033`, hence below every
    2048-bit modulus. -/
theorem C17_emsa_shape {token : Bytes} (h : token.length = 20) :
    (emsa token 256).length = 256
    ∧ emsa token 256 = [0x00, 0x01] ++ List.replicate 218 0xFF ++ [0x00]
        ++ [0x30, 0x21, 0x30, 0x09, 0x06, 0x05, 0x2b, 0x0e, 0x03, 0x02, 0x1a, 0x05, 0x00, 0x04, 0x14]
        ++ token
    ∧ os2ip (emsa token 256) < 2 ^ 2033
    ∧ (∀ n, 2 ^ 2047 ≤ n → os2ip (emsa token 256) < n) := by
  refine ⟨emsa_length h, ?_, emsa_lt h, fun n hn => ?_⟩
  · rw [emsa_layout h]; simp only [sha1Prefix, List.append_assoc]
  · exact lt_of_lt_of_le (emsa_lt h) (le_trans two_pow_2033_le hn)

/-- A signature made with the private key verifies under the public key exactly as adbd checks
    it, for every valid 2048-bit key and every 20-byte token. -/
theorem C17_sign_verifies {n e d p q : Nat} (k : ValidKey n e d p q) {token : Bytes}
    (ht : token.length = 20) : verify n e token (sign n d token) = true :=
  sign_verifies k ht

/-- The signature is unique: any 256-byte string in range (`< n`) that adbd accepts for the token
    IS `sign n d token`. -/
theorem C17_signature_unique {n e d p q : Nat} (k : ValidKey n e d p q) {token s : Bytes}
    (hv : verify n e token s = true) (hl : s.length = 256) (hs : os2ip s < n) :
    s = sign n d token :=
  signature_unique k hv hl hs

/-- The signers are interchangeable: two signers whose 256-byte, in-range outputs both verify
    return the same bytes (no length hypothesis on the token is needed). -/
theorem C17_signers_interchangeable {n e d p q : Nat} (k : ValidKey n e d p q) {token s₁ s₂ : Bytes}
    (h₁ : verify n e token s₁ = true) (l₁ : s₁.length = 256) (r₁ : os2ip s₁ < n)
    (h₂ : verify n e token s₂ = true) (l₂ : s₂.length = 256) (r₂ : os2ip s₂ < n) : s₁ = s₂ :=
  (signature_unique k h₁ l₁ r₁).trans (signature_unique k h₂ l₂ r₂).symm

/-- The model's signature is itself a 256-byte string in range, so `C17_signature_unique` applies
    to it and to anything equal to it. -/
theorem C17_sign_in_range {n d : Nat} (hn : 0 < n) (token : Bytes) (hi : n < 2 ^ 2048) :
    (sign n d token).length = 256 ∧ os2ip (sign n d token) < n := by
  have hn256 : n ≤ 256 ^ 256 := by rw [← two_pow_2048]; exact hi.le
  refine ⟨by simp [sign, modSize_eq], ?_⟩
  simp only [sign, modSize_eq, powMod_eq]
  rw [os2ip_i2osp (lt_of_lt_of_le (Nat.mod_lt _ hn) hn256)]
  exact Nat.mod_lt _ hn

/-- The blob has the size of Android's `RSAPublicKey` struct, 524 bytes, and the sizes regenerated
    from keygen.py are the ones adbd uses (256-byte modulus, 64 words).  (No range hypotheses are
    needed for the length: the model truncates where `struct.pack`/`to_bytes` would raise.) -/
theorem C17_blob_len (n e : Nat) :
    (blob n e).length = 524 ∧ Generated.ANDROID_PUBKEY_ENCODED_SIZE = 524
      ∧ Generated.ANDROID_PUBKEY_MODULUS_SIZE = 256 ∧ Generated.ANDROID_PUBKEY_MODULUS_SIZE_WORDS = 64 :=
  ⟨blob_length n e, rfl, rfl, rfl⟩

/-- Reading the blob back as the struct `<LL256s256sL` gives: 64 words, `n0inv`, the modulus, `rr`,
    the exponent — where `n0inv·n ≡ -1 (mod 2^32)` (so `n0inv = -1/n mod 2^32`, a 32-bit value) and
    `rr = 2^4096 mod n < n`. -/
theorem C17_blob_fields {n e : Nat} (hodd : n % 2 = 1) (hn : n < 2 ^ 2048) (he : e < 2 ^ 32) :
    decodeBlob (blob n e) = some (64, n0inv n, n, rr n, e)
    ∧ n0inv n * n % 2 ^ 32 = 2 ^ 32 - 1 ∧ n0inv n < 2 ^ 32
    ∧ rr n = 2 ^ 4096 % n ∧ rr n < n :=
  ⟨decodeBlob_blob hodd hn he, n0inv_spec hodd, (n0inv_bounds hodd).2, rr_eq n, rr_lt (by omega)⟩

/-- `n0inv` is determined by its defining congruence: the only 32-bit `y` with
    `y·n ≡ -1 (mod 2^32)` is `n0inv n` (so it does not matter how the inverse is computed). -/
theorem C17_n0inv_unique {n y : Nat} (hodd : n % 2 = 1) (hy : y < 2 ^ 32)
    (h : y * n % 2 ^ 32 = 2 ^ 32 - 1) : y = n0inv n :=
  n0inv_unique hodd hy h

/-- Base64 decoding inverts base64 encoding. -/
theorem C17_base64_roundtrip (bs : Bytes) : b64decode (b64encode bs) = some bs :=
  b64_roundtrip bs

/-- The `.pub` file is 700 base64 characters that decode to the 524-byte blob, followed by exactly
    the comment (`' user@host'`). -/
theorem C17_pubfile (n e : Nat) (comment : Bytes) :
    ((pubFile n e comment).take 700).length = 700
    ∧ b64decode ((pubFile n e comment).take 700) = some (blob n e)
    ∧ (pubFile n e comment).drop 700 = comment := by
  have hl : (b64encode (blob n e)).length = 700 := by
    rw [b64encode_length, blob_length]
  unfold pubFile
  rw [List.take_left' hl, List.drop_left' hl]
  exact ⟨hl, b64_roundtrip _, rfl⟩

/-! ### Non-vacuity -/

/-- The hypotheses of `C17_rsa_roundtrip` are satisfiable: p = 61, q = 53, e = 17, d = 413
    (17·413 = 7021 = 1 + 117·60 = 1 + 135·52). -/
example : Nat.Prime 61 ∧ Nat.Prime 53 ∧ (61 : Nat) ≠ 53
    ∧ ∃ kp kq, 17 * 413 = 1 + kp * (61 - 1) ∧ 17 * 413 = 1 + kq * (53 - 1) :=
  ⟨by norm_num, by norm_num, by decide +kernel, 117, 135, by decide +kernel, by decide +kernel⟩

/-- … and the conclusion on that key, computed by the model's own `powMod` (n = 3233). -/
example : powMod (powMod 65 413 3233) 17 3233 = 65 ∧ powMod (powMod 65 17 3233) 413 3233 = 65
    ∧ powMod (powMod 61 413 3233) 17 3233 = 61 := by decide +kernel

example : (65 ^ 413) ^ 17 % (61 * 53) = 65 % (61 * 53) :=
  (C17_rsa_roundtrip (by norm_num) (by norm_num) (by decide +kernel) ⟨117, 135, by decide +kernel, by decide +kernel⟩ 65).1

/-- `powMod` edge cases: modulus 1, exponent 0. -/
example : powMod 5 0 7 = 1 ∧ powMod 5 3 1 = 0 ∧ powMod 0 0 1 = 0 ∧ powMod 2 10 1000 = 24 := by decide +kernel

/-- Conversions on a concrete value. -/
example : i2osp 4 0x01020304 = [1, 2, 3, 4] ∧ leBytes 4 0x01020304 = [4, 3, 2, 1]
    ∧ os2ip [1, 2, 3, 4] = 0x01020304 := by decide +kernel

/-- A token of length 20 exists and its encoding has the stated first bytes. -/
example : (List.replicate 20 (0xAB : UInt8)).length = 20
    ∧ (emsa (List.replicate 20 0xAB) 256).take 3 = [0, 1, 255] := by decide +kernel

/-- `n0inv` on a small odd number: `n0inv 3 = 0x55555555` and `3 · 0x55555555 = 2^32 - 1`. -/
example : n0inv 3 = 0x55555555 ∧ n0inv 3 * 3 % 2 ^ 32 = 2 ^ 32 - 1 := by decide +kernel

/-- base64 test vectors of RFC 4648. -/
example : b64encode (ascii "foobar") = ascii "Zm9vYmFy" ∧ b64encode (ascii "fooba") = ascii "Zm9vYmE="
    ∧ b64encode (ascii "foob") = ascii "Zm9vYg==" ∧ b64decode (ascii "Zm9vYg==") = some (ascii "foob") := by
  decide +kernel

/-! #### A real 2048-bit key (AdbProofs/Lemmas/KeysExample.lean)

Primality of the two 1024-bit factors cannot be decided in the kernel, and a smaller key is not
possible for the sign/verify theorems (the encoding alone needs 46 bytes, i.e. primes of ≥ 180
bits), so `ValidKey` is exhibited only up to primality: every other field is checked, and the
conclusions of the theorems are checked by evaluation on this key. -/

/-- All `ValidKey` fields except the primality of `exP`, `exQ`. -/
example : exN = exP * exQ ∧ exP ≠ exQ ∧ 2 ^ 2047 ≤ exN ∧ exN < 2 ^ 2048 ∧ exN % 2 = 1
    ∧ exE * exD = 1 + exKP * (exP - 1) ∧ exE * exD = 1 + exKQ * (exQ - 1) ∧ exE < 2 ^ 32 := by
  decide +kernel

/-- Conclusions of `C17_sign_verifies` / `C17_sign_in_range` on that key; and `verify` is not
    trivially true: a signature that is off by one, or the signature of another token, is rejected. -/
example : exTok.length = 20 ∧ verify exN exE exTok (sign exN exD exTok) = true
    ∧ (sign exN exD exTok).length = 256 ∧ os2ip (sign exN exD exTok) < exN
    ∧ verify exN exE exTok (i2osp 256 (os2ip (sign exN exD exTok) + 1)) = false
    ∧ verify exN exE exTok (sign exN exD (List.replicate 20 0)) = false := by
  -- the two signatures are evaluated in separate kernel runs: one run evaluating both is much slower
  refine (fun (h : _ ∧ _ ∧ _ ∧ _ ∧ _) f => ⟨h.1, h.2.1, h.2.2.1, h.2.2.2.1, h.2.2.2.2, f⟩) ?_ ?_
  · decide +kernel
  · decide +kernel

/-- Conclusions of `C17_blob_fields` / `C17_pubfile` on that key. -/
example : decodeBlob (blob exN exE) = some (64, n0inv exN, exN, rr exN, exE)
    ∧ n0inv exN * exN % 2 ^ 32 = 2 ^ 32 - 1 ∧ rr exN < exN
    ∧ (pubFile exN exE (ascii " u@h")).length = 704
    ∧ (pubFile exN exE (ascii " u@h")).drop 699 = ascii "= u@h" := by
  decide +kernel

end Adb
