import AdbProofs.Lemmas.SrcLoops
import AdbModel.Generated.Src
/-
  C15 (tie to the source, by proof) — the write loop `_AdbIOManager._write_all` (the F1 repair; both twins). As for C03Src, harness/pytrans.py extracts from the
  CURRENT source the argument tuple of the one transport call an iteration makes and the rest of the body as a pure function of the loop state and of the effect
  results (`bulk_write`'s return value, `time.time()`). The theorems say this is exactly the model's `writeAllLoop` (= `bulk_write(data, tt)`, then `writeStep`):
  the source offers the transport exactly the bytes not yet accepted, stops only when the reported count covers them all (or is `None`), continues with exactly the
  unaccepted suffix, and gives up exactly when the model does. The write-loop theorems of C15.lean (completeness / clean prefix) are therefore about this loop body.
  Only property theorems and non-vacuity examples live here.
-/
set_option linter.unusedSimpArgs false
namespace Adb
open Py

/-- The translation of `_write_all` of the async class is, piece by piece, that of the sync class; an edit of one twin only breaks these equations. -/
theorem Src.write_all_twin : Src.AdbDeviceAsync_write_all_cond = Src.AdbDevice_write_all_cond
    ∧ Src.AdbDeviceAsync_write_all_eff0_args = Src.AdbDevice_write_all_eff0_args ∧ Src.AdbDeviceAsync_write_all_iter = Src.AdbDevice_write_all_iter := ⟨rfl, rfl, rfl⟩

/-- `_write_all` loops unconditionally (`while True`) — it can only leave through the body (sync / async). -/
theorem C15_src_write_cond (info data nw start : Py.Val) :
    Src.AdbDevice_write_all_cond info data nw start = .ok (.bool true) ∧ Src.AdbDeviceAsync_write_all_cond info data nw start = .ok (.bool true) := by
  rw [Src.write_all_twin.1, and_self]
  simp [Src.AdbDevice_write_all_cond, pysimp]

/-- The transport call of an iteration is `bulk_write(data, adb_info.transport_timeout_s)` with `data` = exactly the bytes not yet accepted (sync / async). -/
theorem C15_src_write_request (cls : String) (fs : List (String × Py.Val)) (t : Txn) (data nw start : Py.Val)
    (htt : alookupS "transport_timeout_s" fs = some (encTimeout t.tt)) :
    Src.AdbDevice_write_all_eff0_args (.obj cls fs) data nw start = .ok (.tuple [.str "bulk_write", data, encTimeout t.tt])
      ∧ Src.AdbDeviceAsync_write_all_eff0_args (.obj cls fs) data nw start = .ok (.tuple [.str "bulk_write", data, encTimeout t.tt]) := by
  rw [Src.write_all_twin.2.1, and_self]
  simp [Src.AdbDevice_write_all_eff0_args, pysimp, htt]

/-- the count a transport reports: a number, or `None` for transports that do not report one -/
def encCount : Option Nat → Py.Val
  | none => .none
  | some k => .int k

/-- One iteration (sync): after the transport reported `nw`, the source's loop body does exactly the model's `writeStep`: it returns when the count is `None` or
    covers all of `data`; otherwise it keeps exactly the unaccepted suffix `data[nw:]`, raises `AdbTimeoutError` iff `now - start > read_timeout_s` (`TypeError`
    when that is `None`) and else goes round again. -/
theorem C15_src_write_iter_sync (cls : String) (fs : List (String × Py.Val)) (t : Txn) (nw0 : Py.Val) (data : Bytes) (nw : Option Nat) (start now : Int)
    (hrt : alookupS "read_timeout_s" fs = some (encTimeout t.rt)) :
    Src.AdbDevice_write_all_iter (.obj cls fs) (.bytes data) nw0 (.int start) (encCount nw) (.int now)
      = (match writeStep t start now data nw with
         | .done d => .ok (.tuple [.str "return", .none, .bytes d, encCount nw])
         | .again d => .ok (.tuple [.str "continue", .bytes d, encCount nw])
         | .fail .adbTimeout => .error .adbTimeout
         | .fail _ => .error .typeError) := by
  cases nw with
  | none => simp [Src.AdbDevice_write_all_iter, pysimp, encCount, writeStep]
  | some k =>
    simp only [Src.AdbDevice_write_all_iter, pysimp, encCount, writeStep, hrt]
    cases hr : t.rt with
    | none =>
      by_cases h1 : k ≥ data.length <;> simp [pysimp, encTimeout, h1]
    | some l =>
      by_cases h1 : k ≥ data.length <;> by_cases h2 : now - start > l <;> simp [pysimp, encTimeout, h1, h2]

/-- One iteration (async twin): the same. -/
theorem C15_src_write_iter_async (cls : String) (fs : List (String × Py.Val)) (t : Txn) (nw0 : Py.Val) (data : Bytes) (nw : Option Nat) (start now : Int)
    (hrt : alookupS "read_timeout_s" fs = some (encTimeout t.rt)) :
    Src.AdbDeviceAsync_write_all_iter (.obj cls fs) (.bytes data) nw0 (.int start) (encCount nw) (.int now)
      = (match writeStep t start now data nw with
         | .done d => .ok (.tuple [.str "return", .none, .bytes d, encCount nw])
         | .again d => .ok (.tuple [.str "continue", .bytes d, encCount nw])
         | .fail .adbTimeout => .error .adbTimeout
         | .fail _ => .error .typeError) := by
  simp only [Src.write_all_twin]
  exact C15_src_write_iter_sync cls fs t nw0 data nw start now hrt

/-- The model side of the tie: the model's write loop is "offer `data` to the transport, then `writeStep`". -/
theorem C15_model_write_loop_is_step (t : Txn) (start : Int) (fuel : Nat) (data : Bytes) (w : World) :
    writeAllLoop t start (fuel + 1) data w =
      match bulkWrite data t.tt w with
      | (.error e, w1) => (.error e, w1)
      | (.ok nw, w1) =>
        match writeStep t start w1.now data nw with
        | .done _ => (.ok (), w1)
        | .again d => writeAllLoop t start fuel d w1
        | .fail e => (.error e, w1) := writeAllLoop_step t start fuel data w

/-! ### Non-vacuity: a short write that continues with the suffix, a complete one, a transport that reports nothing, a short write past the deadline -/
example : writeStep ⟨some 1, none, some 5, some 10, none⟩ 100 101 [1, 2, 3, 4] (some 1) = .again [2, 3, 4] := by rfl
example : writeStep ⟨some 1, none, some 5, some 10, none⟩ 100 101 [1, 2, 3, 4] (some 4) = .done [1, 2, 3, 4] := by rfl
example : writeStep ⟨some 1, none, some 5, some 10, none⟩ 100 101 [1, 2, 3, 4] none = .done [1, 2, 3, 4] := by rfl
example : writeStep ⟨some 1, none, some 5, some 10, none⟩ 100 111 [1, 2, 3, 4] (some 0) = .fail .adbTimeout := by rfl

end Adb
