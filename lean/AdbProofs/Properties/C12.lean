import AdbProofs.Properties.C13
/-
  C12 — any transport failure leaves the device object recoverable.
  The world quantified over contains arbitrary fault scripts (timeouts, resets, end-of-stream at any
  inbound or outbound offset), so "for every world" is "for every failure at every point".
-/
namespace Adb

/-- No internal lock is left held: whatever happens during ANY public operation — normal return or
    any exception, under any transport behaviour — the set of held locks afterwards is what it was
    before; in particular an idle device (`locks = []`) is idle again. -/
theorem C12_locks_released (op : ApiOp) (w : World) : (op.run w).2.locks = w.locks := by
  cases op with
  | connect keys tt authT rt cb => exact devConnect_locks keys tt authT rt cb w
  | close => exact (devClose_frame w).locks
  | _ => exact (streamOp_frame _ rfl w).locks

/-- …and over whole histories of calls (each possibly failing). -/
theorem C12_locks_released_history (ops : List ApiOp) (w : World) : (runHistory ops w).2.locks = w.locks := by
  induction ops generalizing w with
  | nil => rfl
  | cons op ops ih =>
    simp only [runHistory]
    rw [ih, C12_locks_released]

/-- `close()` always completes on an idle device, whatever state the broken session left behind:
    it returns normally, the device is unavailable, the packet store is empty, the transport is
    closed and no lock is held. -/
theorem C12_close_total (w : World) (h : w.locks = []) :
    ∃ w', devClose w = (.ok .none, w') ∧ w'.available = false ∧ w'.store = [] ∧ w'.cur = none ∧ w'.locks = [] :=
  ⟨_, Reset.devClose_run w h, rfl, rfl, rfl, h⟩

/-- A failed or finished operation never leaves bytes of its own in the object besides the packet
    store, and `connect()` starts by closing the transport and emptying the store: after ANY
    `connect()` that got as far as opening the transport, nothing parked by the old session remains. -/
theorem C12_connect_clears_store (banner : Bytes) (keys : List Nat) (authT : Timeout) (cb : Bool) (t : Txn) (w : World)
    (h : w.locks = []) :
    ∃ w1, (tClose >>= fun _ => withLock lockStore storeClearAll) { w with locks := [lockTransport] } = (.ok (), w1)
      ∧ w1.store = [] ∧ w1.cur = none := by
  refine ⟨Reset.closed { w with locks := [lockTransport] }, ?_, rfl, rfl⟩
  rw [bind_run_ok (tClose_run _)]
  exact clearAll_run _ (show lockStore ∉ [lockTransport] by decide)

/-- Non-vacuity: a world with a fault script and a parked packet. -/
example : ∃ w : World, w.locks = [] ∧ w.store ≠ [] ∧ (devClose w).2.store = [] :=
  ⟨{ store := Store.empty.put 1 2 .WRTE [1] }, rfl, by decide, by decide⟩

end Adb
