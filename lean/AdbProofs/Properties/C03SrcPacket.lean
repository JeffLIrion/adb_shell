import AdbProofs.Lemmas.SrcLoops
import AdbProofs.Properties.C02Src
/-
  C03 (tie to the source, by proof) — packet validation, `_AdbIOManager._read_packet_from_device` (both twins). harness/pytrans.py turns the CURRENT source of
  that method into pure functions by making the RESULTS of its two `self._read_bytes_from_device(...)` calls parameters (`eff0` = the 24 header bytes, `eff1` = the
  payload bytes) and by cutting the method at each call to obtain the call's arguments. The theorems say the source
    * first asks for exactly `MESSAGE_SIZE` bytes,
    * asks for exactly `data_length` payload bytes — and only for a header that unpacks, names a known command and announces a non-empty payload,
    * rejects an unknown command word with `InvalidCommandError` BEFORE reading any payload, and a non-empty payload whose byte sum differs from the header's
      `data_check` with `InvalidChecksumError`, and otherwise returns exactly `(command id, arg0, arg1, payload)`,
  which is the model's `readPacket` (= `readBytes 24`, [`readBytes len`], then the pure `packetOf`).
  Only property theorems and non-vacuity examples live here.
-/
set_option linter.unusedSimpArgs false
namespace Adb
open Py

/-- the pure part of `readPacket`: header bytes and payload bytes to a packet or an exception -/
def packetOf (msg data : Bytes) : Except Err Pkt :=
  match unpack msg with
  | none => .error .pyValueError
  | some h =>
    match Cmd.ofWire? h.cmd with
    | none => .error .invalidCommand
    | some c =>
      if h.len = 0 then .ok ⟨c, h.arg0, h.arg1, []⟩
      else if checksum data ≠ h.sum then .error .invalidChecksum
      else .ok ⟨c, h.arg0, h.arg1, data⟩

/-- does the header announce a payload that has to be read? -/
def payloadLen (msg : Bytes) : Option Nat :=
  match unpack msg with
  | none => none
  | some h => match Cmd.ofWire? h.cmd with
    | none => none
    | some _ => if h.len = 0 then none else some h.len

/-- The model's packet reader is: read `MESSAGE_SIZE` bytes; read `len` more iff `payloadLen` says so; then `packetOf`. -/
theorem C03_model_read_packet_is_packetOf (t : Txn) (w : World) :
    readPacket t w =
      match readBytes Generated.MESSAGE_SIZE t w with
      | (.error e, w1) => (.error e, w1)
      | (.ok msg, w1) =>
        match payloadLen msg with
        | none => (packetOf msg [], w1)
        | some n =>
          match readBytes n t w1 with
          | (.error e, w2) => (.error e, w2)
          | (.ok data, w2) => (packetOf msg data, w2) := by
  simp only [readPacket, bind, M.bind]
  cases hm : readBytes Generated.MESSAGE_SIZE t w with
  | mk r w1 =>
    cases r with
    | error e => simp
    | ok msg =>
      simp only [payloadLen, packetOf]
      cases hu : unpack msg with
      | none => simp [hu, M.throw]
      | some h =>
        cases hc : Cmd.ofWire? h.cmd with
        | none => simp [hu, hc, M.throw]
        | some c =>
          by_cases h0 : h.len = 0
          · simp [hu, hc, h0, pure, M.pure]
          · simp only [hu, hc, h0, if_false]
            cases hd : readBytes h.len t w1 with
            | mk r2 w2 =>
              cases r2 with
              | error e => simp [M.bind, hd]
              | ok data =>
                by_cases hs : checksum data = h.sum
                · simp [hs, hd, pure, M.pure, M.bind]
                · simp [hs, hd, M.throw, M.bind]

/-- the generated `constants.WIRE_TO_ID` table, looked up with `.get`, is the model's `Cmd.ofWire?` -/
theorem src_wireToId_get (n : Nat) :
    Py.dictGet Src.const_WIRE_TO_ID (.int n) = .ok (match Cmd.ofWire? n with | some c => .bytes c.idBytes | none => .none) := by
  have table : Src.const_WIRE_TO_ID = .dict (Cmd.all.map fun c => (Py.Key.int c.wire, Py.Val.bytes c.idBytes)) := rfl
  rw [table, Py.dictGet_intTable, Cmd.ofWire?]
  cases Cmd.all.find? _ <;> rfl

/-- what `_read_packet_from_device` returns for a packet -/
def encPkt (p : Pkt) : Py.Val := .tuple [.bytes p.cmd.idBytes, .int p.arg0, .int p.arg1, .bytes p.data]

theorem Cmd.idBytes_ne_nil (c : Cmd) : c.idBytes.isEmpty = false := by cases c <;> decide

/-- Packet validation (sync): on header bytes `msg` and payload bytes `data` the source's `_read_packet_from_device` (effects as parameters) returns exactly the
    model's `packetOf`: `ValueError` for a header that does not unpack, `InvalidCommandError` for an unknown command word, `InvalidChecksumError` for a non-empty
    payload whose byte sum is not the header's `data_check`, else `(command id, arg0, arg1, payload)` (the payload parameter is ignored when `data_length = 0`). -/
theorem C03_src_packet_sync (info : Py.Val) (msg data : Bytes) :
    Src.AdbDevice_read_packet_from_device_fn info (.bytes msg) (.bytes data) =
      (match packetOf msg data with
       | .ok p => .ok (encPkt p)
       | .error .invalidCommand => .error .invalidCommand
       | .error .invalidChecksum => .error .invalidChecksum
       | .error _ => .error .valueError) := by
  simp only [Src.AdbDevice_read_packet_from_device_fn, (C02_src_unpack msg).1, packetOf]
  cases unpack msg with
  | none => simp only [pysimp]
  | some h =>
    simp only [pysimp, src_wireToId_get]
    cases Cmd.ofWire? h.cmd with
    | none => simp only [pysimp]
    | some c =>
      simp only [pysimp, Cmd.idBytes_ne_nil, (C02_src_checksum_bytes data).1]
      by_cases h0 : h.len = 0
      · simp [h0, encPkt]
      · by_cases hs : checksum data = h.sum <;> simp [h0, hs, encPkt, Int.natCast_inj]

/-- The translation of `_read_packet_from_device` of the async class is, piece by piece, that of the sync class; an edit of one twin only breaks these equations. -/
theorem Src.read_packet_twin : Src.AdbDeviceAsync_read_packet_from_device_fn = Src.AdbDevice_read_packet_from_device_fn
    ∧ Src.AdbDeviceAsync_read_packet_from_device_eff1_args = Src.AdbDevice_read_packet_from_device_eff1_args := ⟨rfl, rfl⟩

/-- Packet validation (async twin): the same. -/
theorem C03_src_packet_async (info : Py.Val) (msg data : Bytes) :
    Src.AdbDeviceAsync_read_packet_from_device_fn info (.bytes msg) (.bytes data) =
      (match packetOf msg data with
       | .ok p => .ok (encPkt p)
       | .error .invalidCommand => .error .invalidCommand
       | .error .invalidChecksum => .error .invalidChecksum
       | .error _ => .error .valueError) := by
  simp only [Src.read_packet_twin]
  exact C03_src_packet_sync info msg data

/-- The first read asks for exactly `MESSAGE_SIZE` bytes (both twins). -/
theorem C03_src_packet_first_request (info : Py.Val) :
    Src.AdbDevice_read_packet_from_device_eff0_args info = .ok (.tuple [.str "request", .str "_read_bytes_from_device", .int (Generated.MESSAGE_SIZE : Nat), info])
      ∧ Src.AdbDeviceAsync_read_packet_from_device_eff0_args info = .ok (.tuple [.str "request", .str "_read_bytes_from_device", .int (Generated.MESSAGE_SIZE : Nat), info]) := by
  constructor <;> rfl

/-- The second read (sync): after the header bytes `msg`, the source asks for exactly `data_length` more bytes — and only when the header unpacks, names a known
    command and announces a non-empty payload (`payloadLen`); otherwise it has already returned the payload-less packet or raised, without touching the transport
    again (an unknown command is rejected BEFORE any payload is read). -/
theorem C03_src_packet_second_request_sync (info : Py.Val) (msg : Bytes) :
    Src.AdbDevice_read_packet_from_device_eff1_args info (.bytes msg) =
      (match payloadLen msg with
       | some n => .ok (.tuple [.str "request", .str "_read_bytes_from_device", .int n, info])
       | none =>
         match packetOf msg [] with
         | .ok p => .ok (encPkt p)
         | .error .invalidCommand => .error .invalidCommand
         | .error .invalidChecksum => .error .invalidChecksum
         | .error _ => .error .valueError) := by
  simp only [Src.AdbDevice_read_packet_from_device_eff1_args, (C02_src_unpack msg).1, packetOf, payloadLen]
  cases unpack msg with
  | none => simp only [pysimp]
  | some h =>
    simp only [pysimp, src_wireToId_get]
    cases Cmd.ofWire? h.cmd with
    | none => simp only [pysimp]
    | some c =>
      simp only [pysimp, Cmd.idBytes_ne_nil]
      by_cases h0 : h.len = 0 <;> simp [h0, encPkt]

/-- The second read (async twin): the same. -/
theorem C03_src_packet_second_request_async (info : Py.Val) (msg : Bytes) :
    Src.AdbDeviceAsync_read_packet_from_device_eff1_args info (.bytes msg) =
      (match payloadLen msg with
       | some n => .ok (.tuple [.str "request", .str "_read_bytes_from_device", .int n, info])
       | none =>
         match packetOf msg [] with
         | .ok p => .ok (encPkt p)
         | .error .invalidCommand => .error .invalidCommand
         | .error .invalidChecksum => .error .invalidChecksum
         | .error _ => .error .valueError) := by
  simp only [Src.read_packet_twin]
  exact C03_src_packet_second_request_sync info msg

/-- Consequences in the property's words: a packet whose non-empty payload does not match the header's checksum is never returned, and an unknown command word
    is never returned — by the SOURCE's function, for every header and payload. -/
theorem C03_src_never_delivers_bad_packet (info : Py.Val) (msg data : Bytes) (v : Py.Val)
    (h : Src.AdbDevice_read_packet_from_device_fn info (.bytes msg) (.bytes data) = .ok v) :
    ∃ p : Pkt, packetOf msg data = .ok p ∧ v = encPkt p ∧ (p.data = [] ∨ (p.data = data ∧ ∃ hd, unpack msg = some hd ∧ checksum data = hd.sum)) ∧
      ∃ hd, unpack msg = some hd ∧ Cmd.ofWire? hd.cmd = some p.cmd := by
  rw [C03_src_packet_sync] at h
  cases hp : packetOf msg data with
  | error e => rw [hp] at h; cases e <;> simp at h
  | ok p =>
    rw [hp] at h
    refine ⟨p, rfl, by injection h with h; exact h.symm, ?_, ?_⟩
    all_goals
      simp only [packetOf] at hp
      cases hu : unpack msg with
      | none => simp [hu] at hp
      | some hd =>
        cases hc : Cmd.ofWire? hd.cmd with
        | none => simp [hu, hc] at hp
        | some c =>
          simp only [hu, hc] at hp
          by_cases h0 : hd.len = 0
          · simp [h0] at hp; subst hp; simp [hc]
          · by_cases hs : checksum data = hd.sum
            · simp [h0, hs] at hp; subst hp; simp [hc, hs]
            · simp [h0, hs] at hp

/-! ### Non-vacuity: an OKAY header (no payload), a WRTE with a matching and with a wrong checksum, an unknown command word -/
example : packetOf (le32 Cmd.OKAY.wire ++ le32 7 ++ le32 3 ++ le32 0 ++ le32 0 ++ le32 (magicOf Cmd.OKAY.wire)) [] = .ok ⟨.OKAY, 7, 3, []⟩ := by rfl
example : packetOf (le32 Cmd.WRTE.wire ++ le32 7 ++ le32 3 ++ le32 2 ++ le32 (97 + 98) ++ le32 (magicOf Cmd.WRTE.wire)) [97, 98] = .ok ⟨.WRTE, 7, 3, [97, 98]⟩ := by rfl
example : packetOf (le32 Cmd.WRTE.wire ++ le32 7 ++ le32 3 ++ le32 2 ++ le32 1 ++ le32 (magicOf Cmd.WRTE.wire)) [97, 98] = .error .invalidChecksum := by rfl
example : packetOf (le32 0xDEADBEEF ++ le32 7 ++ le32 3 ++ le32 2 ++ le32 1 ++ le32 0) [97, 98] = .error .invalidCommand := by rfl

end Adb
