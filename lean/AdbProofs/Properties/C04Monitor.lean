import AdbProofs.Lemmas.MonitorHistory
import AdbProofs.Lemmas.SyncExamples
import AdbProofs.Lemmas.PushExamples
/-
  C04 — the executable per-stream protocol monitor (`Adb.Monitor`, the Lean transcription of the
  harness' `_monitor`) accepts every conversation the model's operations produce.

  Vocabulary: `exchanged evs` are the deliveries (`rx`) and transmissions (`tx`) of the trace events a
  call adds, oldest first; `ofXfers` turns them into the monitor's packet log (delivery = device
  packet, transmission = host packet); `Monitor.run S log = (S', viols)` runs the monitor loop from
  stream table `S`.  `Quiet1 r st` — "open and quiet" — is `st.remote = some r ∧ st.hostClosed = false ∧
  st.owed = 0 ∧ st.hostWrteInflight = false`; `Live r st` is `st.remote = some r ∧ st.hostClosed = false ∧
  0 ≤ st.owed`; `Done st` is `st.hostClosed = true ∧ st.devClosed = true ∧ st.done = true`.

  Every theorem about delivered stream packets assumes that none of them carries the legacy zero local
  id (`∀ p ∈ delivered evs, p.arg1 ≠ 0`): the library's `allow_zeros` matching delivers and acknowledges
  `WRTE(r, 0)`, which the monitor (keyed by arg1) skips as foreign traffic — it then reports the
  acknowledgement as spurious; see the last example.
-/
namespace Adb
open Monitor (St Viol Table)

/-- `_open` on a monitor table in which the next local id is not a live stream (unknown or `done`),
    EVERY outcome: the monitor accepts the exchange, no other stream's entry changes, and after a
    normal return the new stream — with the ids of the returned transaction — is open and quiet. -/
theorem C04_monitor_open (dest : Bytes) (tt rt total : Timeout) (w w' : World) (res : Except Err Txn) (S : Table)
    (hl : w.locks = []) (hid : w.localId < 4294967296)
    (hfresh : ∀ st, alookup (nextId w.localId) S = some st → st.done = true)
    (h : openStream dest tt rt total w = (res, w')) :
    ∃ (evs : List TEv) (S' : Table), w'.trace = evs ++ w.trace ∧
      Monitor.run S (ofXfers (exchanged evs)) = (S', []) ∧
      (∀ k, k ≠ nextId w.localId → alookup k S' = alookup k S) ∧
      (∀ t, res = .ok t → ∃ r st, t.localId = some (nextId w.localId) ∧ t.remoteId = some r ∧
        alookup (nextId w.localId) S' = some st ∧ Quiet1 r st) := by
  obtain ⟨X, ⟨evs, htr, hx, _⟩, _, hres⟩ := openStream_mon h hl
  subst hx
  cases res with
  | ok t =>
    obtain ⟨r, hi, hacc⟩ := hres
    obtain ⟨st, h1, hq⟩ := hacc S hid hfresh
    refine ⟨evs, _, htr, h1, Only.aset _ _ S, ?_⟩
    intro t' ht'
    cases ht'
    exact ⟨r, st, hi.loc, hi.rem, alookup_aset_self _ _ _, hq⟩
  | error e =>
    obtain ⟨S', h1, h2⟩ := hres S hid hfresh
    exact ⟨evs, S', htr, h1, h2, by simp⟩

/-- `_okay` is only sent when owed: it transmits exactly one OKAY with the stream's ids, which the
    monitor accepts if (and only if) a delivered WRTE is still unacknowledged (`0 < owed`). -/
theorem C04_monitor_okay (t : Txn) (l r : Nat) (w w' : World) (res : Except Err Unit) (hl : lockTransport ∉ w.locks)
    (hloc : t.localId = some l) (hrem : t.remoteId = some r) (h : okay t w = (res, w')) :
    ∃ evs : List TEv, w'.trace = evs ++ w.trace ∧ exchanged evs = [.tx ⟨.OKAY, l, r, []⟩] ∧
      ∀ (S : Table) (st : St), alookup l S = some st → Live r st →
        Monitor.run S (ofXfers (exchanged evs)) =
          (aset l { st with owed := st.owed - 1 } S, if st.owed ≤ 0 then [Viol.spuriousOkay] else []) := by
  have hi : Ids t l r := ⟨hloc, hrem⟩
  obtain ⟨⟨evs, htr, hxe, _⟩, hacc⟩ := okay_mon hi h hl
  refine ⟨evs, htr, by rw [hxe, hi.okayMsg], fun S st hst hlv => ?_⟩
  rw [hxe]; exact hacc S st hst hlv

/-- `_read_until` on an open-and-quiet stream `(l, r)`, EVERY outcome: at most one packet is delivered;
    a delivered WRTE is acknowledged with exactly one OKAY right after it and nothing else is sent; the
    monitor accepts and the stream is open and quiet again. -/
theorem C04_monitor_read_until (ex : List Cmd) (t : Txn) (l r : Nat) (w w' : World) (res : Except Err (Cmd × Bytes))
    (hl : lockTransport ∉ w.locks) (hloc : t.localId = some l) (hrem : t.remoteId = some r)
    (h : readUntil ex t w = (res, w')) :
    ∃ evs : List TEv, w'.trace = evs ++ w.trace ∧ ((∀ p ∈ delivered evs, p.arg1 ≠ 0) →
      ∀ (S : Table) (st : St), alookup l S = some st → Quiet1 r st →
        ∃ st', Monitor.run S (ofXfers (exchanged evs)) = (aset l st' S, []) ∧
          ((∃ v, res = .ok v) → Quiet1 r st') ∧ Live r st') :=
  (SQ_readUntil ⟨hloc, hrem⟩ ex).explicit h hl

/-- `_filesync_flush` on an open-and-quiet stream, EVERY outcome: one WRTE (none was in flight); device
    WRTEs delivered while waiting are each acknowledged once; it returns normally only after the device's
    OKAY, so the stream is open and quiet again — the next WRTE cannot overtake the acknowledgement. -/
theorem C04_monitor_flush (t : Txn) (fi : FsInfo) (l r : Nat) (w w' : World) (res : Except Err FsInfo)
    (hl : lockTransport ∉ w.locks) (hloc : t.localId = some l) (hrem : t.remoteId = some r)
    (h : fsFlush t fi w = (res, w')) :
    ∃ evs : List TEv, w'.trace = evs ++ w.trace ∧ ((∀ p ∈ delivered evs, p.arg1 ≠ 0) →
      ∀ (S : Table) (st : St), alookup l S = some st → Quiet1 r st →
        ∃ st', Monitor.run S (ofXfers (exchanged evs)) = (aset l st' S, []) ∧
          ((∃ v, res = .ok v) → Quiet1 r st') ∧ Live r st') :=
  (SQ_fsFlush ⟨hloc, hrem⟩ fi).explicit h hl

/-- `_clse` (host-initiated close) on a stream the host has not closed yet — quiet or not, e.g. after a
    failed transfer —, EVERY outcome: exactly one CLSE is sent and accepted; after a normal return the
    stream is closed by both sides (`done`). -/
theorem C04_monitor_close (t : Txn) (l r : Nat) (w w' : World) (res : Except Err Unit)
    (hl : lockTransport ∉ w.locks) (hloc : t.localId = some l) (hrem : t.remoteId = some r)
    (h : clse t w = (res, w')) :
    ∃ evs : List TEv, w'.trace = evs ++ w.trace ∧ ((∀ p ∈ delivered evs, p.arg1 ≠ 0) →
      ∀ (S : Table) (st : St), alookup l S = some st → Live r st →
        ∃ st', Monitor.run S (ofXfers (exchanged evs)) = (aset l st' S, []) ∧ st'.hostClosed = true ∧
          (res = .ok () → Done st')) := by
  obtain ⟨X, Y, ⟨evs, htr, rfl, _⟩, hacc⟩ := Str_clse ⟨hloc, hrem⟩ w w' res h hl
  refine ⟨evs, htr, fun hnz S st hst hlv => ?_⟩
  obtain ⟨st', h1, h2, h3⟩ := hacc (NZ_exchanged hnz) S st hst hlv
  exact ⟨st', h1, h2, fun hr => h3 () hr⟩

/-- `_read_until_close` on an established stream, EVERY outcome: each delivered WRTE acknowledged once,
    the device's CLSE answered with exactly one CLSE and nothing after it; closed by both sides after a
    normal return; after an exception the stream is either still `Live` or closed by both sides. -/
theorem C04_monitor_read_until_close (t : Txn) (l r : Nat) (w w' : World) (res : Except Err (List Bytes))
    (hl : lockTransport ∉ w.locks) (hloc : t.localId = some l) (hrem : t.remoteId = some r)
    (h : readUntilClose t w = (res, w')) :
    ∃ evs : List TEv, w'.trace = evs ++ w.trace ∧ ((∀ p ∈ delivered evs, p.arg1 ≠ 0) →
      ∀ (S : Table) (st : St), alookup l S = some st → Live r st →
        ∃ st', Monitor.run S (ofXfers (exchanged evs)) = (aset l st' S, []) ∧ (Live r st' ∨ Done st') ∧
          ((∃ items, res = .ok items) → Done st')) := by
  obtain ⟨X, Y, ⟨evs, htr, rfl, _⟩, hacc⟩ := Str_readUntilClose ⟨hloc, hrem⟩ w w' res h hl
  refine ⟨evs, htr, fun hnz S st hst hlv => ?_⟩
  obtain ⟨st', h1, h2, h3⟩ := hacc (NZ_exchanged hnz) S st hst hlv
  exact ⟨st', h1, h2, fun ⟨items, hr⟩ => h3 items hr⟩

/-- A whole `_streaming_command` (shell / exec_out / streaming_shell / root all run through it), EVERY
    outcome, from a table in which the next local id is not a live stream: the monitor accepts the
    whole conversation, only the new stream's entry changes, and when the call returned normally the
    stream is closed by both sides (`done`). -/
theorem C04_monitor_stream_command (svc cmd : Bytes) (tt rt total : Timeout) (w w' : World) (res : Except Err (List Bytes))
    (hl : w.locks = []) (h : streamingCommand svc cmd tt rt total w = (res, w')) :
    ∃ evs : List TEv, w'.trace = evs ++ w.trace ∧ ((∀ p ∈ delivered evs, p.arg1 ≠ 0) →
      ∀ S : Table, w.localId < 4294967296 → (∀ st, alookup (nextId w.localId) S = some st → st.done = true) →
        ∃ S', Monitor.run S (ofXfers (exchanged evs)) = (S', []) ∧
          (∀ k, k ≠ nextId w.localId → alookup k S' = alookup k S) ∧
          ((∃ items, res = .ok items) → ∃ st, alookup (nextId w.localId) S' = some st ∧ Done st)) :=
  (OneStream_streamingCommand svc cmd tt rt total).closed h hl

/-- In particular, as the only conversation of a connection: `Monitor.check` reports nothing. -/
theorem C04_monitor_stream_command_check (svc cmd : Bytes) (tt rt total : Timeout) (w w' : World) (res : Except Err (List Bytes))
    (hl : w.locks = []) (hid : w.localId < 4294967296) (h : streamingCommand svc cmd tt rt total w = (res, w')) :
    ∃ evs : List TEv, w'.trace = evs ++ w.trace ∧ ((∀ p ∈ delivered evs, p.arg1 ≠ 0) →
      Monitor.check (ofXfers (exchanged evs)) = []) := by
  obtain ⟨evs, htr, hacc⟩ := C04_monitor_stream_command svc cmd tt rt total w w' res hl h
  refine ⟨evs, htr, fun hnz => ?_⟩
  obtain ⟨S', h1, _⟩ := hacc hnz [] hid (by simp)
  exact Acc.check h1

/-- `stat`, EVERY outcome: accepted from every table in which the next local id is not a live stream;
    closed by both sides after a normal return. -/
theorem C04_monitor_stat (devPath : Bytes) (tt rt : Timeout) (w w' : World) (res : Except Err Val)
    (hl : w.locks = []) (h : devStat devPath tt rt w = (res, w')) :
    ∃ evs : List TEv, w'.trace = evs ++ w.trace ∧ ((∀ p ∈ delivered evs, p.arg1 ≠ 0) →
      ∀ S : Table, w.localId < 4294967296 → (∀ st, alookup (nextId w.localId) S = some st → st.done = true) →
        ∃ S', Monitor.run S (ofXfers (exchanged evs)) = (S', []) ∧
          (∀ k, k ≠ nextId w.localId → alookup k S' = alookup k S) ∧
          ((∃ v, res = .ok v) → ∃ st, alookup (nextId w.localId) S' = some st ∧ Done st)) :=
  (OneStream_devStat devPath tt rt).closed h hl

/-- `list`, EVERY outcome. -/
theorem C04_monitor_list (devPath : Bytes) (tt rt : Timeout) (w w' : World) (res : Except Err Val)
    (hl : w.locks = []) (h : devList devPath tt rt w = (res, w')) :
    ∃ evs : List TEv, w'.trace = evs ++ w.trace ∧ ((∀ p ∈ delivered evs, p.arg1 ≠ 0) →
      ∀ S : Table, w.localId < 4294967296 → (∀ st, alookup (nextId w.localId) S = some st → st.done = true) →
        ∃ S', Monitor.run S (ofXfers (exchanged evs)) = (S', []) ∧
          (∀ k, k ≠ nextId w.localId → alookup k S' = alookup k S) ∧
          ((∃ v, res = .ok v) → ∃ st, alookup (nextId w.localId) S' = some st ∧ Done st)) :=
  (OneStream_devList devPath tt rt).closed h hl

/-- `pull` without a progress callback, EVERY outcome (the `finally: _clse` included). -/
theorem C04_monitor_pull (devPath : Bytes) (tt rt : Timeout) (w w' : World) (res : Except Err Val)
    (hl : w.locks = []) (h : devPull devPath .none tt rt w = (res, w')) :
    ∃ evs : List TEv, w'.trace = evs ++ w.trace ∧ ((∀ p ∈ delivered evs, p.arg1 ≠ 0) →
      ∀ S : Table, w.localId < 4294967296 → (∀ st, alookup (nextId w.localId) S = some st → st.done = true) →
        ∃ S', Monitor.run S (ofXfers (exchanged evs)) = (S', []) ∧
          (∀ k, k ≠ nextId w.localId → alookup k S' = alookup k S) ∧
          ((∃ v, res = .ok v) → ∃ st, alookup (nextId w.localId) S' = some st ∧ Done st)) :=
  (OneStream_devPull_none devPath tt rt).closed h hl

/-- `_push` of one file (`pushOne`) on an open-and-quiet stream `(l, r)`, EVERY outcome: accepted,
    only the entry of stream `l` changes; the stream is open and quiet again after a normal return and
    still `Live` (established, not closed by the host, nothing acknowledged that was not owed) after an
    exception — so the `_clse` that follows is accepted too. -/
theorem C04_monitor_push (content devPath : Bytes) (mode mtime : Nat) (cb : CbMode) (t : Txn) (fi : FsInfo) (l r : Nat)
    (w w' : World) (res : Except Err Unit) (hl : lockTransport ∉ w.locks)
    (hloc : t.localId = some l) (hrem : t.remoteId = some r)
    (h : pushOne content devPath mode mtime cb t fi w = (res, w')) :
    ∃ evs : List TEv, w'.trace = evs ++ w.trace ∧ ((∀ p ∈ delivered evs, p.arg1 ≠ 0) →
      ∀ (S : Table) (st : St), alookup l S = some st → Quiet1 r st →
        ∃ st', Monitor.run S (ofXfers (exchanged evs)) = (aset l st' S, []) ∧
          ((∃ u, res = .ok u) → Quiet1 r st') ∧ Live r st') :=
  (SQ_pushOne ⟨hloc, hrem⟩ content devPath mode mtime cb fi).explicit h hl

/-- `push` of one file or BytesIO (`pushFile`: open, `_push`, `_clse`), EVERY outcome. -/
theorem C04_monitor_push_file (fid : Nat) (devPath : Bytes) (mode mtime : Nat) (cb : CbMode) (tt rt : Timeout)
    (w w' : World) (res : Except Err Unit) (hl : w.locks = []) (h : pushFile fid devPath mode mtime cb tt rt w = (res, w')) :
    ∃ evs : List TEv, w'.trace = evs ++ w.trace ∧ ((∀ p ∈ delivered evs, p.arg1 ≠ 0) →
      ∀ S : Table, w.localId < 4294967296 → (∀ st, alookup (nextId w.localId) S = some st → st.done = true) →
        ∃ S', Monitor.run S (ofXfers (exchanged evs)) = (S', []) ∧
          (∀ k, k ≠ nextId w.localId → alookup k S' = alookup k S) ∧
          ((∃ v, res = .ok v) → ∃ st, alookup (nextId w.localId) S' = some st ∧ Done st)) :=
  (OneStream_pushFile fid devPath mode mtime cb tt rt).closed h hl

/-- `pull` with or without a progress callback (with one, `stat` runs on a SECOND stream while the
    pull's stream is open), EVERY outcome.  Stated with the invariant that composes over operations:
    every stream the monitor knows has an id at most the allocator's counter (`Bnd`), and the counter
    does not wrap around during the call.  The monitor accepts the conversation, ends in such a table
    again and leaves the entries of all older streams alone. -/
theorem C04_monitor_pull_progress (devPath : Bytes) (cb : CbMode) (tt rt : Timeout) (w w' : World) (res : Except Err Val)
    (hl : w.locks = []) (hb : w.localId + 2 < 4294967296) (h : devPull devPath cb tt rt w = (res, w')) :
    ∃ evs : List TEv, w'.trace = evs ++ w.trace ∧ w.localId ≤ w'.localId ∧ w'.localId ≤ w.localId + 2 ∧
      ((∀ p ∈ delivered evs, p.arg1 ≠ 0) →
        ∀ S : Table, (∀ k st, alookup k S = some st → k ≤ w.localId) →
          ∃ S', Monitor.run S (ofXfers (exchanged evs)) = (S', []) ∧
            (∀ k st, alookup k S' = some st → k ≤ w'.localId) ∧
            (∀ k, k ≤ w.localId → alookup k S' = alookup k S)) :=
  (Multi_devPull devPath cb tt rt).explicit h hl hb

/-- `push` (a file, a BytesIO, or a directory: the `mkdir` shell command and then one stream per entry),
    EVERY outcome, in the same form; `pushBound src w.dirs` is the number of streams the call may open. -/
theorem C04_monitor_push_api (src : LocalRef) (devPath : Bytes) (mode mtime : Nat) (cb : CbMode) (tt rt : Timeout)
    (w w' : World) (res : Except Err Val) (hl : w.locks = []) (hb : w.localId + pushBound src w.dirs < 4294967296)
    (h : devPush src devPath mode mtime cb tt rt w = (res, w')) :
    ∃ evs : List TEv, w'.trace = evs ++ w.trace ∧ w.localId ≤ w'.localId ∧ w'.localId ≤ w.localId + pushBound src w.dirs ∧
      ((∀ p ∈ delivered evs, p.arg1 ≠ 0) →
        ∀ S : Table, (∀ k st, alookup k S = some st → k ≤ w.localId) →
          ∃ S', Monitor.run S (ofXfers (exchanged evs)) = (S', []) ∧
            (∀ k st, alookup k S' = some st → k ≤ w'.localId) ∧
            (∀ k, k ≤ w.localId → alookup k S' = alookup k S)) :=
  (Multi_devPush src devPath mode mtime cb tt rt).explicit h hl hb

/-- HISTORIES.  Any sequence of API calls (connect, close, shell, exec_out, root, reboot,
    streaming_shell, list, stat, pull, push — each possibly failing at any point, the caller catching
    the exception) started on an idle device object with an empty trace: if the stream-id counter does
    not wrap around during the history (`historyBound` sums, per call, the number of ids it may
    allocate: 0 for connect/close, 2 for pull, 1 + number of entries for push of a directory, 1
    otherwise) and the device never uses the legacy zero local id, the monitor accepts the WHOLE
    conversation: `Monitor.check` reports nothing. -/
theorem C04_monitor_history (ops : List ApiOp) (w w' : World) (rs : List (Except Err Val))
    (hl : w.locks = []) (htr : w.trace = []) (h : runHistory ops w = (rs, w'))
    (hb : w.localId + historyBound ops w.dirs < 4294967296)
    (hnz : ∀ p ∈ delivered w'.trace, p.arg1 ≠ 0) :
    Monitor.check (ofXfers (exchanged w'.trace)) = [] := by
  obtain ⟨X, Y, ⟨evs, he, hxe, _⟩, hr⟩ := runHistory_mon ops w w' rs h hl
  rw [htr, List.append_nil] at he
  subst hxe
  rw [he] at hnz ⊢
  obtain ⟨S', h1, _⟩ := hr hb (NZ_exchanged hnz) [] (Bnd.nil _)
  exact Acc.check h1

/-- The same for a history that continues an earlier one: from every monitor table whose streams have
    ids at most the counter, the conversation the history ADDS is accepted, and the table it ends in is
    bounded by the new counter again. -/
theorem C04_monitor_history_from (ops : List ApiOp) (w w' : World) (rs : List (Except Err Val))
    (hl : w.locks = []) (h : runHistory ops w = (rs, w'))
    (hb : w.localId + historyBound ops w.dirs < 4294967296) :
    ∃ evs : List TEv, w'.trace = evs ++ w.trace ∧ ((∀ p ∈ delivered evs, p.arg1 ≠ 0) →
      ∀ S : Table, (∀ k st, alookup k S = some st → k ≤ w.localId) →
        ∃ S', Monitor.run S (ofXfers (exchanged evs)) = (S', []) ∧ (∀ k st, alookup k S' = some st → k ≤ w'.localId)) := by
  obtain ⟨X, Y, ⟨evs, he, hxe, _⟩, hr⟩ := runHistory_mon ops w w' rs h hl
  subst hxe
  exact ⟨evs, he, fun hnz S hS => hr hb (NZ_exchanged hnz) S hS⟩

/-! ### Non-vacuity: the monitor rejects bad conversations -/

/-- a second OKAY for one WRTE -/
example : Monitor.check [⟨true, .OPEN, 1, 0, [120, 0]⟩, ⟨false, .OKAY, 7, 1, []⟩, ⟨false, .WRTE, 7, 1, [1]⟩,
    ⟨true, .OKAY, 1, 7, []⟩, ⟨true, .OKAY, 1, 7, []⟩] = [.spuriousOkay] := by decide
/-- a WRTE before the previous one was acknowledged -/
example : Monitor.check [⟨true, .OPEN, 1, 0, [120, 0]⟩, ⟨false, .OKAY, 7, 1, []⟩, ⟨true, .WRTE, 1, 7, [1]⟩,
    ⟨true, .WRTE, 1, 7, [2]⟩] = [.secondWrte] := by decide
/-- a CLSE sent twice -/
example : Monitor.check [⟨true, .OPEN, 1, 0, [120, 0]⟩, ⟨false, .OKAY, 7, 1, []⟩, ⟨true, .CLSE, 1, 7, []⟩,
    ⟨true, .CLSE, 1, 7, []⟩] = [.afterClose] := by decide
/-- an OKAY with the wrong remote id -/
example : Monitor.check [⟨true, .OPEN, 1, 0, [120, 0]⟩, ⟨false, .OKAY, 7, 1, []⟩, ⟨false, .WRTE, 7, 1, [1]⟩,
    ⟨true, .OKAY, 1, 8, []⟩] = [.wrongRemote] := by decide
/-- an OPEN reusing a live id -/
example : Monitor.check [⟨true, .OPEN, 1, 0, [120, 0]⟩, ⟨false, .OKAY, 7, 1, []⟩, ⟨true, .OPEN, 1, 0, [120, 0]⟩]
    = [.openReusesLive] := by decide
/-- a malformed OPEN (local id 0, no NUL), a packet on an unknown stream; and a well-formed conversation is accepted -/
example : Monitor.check [⟨true, .OPEN, 0, 0, [120]⟩, ⟨true, .WRTE, 5, 7, []⟩] = [.openMalformed, .unknownStream] ∧
    Monitor.ok [⟨true, .OPEN, 1, 0, [120, 0]⟩, ⟨false, .OKAY, 7, 1, []⟩, ⟨false, .WRTE, 7, 1, [1]⟩, ⟨true, .OKAY, 1, 7, []⟩,
      ⟨false, .CLSE, 7, 1, []⟩, ⟨true, .CLSE, 1, 7, []⟩] = true := by decide

/-! ### Non-vacuity: concrete runs are accepted (evaluated by the kernel) -/

open SR in
/-- the hypotheses of `C04_monitor_stat` hold in the scripted world `wStat` (idle, counter at 0, the
    device answers on stream (1, 7)), the call returns normally, and the monitor accepts its conversation -/
example : wStat.locks = [] ∧ wStat.localId < 4294967296 ∧
    (devStat sxPath (some 10) (some 10) wStat).1.toOption = some (.stat 33188 1234 1700000000) ∧
    (∀ p ∈ delivered (devStat sxPath (some 10) (some 10) wStat).2.trace, p.arg1 ≠ 0) ∧
    Monitor.check (ofXfers (exchanged (devStat sxPath (some 10) (some 10) wStat).2.trace)) = [] := by
  refine ⟨rfl, by decide, by decide +kernel⟩

open SR in
/-- the conversation of that `stat`: OPEN, the device's OKAY, one WRTE (acknowledged by the device), two
    device WRTEs each acknowledged once, CLSE answered by the device's CLSE -/
example : ofXfers (exchanged (devStat sxPath (some 10) (some 10) wStat).2.trace) =
    [⟨true, .OPEN, 1, 0, ascii "sync:" ++ [0]⟩, ⟨false, .OKAY, 7, 1, []⟩,
     ⟨true, .WRTE, 1, 7, ascii "STAT" ++ le32 2 ++ sxPath⟩, ⟨false, .OKAY, 7, 1, []⟩,
     ⟨false, .WRTE, 7, 1, sxStatRec.take 5⟩, ⟨true, .OKAY, 1, 7, []⟩,
     ⟨false, .WRTE, 7, 1, sxStatRec.drop 5⟩, ⟨true, .OKAY, 1, 7, []⟩,
     ⟨true, .CLSE, 1, 7, []⟩, ⟨false, .CLSE, 7, 1, []⟩] := by decide +kernel

open SR in
/-- `list`, `pull` and `pull` with a progress callback (the nested `stat` runs on stream 2 while stream 1 is open) -/
example : Monitor.check (ofXfers (exchanged (devList sxPath (some 10) (some 10) wList).2.trace)) = [] ∧
    Monitor.check (ofXfers (exchanged (devPull sxPath .none (some 10) (some 10) wPull).2.trace)) = [] ∧
    Monitor.check (ofXfers (exchanged (devPull sxPath .raise (some 10) (some 10) wPullCb).2.trace)) = [] ∧
    Monitor.check (ofXfers (exchanged (devPull sxPath .none (some 10) (some 10) wPullFail).2.trace)) = [] := by
  refine ⟨by decide +kernel, by decide +kernel, by decide +kernel, by decide +kernel⟩

/-- the stream-layer primitives on the open-and-quiet stream (1, 77) of `demoTxn` (hypotheses of
    `C04_monitor_read_until`, `C04_monitor_flush`, `C04_monitor_close`, `C04_monitor_read_until_close`): started
    from the table `[(1, quiet)]` the monitor accepts what they exchange -/
example :
    let q : St := { remote := some 77 }
    Quiet1 77 q ∧ lockTransport ∉ (demoWorld []).locks ∧ demoTxn.localId = some 1 ∧ demoTxn.remoteId = some 77 ∧
    Monitor.run [(1, q)] (ofXfers (exchanged (readUntil [.CLSE, .WRTE] demoTxn (demoWorld [⟨.WRTE, 77, 1, [104]⟩])).2.trace))
      = ([(1, q)], []) ∧
    Monitor.run [(1, q)] (ofXfers (exchanged (fsFlush demoTxn { fmt := .stat, maxdata := 4096, sendBuf := [1, 2, 3] }
        (demoWorld [⟨.WRTE, 77, 1, [9]⟩, ⟨.OKAY, 77, 1, []⟩])).2.trace)) = ([(1, q)], []) ∧
    Monitor.run [(1, q)] (ofXfers (exchanged (clse demoTxn (demoWorld [⟨.CLSE, 77, 1, []⟩])).2.trace))
      = ([(1, { q with hostClosed := true, devClosed := true, done := true })], []) ∧
    Monitor.run [(1, q)] (ofXfers (exchanged (readUntilClose demoTxn
        (demoWorld [⟨.WRTE, 77, 1, [104]⟩, ⟨.OKAY, 77, 1, []⟩, ⟨.WRTE, 0, 1, [105]⟩, ⟨.CLSE, 77, 1, []⟩])).2.trace))
      = ([(1, { q with hostClosed := true, devClosed := true, done := true })], []) := by
  refine ⟨⟨rfl, rfl, rfl, rfl⟩, by decide, rfl, rfl, by decide +kernel, by decide +kernel, by decide +kernel, by decide +kernel⟩

open Push in
/-- `_push` of one 20-byte file with maxdata 32 (three buffer flushes and the status flush) on the open
    stream (1, 7): hypotheses of `C04_monitor_push`; and a whole `push` of a file (`C04_monitor_push_api`,
    `C04_monitor_push_file`) -/
example :
    let q : St := { remote := some 7 }
    lockTransport ∉ w32.locks ∧ exT.localId = some 1 ∧ exT.remoteId = some 7 ∧
    isOk (pushOne (List.replicate 20 9) [47, 120] 33188 0 .raise exT (exFi 32) w32).1 = true ∧
    Monitor.run [(1, q)] (ofXfers (exchanged (pushOne (List.replicate 20 9) [47, 120] 33188 0 .raise exT (exFi 32) w32).2.trace))
      = ([(1, q)], []) ∧
    wFile.locks = [] ∧ wFile.localId + pushBound (.file 5) wFile.dirs < 4294967296 ∧
    isOk (devPush (.file 5) [47, 120] 33188 0 .count (some 10) (some 10) wFile).1 = true ∧
    Monitor.check (ofXfers (exchanged (devPush (.file 5) [47, 120] 33188 0 .count (some 10) (some 10) wFile).2.trace)) = [] := by
  refine ⟨by decide, rfl, rfl, by decide +kernel⟩

open SR in
/-- hypotheses of `C04_monitor_pull_progress` in `wPullCb` -/
example : wPullCb.locks = [] ∧ wPullCb.localId + 2 < 4294967296 ∧
    (devPull sxPath .raise (some 10) (some 10) wPullCb).1.toOption = some Val.none ∧
    (devPull sxPath .raise (some 10) (some 10) wPullCb).2.localId = 2 := by
  refine ⟨rfl, by decide, by decide +kernel⟩

/-- a complete `shell` call in `demoShellWorld` (foreign traffic interleaved) is accepted -/
example : demoShellWorld.locks = [] ∧
    Monitor.check (ofXfers (exchanged (service (ascii "shell") [108, 115] none (some 10240) none false demoShellWorld).2.trace)) = [] := by
  refine ⟨rfl, by decide +kernel⟩

open SR in
/-- a history of two calls on one connection — `stat` (stream 1) and then `shell` (stream 2): the
    hypotheses of `C04_monitor_history` hold, both calls return normally, the conversation is accepted -/
example :
    let w0 := sxWorld (okFor 7 1 ++ okFor 7 1 ++ wrteFor 7 1 sxStatRec ++ clseFor 7 1 ++ okFor 9 2 ++ wrteFor 9 2 [104, 105] ++ clseFor 9 2)
    let ops := [ApiOp.stat sxPath (some 10) (some 10), ApiOp.shell [108, 115] (some 10) (some 10) none false]
    w0.locks = [] ∧ w0.trace = [] ∧ w0.localId + historyBound ops w0.dirs < 4294967296 ∧
    ((runHistory ops w0).1.map Except.toOption) = [some (.stat 33188 1234 1700000000), some (.bytes [104, 105])] ∧
    (∀ p ∈ delivered (runHistory ops w0).2.trace, p.arg1 ≠ 0) ∧
    Monitor.check (ofXfers (exchanged (runHistory ops w0).2.trace)) = [] := by
  refine ⟨rfl, rfl, by decide, by decide +kernel⟩

/-- The hypothesis on the device is needed: a device that answers with the legacy zero local id gets its
    WRTE delivered and acknowledged by the library (`allow_zeros`), and the monitor — which looks device
    packets up by arg1 — reports that acknowledgement as spurious. -/
example :
    (service (ascii "shell") [108, 115] none (some 10240) none false
        (demoWorld [⟨.OKAY, 77, 1, []⟩, ⟨.WRTE, 77, 0, [104]⟩, ⟨.CLSE, 77, 1, []⟩])).1.toOption = some (.bytes [104]) ∧
    Monitor.check (ofXfers (exchanged (service (ascii "shell") [108, 115] none (some 10240) none false
        (demoWorld [⟨.OKAY, 77, 1, []⟩, ⟨.WRTE, 77, 0, [104]⟩, ⟨.CLSE, 77, 1, []⟩])).2.trace)) = [.spuriousOkay] := by
  decide +kernel

end Adb
